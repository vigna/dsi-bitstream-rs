/-
  The generated `len_*` definitions (lean/Dsi/Gen/LenFormulas.lean, produced by
  tools/translate_len.py from the Rust bodies of src/codes/*.rs on every run) are equal, on their
  domain, to the hand-written model functions of Dsi/Codes.lean / Dsi/Defaults.lean that every
  other theorem of C06 / C20 is stated about.

  A change to one of these Rust bodies changes the generated text and breaks the corresponding
  theorem below.  Domain hypotheses: `n < 2 ^ 64 - 1` where the Rust computes `n + 1` on a u64 and
  then shifts by a quantity derived from `ilog2 (n + 1)`; `value < 2 ^ 64` for the bounded loop.
-/
import Dsi.Defaults
import Dsi.Gen.LenFormulas
import Dsi.Lemmas.CodesAOmega
import Dsi.Props.CodeBodiesGen
namespace Dsi
namespace LenGen
open Gen

/-- the shift amount of ζ: `(ilog2 m / k) * k ≤ 63` for a u64 `m`. -/
theorem hk_lt_64 {m : Nat} (k : Nat) (h : m < 2 ^ 64) : m.log2 / k * k < 64 :=
  Nat.lt_of_le_of_lt (Nat.div_mul_le_self _ _) (log2_lt_64 h)

theorem len_gamma_param_eq (t : Bool) (n : Nat) : Gen.len_gamma_param t n = lenGammaP t n := by
  cases t
  · simp [Gen.len_gamma_param, lenGammaP, opt, lenGamma, lenGammaDefault]
  · simp only [Gen.len_gamma_param, lenGammaP, opt, lenGamma, lenGammaDefault, if_true]
    cases Gamma.LEN[n]? <;> rfl

theorem len_gamma_param_true (n : Nat) : Gen.len_gamma_param true n = lenGamma (some Gamma.LEN) n :=
  len_gamma_param_eq true n

theorem len_gamma_param_false (n : Nat) : Gen.len_gamma_param false n = lenGammaDefault n := by
  rw [len_gamma_param_eq]; rfl

theorem len_gamma_eq (n : Nat) : Gen.len_gamma n = lenGammaD n := by
  simp only [Gen.len_gamma, len_gamma_param_eq]; rfl

theorem len_delta_param_eq (td tg : Bool) (n : Nat) : Gen.len_delta_param td tg n = lenDeltaP td tg n := by
  cases td
  · simp [Gen.len_delta_param, lenDeltaP, lenDelta, opt, len_gamma_param_eq, lenGammaP]
  · simp only [Gen.len_delta_param, lenDeltaP, lenDelta, opt, len_gamma_param_eq, lenGammaP, if_true]
    cases Delta.LEN[n]? <;> rfl

theorem len_delta_eq (n : Nat) : Gen.len_delta n = lenDeltaD n := by
  simp only [Gen.len_delta, len_delta_param_eq]; rfl

theorem len_minimal_binary_eq (n max : Nat) : Gen.len_minimal_binary n max = lenMinimalBinary n max := by
  simp only [Gen.len_minimal_binary, lenMinimalBinary, CodeBodiesGen.limit_eq]

-- the left side is the table-miss arm of the generated `len_zeta_param`, `let`s included, so that
-- after `simp only at hd` (which inlines them) it rewrites inside the unfolded body
theorem len_zeta_default_eq {n : Nat} (k : Nat) (hn : n < 2 ^ 64 - 1) :
    (let n := n + 1
     let h := n.log2 / k
     let l := (1 <<< (h * k)) % 2 ^ 64
     h + 1 + Gen.len_minimal_binary (n - l) (((l <<< k) % 2 ^ 64 + 2 ^ 64 - l) % 2 ^ 64))
    = lenZetaDefault n k := by
  have hm : n + 1 < 2 ^ 64 := by omega
  simp only [CodeBodiesGen.one_shl_mod (hk_lt_64 k hm), CodeBodiesGen.zetaU_shift,
    len_minimal_binary_eq, lenZetaDefault]

theorem len_zeta_param_eq (t : Bool) {n : Nat} (k : Nat) (hn : n < 2 ^ 64 - 1) :
    Gen.len_zeta_param t n k = lenZetaP t n k := by
  have hd := len_zeta_default_eq k hn
  simp only at hd
  cases t
  · simp only [Gen.len_zeta_param, lenZetaP, opt, lenZeta, Bool.false_eq_true, if_false, hd]
  · simp only [Gen.len_zeta_param, lenZetaP, opt, lenZeta, if_true]
    by_cases hk : k = Zeta.K
    · simp only [hk, if_true] at hd ⊢
      cases Zeta.LEN[n]? <;> simp only [hd]
    · simp only [hk, if_false, hd]

theorem len_zeta_param_true {n : Nat} (k : Nat) (hn : n < 2 ^ 64 - 1) :
    Gen.len_zeta_param true n k = lenZeta (some (Zeta.LEN, Zeta.K)) n k :=
  len_zeta_param_eq true k hn

theorem len_zeta_param_false {n : Nat} (k : Nat) (hn : n < 2 ^ 64 - 1) :
    Gen.len_zeta_param false n k = lenZetaDefault n k := by
  rw [len_zeta_param_eq false k hn]; rfl

theorem len_zeta_eq {n : Nat} (k : Nat) (hn : n < 2 ^ 64 - 1) : Gen.len_zeta n k = lenZetaD n k := by
  simp only [Gen.len_zeta, len_zeta_param_eq true k hn]; rfl

/-- With enough fuel for the iterated logarithm to reach `≤ 1` the generated recursion (0 when
    out of fuel) and the model's (1 when out of fuel) agree. -/
theorem recursive_len_fuel_eq : ∀ (f m : Nat), omegaDone f m → ∀ fuel, f < fuel →
    Gen.recursive_len_fuel fuel m = omegaLenRec fuel m
  | 0, m, h, fuel + 1, _ => by
    have h : m ≤ 1 := h
    rw [Gen.recursive_len_fuel, omegaLenRec, if_pos h, if_pos h]
  | f + 1, m, h, fuel + 1, hf => by
    rw [Gen.recursive_len_fuel, omegaLenRec]
    by_cases c : m ≤ 1
    · rw [if_pos c, if_pos c]
    · simp only [if_neg c]
      rw [recursive_len_fuel_eq f m.log2 (h.resolve_left c) fuel (Nat.lt_of_succ_lt_succ hf)]

theorem len_omega_eq {n : Nat} (hn : n < 2 ^ 64 - 1) : Gen.len_omega n = lenOmega n :=
  recursive_len_fuel_eq 4 (n + 1) (omegaDone_of_lt (by omega) 0) 8 (by decide)

theorem len_rice_eq (n k : Nat) : Gen.len_rice n k = lenRice n k := by
  simp only [Gen.len_rice, lenRice, Nat.shiftRight_eq_div_pow]

theorem len_pi_eq (n k : Nat) : Gen.len_pi n k = lenPi n k := by
  simp only [Gen.len_pi, lenPi, len_rice_eq]

theorem len_golomb_eq (n b : Nat) : Gen.len_golomb n b = lenGolomb n b := by
  simp only [Gen.len_golomb, lenGolomb, len_minimal_binary_eq]

theorem len_exp_golomb_eq (n k : Nat) : Gen.len_exp_golomb n k = lenExpGolombD n k := by
  simp only [Gen.len_exp_golomb, lenExpGolombD, lenExpGolomb, len_gamma_eq, Nat.shiftRight_eq_div_pow]
  rfl

/-- With enough fuel for the size of `value` the generated loop (0 when out of fuel) and the
    model's (`len` when out of fuel) agree. -/
theorem byte_len_vbyte_loop_eq : ∀ (fuel value len : Nat), value / 128 < 128 ^ fuel →
    Gen.byte_len_vbyte_loop (fuel + 1) value len = vbyteByteLenLoop (fuel + 1) value len := by
  intro fuel
  induction fuel with
  | zero =>
    intro value len h
    simp only [Gen.byte_len_vbyte_loop, vbyteByteLenLoop, Nat.shiftRight_eq_div_pow,
      Nat.reducePow, Nat.lt_one_iff.mp h, if_true]
  | succ f ih =>
    intro value len h
    rw [Gen.byte_len_vbyte_loop, vbyteByteLenLoop]
    simp only [Nat.shiftRight_eq_div_pow, Nat.reducePow]
    by_cases hz : value / 128 = 0
    · simp only [hz, if_true]
    · simp only [hz, if_false]
      exact ih _ _ (by rw [Nat.pow_succ] at h; omega)

theorem byte_len_vbyte_eq {v : Nat} (hv : v < 2 ^ 64) : Gen.byte_len_vbyte v = byteLenVByte v :=
  byte_len_vbyte_loop_eq 9 v 1 (by omega)

theorem bit_len_vbyte_eq {v : Nat} (hv : v < 2 ^ 64) : Gen.bit_len_vbyte v = bitLenVByte v := by
  simp only [Gen.bit_len_vbyte, bitLenVByte, byte_len_vbyte_eq hv]

end LenGen
end Dsi
