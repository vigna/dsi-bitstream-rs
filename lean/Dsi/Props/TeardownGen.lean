/-
  The teardown paths as TRANSLATED from the Rust bodies on every run
  (lean/Dsi/Gen/TeardownBodies.lean, produced statement by statement by tools/translate_teardown.py
  from src/impls/buf_bit_writer.rs, buf_bit_reader.rs, mem_word_writer.rs, mem_word_reader.rs and
  src/utils/count.rs) are EQUAL to the named hand models of lean/Dsi/Impl/Teardown.lean, which the
  session interpreter uses for its `wdrop` / `winto` operations:

  * `impl Drop for BufBitWriter`  = `BufW.dropW e`   (flush, an error is a panic);
  * `BufBitWriter::into_inner`    = `BufW.intoInner e` (flush, then the backend; a failing flush ends
    in the panic of the `Drop` that runs on the error path);
  * `BufBitReader::into_inner`, `CountBitWriter/Reader::into_inner`, `MemWordWriterSlice/Vec::into_inner`,
    `MemWordReader::into_inner` take the backend field out and do nothing else.

  No hypothesis is needed.  Modelling assumption (stated at `Res.tryDropping`): the `Drop` that runs
  when `self.flush()?` fails inside `into_inner` is evaluated on the state before the failed call.
-/
import Dsi.Gen.TeardownBodies
import Dsi.Props.BufWriterGen
import Dsi.Session
namespace Dsi
namespace TeardownGen
set_option linter.unusedSimpArgs false
variable {W : Nat}

/-- the `BitWrite<E>::flush` that `into_inner` calls is the hand model's `flush` -/
theorem flush_eq (e : Endian) (s : BufW W) :
    Gen.Teardown.BufBitWriter.flush e s = (BufW.impl e).flush s := by
  cases e
  · exact GenBufW.flush_be_eq s
  · exact GenBufW.flush_le_eq s

theorem drop_eq (e : Endian) (s : BufW W) :
    Gen.Teardown.BufBitWriter.drop e s = BufW.dropW e s := by
  unfold Gen.Teardown.BufBitWriter.drop BufW.dropW WImpl.dropW
  -- an empty buffer (`space = W`: the flush does nothing) apart; the translated body does not test it
  by_cases h : s.space = W
  · cases e <;>
      simp [GenBufW.flush_be_eq, GenBufW.flush_le_eq, BufW.impl, BufW.flush, h, Res.bind, Res.unwrapR]
  · cases e <;>
      simp only [GenBufW.flush_be_eq, GenBufW.flush_le_eq, BufW.impl, h, ne_eq, not_false_eq_true,
        not_true_eq_false, eq_self, reduceCtorEq, ↓reduceIte] <;>
      cases BufW.flush _ s <;> rfl

theorem into_inner_eq (e : Endian) (s : BufW W) :
    Gen.Teardown.BufBitWriter.into_inner e s = BufW.intoInner e s := by
  unfold Gen.Teardown.BufBitWriter.into_inner BufW.intoInner WImpl.intoInnerW
  simp only [drop_eq, flush_eq, BufW.dropW, WImpl.dropW]
  cases (BufW.impl e).flush s <;> rfl

theorem into_inner_ok (e : Endian) (s s' : BufW W) (k : Nat) (h : BufW.flush e s = .ok (k, s')) :
    BufW.intoInner e s = .ok s'.backend := by
  simp only [BufW.intoInner, WImpl.intoInnerW, BufW.impl, h, Res.map]

/-- a failing flush makes `into_inner` panic (the `Drop` on the error path), never return `Err` -/
theorem into_inner_err (e : Endian) (s : BufW W) (er : Err) (h : BufW.flush e s = .err er) :
    BufW.intoInner e s = .panic := by
  simp only [BufW.intoInner, WImpl.intoInnerW, BufW.impl, h, Res.map]

/-- `Drop` of a writer with an empty buffer (`space = W`, as after a `flush`) changes nothing -/
theorem drop_flushed (e : Endian) (s : BufW W) (h : s.space = W) : BufW.dropW e s = .ok s := by
  simp only [BufW.dropW, WImpl.dropW, BufW.impl, BufW.flush, h, Nat.sub_self, ne_eq, not_true_eq_false,
    ↓reduceIte]

/-- what `sessStep` does on the two teardown operations; evaluating its match on the operation
    name is the dear step, done once here -/
theorem sessStep_wdrop {ω ρ : Type} (M : Mach ω ρ) (s : Sess ω ρ) :
    sessStep M s ["wdrop"] =
      (match M.wi.dropW s.w with
       | .ok w' => (bytesHex (M.dump w'), some { s with w := M.newWriter })
       | r => (showRes (fun _ => "") r, none)) := rfl

theorem sessStep_winto {ω ρ : Type} (M : Mach ω ρ) (s : Sess ω ρ) :
    sessStep M s ["winto"] =
      (match M.wi.intoInnerW s.w with
       | .ok w' => (bytesHex (M.dump w'), some { s with w := M.newWriter })
       | r => (showRes (fun _ => "") r, none)) := rfl

/-- `wdrop` in terms of `flush`: a flush error prints the panic `P` -/
theorem sess_wdrop {ω ρ : Type} (M : Mach ω ρ) (s : Sess ω ρ) :
    sessStep M s ["wdrop"] =
      (match M.wi.flush s.w with
       | .ok (_, w') => (bytesHex (M.dump w'), some { s with w := M.newWriter })
       | .err _ => ("P", none)
       | r => (showRes (fun _ => "") r, none)) := by
  rw [sessStep_wdrop, WImpl.dropW]
  cases M.wi.flush s.w <;> rfl

/-- `winto` in terms of `flush`: the same -/
theorem sess_winto {ω ρ : Type} (M : Mach ω ρ) (s : Sess ω ρ) :
    sessStep M s ["winto"] =
      (match M.wi.flush s.w with
       | .ok (_, w') => (bytesHex (M.dump w'), some { s with w := M.newWriter })
       | .err _ => ("P", none)
       | r => (showRes (fun _ => "") r, none)) := by
  rw [sessStep_winto, WImpl.intoInnerW]
  cases M.wi.flush s.w <;> rfl

/-- on the L3 machine `winto` prints an image exactly when the translated `into_inner` succeeds,
    and its outcome otherwise; the image is the dump of the hand model's flushed writer (a function of
    its backend alone, `dump_of_backend`) -/
theorem sess_winto_gen (e : Endian) (ww rw : Nat) (bitReader strict checks : Bool) (cap : Option Nat)
    (sc : Bool) (ioChunk : Nat) (s : Sess (BufW ww) (RState rw)) :
    let M := machL3 e ww rw bitReader strict checks cap sc ioChunk
    (sessStep M s ["winto"]).1 =
      (match Gen.Teardown.BufBitWriter.into_inner e s.w, M.wi.intoInnerW s.w with
       | .ok _, .ok w' => bytesHex (M.dump w')
       | r, _ => showRes (fun _ => "") r) := by
  intro M
  rw [into_inner_eq, sessStep_winto, BufW.intoInner, show M.wi = BufW.impl e from rfl]
  cases (BufW.impl e).intoInnerW s.w with
  | err er => cases er <;> rfl
  | _ => rfl

/-- the image a session dumps is a function of the backend alone (the bit buffer and the space
    counter of the writer are not looked at) -/
theorem dump_of_backend (e : Endian) (ww rw : Nat) (bitReader strict checks : Bool) (cap : Option Nat)
    (sc : Bool) (ioChunk : Nat) (w : BufW ww) :
    (machL3 e ww rw bitReader strict checks cap sc ioChunk).dump w =
      (let bs := w.backend.out.flatMap (BufW.wordBytes e)
       match cap with
       | some c => bs ++ List.replicate ((c - w.backend.out.length) * (ww / 8)) 0
       | none => bs) := rfl

theorem bufr_into_inner_eq (s : BufR W) : Gen.Teardown.BufBitReader.into_inner s = BufR.intoInner s := rfl

theorem countw_into_inner_eq {ω : Type} (s : CountW ω) :
    Gen.Teardown.CountBitWriter.into_inner s = CountW.intoInner s := rfl

theorem countr_into_inner_eq {ρ : Type} (s : CountR ρ) :
    Gen.Teardown.CountBitReader.into_inner s = CountR.intoInner s := rfl

theorem memw_slice_into_inner_eq (s : MemW W) :
    Gen.Teardown.MemWordWriterSlice.into_inner s = MemW.intoInner s := rfl

theorem memw_vec_into_inner_eq (s : MemW W) :
    Gen.Teardown.MemWordWriterVec.into_inner s = MemW.intoInner s := rfl

theorem memr_into_inner_eq (s : MemR W) :
    Gen.Teardown.MemWordReader.into_inner s = MemR.intoInner s := rfl

end TeardownGen
end Dsi
