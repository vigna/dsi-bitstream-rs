/-
  The contract of `BitRead::read_bits` ("the value returned for `n` bits is below `2^n`",
  `ReadBitsBounded` of CodeBodiesGen.lean) for the concrete readers, so that `Guarded.sound` applies
  to them without a hypothesis on the implementation:

  * `BitR.impl e` (the unbuffered `BitReader`): unconditional, both endiannesses;
  * `BufR.impl .be` (`BufBitReader<BE, _>`): unconditional, every word width `W` (also `W = 0` and
    `W > 64`: the bound does not depend on the refinement to the reference);
  * `BufR.impl .le`: on the states whose buffer holds nothing above `bits_in_buffer`
    (`BufR.Clean .le`, the second conjunct of `BufR.Rel .le`); the slow path ORs the buffer into the
    result, so the bound fails on a dirty buffer (`readBitsLE_dirty`).  The invariant is preserved by
    *every* operation of the implementation, for every argument (no `PeekBounded` side condition);
  * `CountR.impl ri` (the counting wrapper) inherits the contract (and the invariant) from `ri`.

  `ReadBitsBoundedOn Inv I` is the contract restricted to the states of an invariant, `Preserves`
  says every operation keeps the invariant, `Guarded.soundOn` is `Guarded.sound` for them (both state
  the disjunction that the corollaries abbreviate as `AgreeOffPanic`).
  `BufR.BInv e` is the invariant used for both endiannesses (`True` for BE, `Clean .le` for LE); it
  follows from `BufR.Clean e`, hence from `BufR.Rel e s r`, and holds for `BufR.new`.

  Corollaries (`*_bufR`, `*_bitR`, and the generic `guarded_*`):
  every `Guarded hand gen` equality of CodeBodiesGen / OmegaGen / VByteGen read as "on the concrete
  reader the hand-written code reader panics, debug-panics, or runs exactly like the program
  generated from the Rust body".
-/
import Dsi.Props.CodeBodiesGen
import Dsi.Props.OmegaGen
import Dsi.Props.VByteGen
import Dsi.Props.Reader
import Dsi.Props.BitReader
import Dsi.Glue.Wrappers
namespace Dsi
namespace Bounded
open CodeBodiesGen

def ReadBitsBoundedOn {σ : Type} (Inv : σ → Prop) (I : RImpl σ) : Prop :=
  ∀ s n v s', Inv s → I.readBits s n = .ok (v, s') → v < 2 ^ n

/-- a failed peek leaves the state as is. -/
structure Preserves {σ : Type} (Inv : σ → Prop) (I : RImpl σ) : Prop where
  readBits : ∀ s n v s', Inv s → I.readBits s n = .ok (v, s') → Inv s'
  readUnary : ∀ s v s', Inv s → I.readUnary s = .ok (v, s') → Inv s'
  peekBits : ∀ s n v s', Inv s → I.peekBits s n = .ok (v, s') → Inv s'
  skipAfterPeek : ∀ s n, Inv s → Inv (I.skipAfterPeek s n)
  skipBits : ∀ s n s', Inv s → I.skipBits s n = .ok s' → Inv s'

theorem boundedOn_of_bounded {σ : Type} {I : RImpl σ} (h : ReadBitsBounded I) (Inv : σ → Prop) :
    ReadBitsBoundedOn Inv I := fun s n v s' _ hr => h s n v s' hr

theorem bounded_of_boundedOn_true {σ : Type} {I : RImpl σ} (h : ReadBitsBoundedOn (fun _ => True) I) :
    ReadBitsBounded I := fun s n v s' hr => h s n v s' trivial hr

theorem preserves_true {σ : Type} (I : RImpl σ) : Preserves (fun _ => True) I :=
  ⟨fun _ _ _ _ _ _ => trivial, fun _ _ _ _ _ => trivial, fun _ _ _ _ _ _ => trivial,
   fun _ _ _ => trivial, fun _ _ _ _ _ => trivial⟩

def AgreeOffPanic {σ α : Type} (I : RImpl σ) (hand gen : RProg α) (s : σ) : Prop :=
  hand.run I s = .panic ∨ hand.run I s = .dpanic ∨ hand.run I s = gen.run I s

private theorem agree_bind {β γ : Type} {x : Res β} {f g : β → Res γ}
    (h : ∀ b, x = .ok b → f b = .panic ∨ f b = .dpanic ∨ f b = g b) :
    x.bind f = .panic ∨ x.bind f = .dpanic ∨ x.bind f = x.bind g := by
  cases x with
  | ok b => exact h b rfl
  | err e => exact .inr (.inr rfl)
  | panic => exact .inl rfl
  | dpanic => exact .inr (.inl rfl)

theorem Guarded.soundOn {σ α : Type} (I : RImpl σ) (Inv : σ → Prop) (hI : ReadBitsBoundedOn Inv I)
    (hP : Preserves Inv I) {hand gen : RProg α} (h : Guarded hand gen) :
    ∀ s, Inv s → hand.run I s = .panic ∨ hand.run I s = .dpanic ∨ hand.run I s = gen.run I s := by
  induction h with
  | refl p => intro s _; exact Or.inr (Or.inr rfl)
  | panic g => intro s _; exact Or.inl rfl
  | dpanic g => intro s _; exact Or.inr (Or.inl rfl)
  | readBits n _ ih =>
    intro s hs
    rw [RProg.run_readBits, RProg.run_readBits]
    exact agree_bind fun p hr => ih p.1 (hI s n p.1 p.2 hs hr) p.2 (hP.readBits s n p.1 p.2 hs hr)
  | readUnary _ ih =>
    intro s hs
    rw [RProg.run_readUnary, RProg.run_readUnary]
    exact agree_bind fun p hr => ih p.1 p.2 (hP.readUnary s p.1 p.2 hs hr)
  | peek n _ ih =>
    intro s hs
    simp only [RProg.run]
    cases hr : I.peekBits s n with
    | ok p => exact ih (.ok p.1) p.2 (hP.peekBits s n p.1 p.2 hs hr)
    | err e => exact ih (.error e) s hs
    | panic => exact Or.inl rfl
    | dpanic => exact Or.inr (Or.inl rfl)
  | skipAfterPeek n _ ih => intro s hs; exact ih _ (hP.skipAfterPeek s n hs)
  | skip n _ ih =>
    intro s hs
    rw [RProg.run_skip, RProg.run_skip]
    exact agree_bind fun s' hr => ih s' (hP.skipBits s n s' hs hr)

theorem run_preserves {σ α : Type} (I : RImpl σ) (Inv : σ → Prop) (hP : Preserves Inv I)
    (p : RProg α) : ∀ s a s', Inv s → p.run I s = .ok (a, s') → Inv s' := fun _ _ _ hs h =>
  RProg.run_steps (T := fun s s' => Inv s → Inv s')
    ⟨fun _ h => h, fun h1 h2 h => h2 (h1 h), fun ho h => hP.readBits _ _ _ _ h ho,
      fun _ ho h => hP.peekBits _ _ _ _ h ho, hP.skipAfterPeek, fun ho h => hP.skipBits _ _ _ h ho,
      fun ho h => hP.readUnary _ _ _ h ho⟩
    p (RProg.Peeks.any p) h hs

theorem lt_pow_of_le {x a b : Nat} (hx : x < 2 ^ a) (h : a ≤ b) : x < 2 ^ b :=
  Nat.lt_of_lt_of_le hx (Nat.pow_le_pow_right (by decide) h)

theorem shr_lt {w : Nat} (x : BitVec w) (k : Nat) {a : Nat} (hx : x.toNat < 2 ^ a) :
    (x >>> k).toNat < 2 ^ (a - k) := by
  rw [BitVec.toNat_ushiftRight, Nat.shiftRight_eq_div_pow]
  by_cases h : k ≤ a
  · apply Nat.div_lt_of_lt_mul
    rw [← Nat.pow_add, Nat.add_sub_cancel' h]
    exact hx
  · rw [Nat.div_eq_of_lt (lt_pow_of_le hx (by omega))]
    exact Nat.two_pow_pos _

theorem shl_lt {w : Nat} (x : BitVec w) (k : Nat) {a : Nat} (hx : x.toNat < 2 ^ a) :
    (x <<< k).toNat < 2 ^ (a + k) := by
  rw [BitVec.toNat_shiftLeft, Nat.shiftLeft_eq, Nat.pow_add]
  exact Nat.lt_of_le_of_lt (Nat.mod_le _ _)
    (Nat.mul_lt_mul_of_lt_of_le hx (Nat.le_refl _) (Nat.two_pow_pos _))

theorem or_lt {w : Nat} (x y : BitVec w) {a : Nat} (hx : x.toNat < 2 ^ a) (hy : y.toNat < 2 ^ a) :
    (x ||| y).toNat < 2 ^ a := by
  rw [BitVec.toNat_or]; exact Nat.or_lt_two_pow hx hy

theorem setWidth_lt {w : Nat} (x : BitVec w) (m : Nat) {a : Nat} (hx : x.toNat < 2 ^ a) :
    (x.setWidth m).toNat < 2 ^ a := by
  rw [BitVec.toNat_setWidth]; exact Nat.lt_of_le_of_lt (Nat.mod_le _ _) hx

section LE
open BufR
variable {W : Nat}

theorem word_lt (w : BitVec W) (m : Nat) : (w.setWidth m).toNat < 2 ^ W := setWidth_lt w m w.isLt

theorem readBitsLE_inv {s s' : BufR W} {n v : Nat} (hc : s.buffer.toNat < 2 ^ s.bib)
    (h : readBitsLE s n = .ok (v, s')) : v < 2 ^ n ∧ s'.buffer.toNat < 2 ^ s'.bib := by
  unfold readBitsLE at h
  split at h
  · cases h
  · rename_i hn64
    split at h
    · cases h
      refine ⟨?_, ?_⟩
      · apply setWidth_lt
        by_cases hn : n < 2 * W
        · apply Nat.lt_pow_two_of_testBit
          intro i hi
          have := getLsbD_mask hn i
          -- the goal is about `toNat.testBit`; folded back into `getLsbD`, bit `i ≥ n` of the mask is `false`
          rw [← BitVec.getLsbD, BitVec.getLsbD_and, this]
          simp; omega
        · rw [BitVec.toNat_and]
          exact Nat.lt_of_le_of_lt Nat.and_le_left (lt_pow_of_le s.buffer.isLt (by omega))
      · exact shr_lt _ n hc
    · rename_i hnb
      dsimp only at h
      split at h
      · rename_i res b back hw
        have hl := readWordsLE_rule (n := n) (fun res b _ => res.toNat < 2 ^ b ∧ b ≤ n) True
          (fun res b m ⟨hres, hb⟩ hgt _ => ⟨or_lt _ _ (lt_pow_of_le hres (by omega))
            (lt_pow_of_le (shl_lt _ b (word_lt _ 64)) (by omega)), by omega⟩)
          (fun _ _ _ _ _ _ _ => trivial) 64 s.back (s.buffer.setWidth 64) s.bib
          ⟨setWidth_lt _ 64 hc, by omega⟩
        rw [hw] at hl
        obtain ⟨⟨hres, hb⟩, _⟩ := hl
        split at h
        · rename_i w back1 _
          cases h
          refine ⟨?_, ?_⟩
          · refine or_lt _ _ (lt_pow_of_le hres hb) ?_
            have h1 : ((w.setWidth 64 <<< (64 - (n - b))) >>> (64 - (n - b))).toNat < 2 ^ (64 - (64 - (n - b))) :=
              shr_lt _ _ (BitVec.isLt _)
            exact lt_pow_of_le (shl_lt _ b h1) (by omega)
          · exact shr_lt _ (n - b) (word_lt w (2 * W))
        all_goals cases h
      all_goals cases h

theorem refillLE_inv {s s' : BufR W} (hc : s.buffer.toNat < 2 ^ s.bib)
    (h : refillLE s = .ok s') : s'.buffer.toNat < 2 ^ s'.bib := by
  unfold refillLE at h
  split at h
  · cases h
  · split at h
    · rename_i w back _
      cases h
      show _ < 2 ^ (s.bib + W)
      exact or_lt _ _ (lt_pow_of_le hc (Nat.le_add_right _ _))
        (lt_pow_of_le (shl_lt _ s.bib (word_lt w (2 * W))) (by omega))
    all_goals cases h

theorem peekBitsLE_inv {s s' : BufR W} {n v : Nat} (hc : s.buffer.toNat < 2 ^ s.bib)
    (h : peekBitsLE s n = .ok (v, s')) : s'.buffer.toNat < 2 ^ s'.bib := by
  unfold peekBitsLE at h
  split at h
  · cases h
  · dsimp only at h
    split at h
    · rename_i s1 hr
      split at h
      · cases h
      · cases h
        split at hr
        · exact refillLE_inv hc hr
        · cases hr; exact hc
    all_goals cases h

theorem skipAfterPeekLE_inv (s : BufR W) (n : Nat) (hc : s.buffer.toNat < 2 ^ s.bib) :
    (skipAfterPeekLE s n).buffer.toNat < 2 ^ (skipAfterPeekLE s n).bib :=
  shr_lt _ n hc

theorem unaryWordsLE_inv (fuel : Nat) : ∀ (back : MemR W) (res v : Nat) (s' : BufR W),
    unaryWordsLE fuel back res = .ok (v, s') → s'.buffer.toNat < 2 ^ s'.bib := by
  induction fuel with
  | zero => intro back res v s' h; simp only [unaryWordsLE] at h; cases h
  | succ fuel ih =>
    intro back res v s' h
    simp only [unaryWordsLE] at h
    split at h
    · rename_i w back1 _
      split at h
      · cases h
        exact shr_lt _ 1 (shr_lt _ (ctz w) (word_lt w (2 * W)))
      · exact ih _ _ _ _ h
    all_goals cases h

theorem readUnaryLE_inv {s s' : BufR W} {v : Nat} (hc : s.buffer.toNat < 2 ^ s.bib)
    (h : readUnaryLE s = .ok (v, s')) : s'.buffer.toNat < 2 ^ s'.bib := by
  unfold readUnaryLE at h
  dsimp only at h
  split at h
  · cases h
    show _ < 2 ^ (s.bib - (ctz s.buffer + 1))
    exact lt_pow_of_le (shr_lt _ 1 (shr_lt _ (ctz s.buffer) hc)) (by omega)
  · exact unaryWordsLE_inv _ _ _ _ _ h

theorem skipBitsLE_inv {s s' : BufR W} {n : Nat} (hc : s.buffer.toNat < 2 ^ s.bib)
    (h : skipBitsLE s n = .ok s') : s'.buffer.toNat < 2 ^ s'.bib := by
  unfold skipBitsLE at h
  split at h
  · cases h; exact shr_lt _ n hc
  · dsimp only at h
    split at h
    · rename_i n1 back _
      split at h
      · rename_i w back1 _
        cases h
        exact shr_lt _ n1 (word_lt w (2 * W))
      all_goals cases h
    all_goals cases h

end LE

section BE
open BufR
variable {W : Nat}

theorem readBitsBE_bounded {s s' : BufR W} {n v : Nat}
    (h : readBitsBE s n = .ok (v, s')) : v < 2 ^ n := by
  unfold readBitsBE at h
  by_cases hn64 : n > 64
  · rw [if_pos hn64] at h; cases h
  rw [if_neg hn64] at h
  by_cases hnb : n ≤ s.bib
  · rw [if_pos hnb] at h
    cases h
    exact setWidth_lt _ _ (lt_pow_of_le (shr_lt _ 1 (shr_lt _ (2 * W - n - 1) s.buffer.isLt)) (by omega))
  rw [if_neg hnb] at h
  dsimp only at h
  have h0 : (BitVec.setWidth 64 ((s.buffer >>> (2 * W - 1 - s.bib)) >>> 1)).toNat
      < 2 ^ (n - (n - s.bib)) :=
    setWidth_lt _ _ (lt_pow_of_le (shr_lt _ 1 (shr_lt _ (2 * W - 1 - s.bib) s.buffer.isLt)) (by omega))
  -- of the `n` bits to deliver, `n'` are still wanted and the others are in `res`
  have hl := readWordsBE_rule (fun res n' _ => res.toNat < 2 ^ (n - n') ∧ 1 ≤ n' ∧ n' ≤ n) True
    (fun res n' m ⟨hres, h1, hT⟩ hgt _ => ⟨or_lt _ _ (lt_pow_of_le (shl_lt _ W hres) (by omega))
      (lt_pow_of_le (word_lt _ 64) (by omega)), by omega, by omega⟩)
    (fun _ _ _ _ _ _ _ => trivial) 64 s.back _ (n - s.bib) ⟨h0, by omega, by omega⟩
  generalize readWordsBE 64 s.back _ (n - s.bib) = x at h hl
  rcases x with ⟨res, n1, back⟩ | _ | _ | _ <;> try cases h
  obtain ⟨⟨hres, h1, hT⟩, _⟩ := hl
  dsimp only at h
  rcases hw : back.readWord with ⟨w, back1⟩ | _ | _ | _ <;> rw [hw] at h <;> cases h
  exact or_lt _ _ (lt_pow_of_le (shl_lt _ 1 (shl_lt _ (n1 - 1) hres)) (by omega))
    (lt_pow_of_le (shr_lt _ (W - n1) (word_lt w 64)) (by omega))

end BE

section Bit

theorem bitR_readBits_bounded {e : Endian} {s s' : BitR} {n v : Nat}
    (h : BitR.readBits e s n = .ok (v, s')) : v < 2 ^ n := by
  unfold BitR.readBits at h
  split at h
  · cases h; exact Nat.two_pow_pos _
  · split at h
    · cases e <;> cases h
    · split at h
      · rename_i x d hx
        cases h
        exact BitRd.extract_lt (by omega) hx
      all_goals cases h

end Bit

section Main
variable {W : Nat}

/-- the invariant the buffered reader needs for the contract: none for BE; for LE the buffer holds
    nothing above `bits_in_buffer` (this is `BufR.Clean .le`) -/
def BInv (e : Endian) (s : BufR W) : Prop :=
  match e with
  | .be => True
  | .le => s.buffer.toNat < 2 ^ s.bib

theorem binv_of_clean {e : Endian} {s : BufR W} (h : s.Clean e) : BInv e s := by
  cases e with
  | be => trivial
  | le => exact h

theorem binv_of_rel {e : Endian} {s : BufR W} {r : RefR} (h : BufR.Rel e s r) : BInv e s :=
  binv_of_clean h.2.1

theorem binv_new (e : Endian) (back : MemR W) : BInv e (BufR.new back) := by
  cases e with
  | be => trivial
  | le => simp [BInv, BufR.new]

/-- `BufBitReader<BE, _>::read_bits` honours the contract on every state, for every word width -/
theorem bufR_be_bounded : ReadBitsBounded (BufR.impl (W := W) .be) :=
  fun _ _ _ _ h => readBitsBE_bounded h

/-- `BufBitReader<LE, _>::read_bits` honours the contract on clean states, for every word width -/
theorem bufR_le_boundedOn : ReadBitsBoundedOn (BufR.Clean .le) (BufR.impl (W := W) .le) :=
  fun _ _ _ _ hc h => (readBitsLE_inv hc h).1

theorem bufR_boundedOn (e : Endian) : ReadBitsBoundedOn (BInv e) (BufR.impl (W := W) e) := by
  cases e with
  | be => exact boundedOn_of_bounded bufR_be_bounded _
  | le => exact fun _ _ _ _ hc h => (readBitsLE_inv hc h).1

theorem bufR_preserves (e : Endian) : Preserves (BInv e) (BufR.impl (W := W) e) := by
  cases e with
  | be => exact preserves_true _
  | le =>
    exact ⟨fun _ _ _ _ hc h => (readBitsLE_inv hc h).2, fun _ _ _ hc h => readUnaryLE_inv hc h,
      fun _ _ _ _ hc h => peekBitsLE_inv hc h, fun s n hc => skipAfterPeekLE_inv s n hc,
      fun _ _ _ hc h => skipBitsLE_inv hc h⟩

theorem setBitPos_binv (e : Endian) {s s' : BufR W} {p : Nat} (h : BufR.setBitPos e s p = .ok s') :
    BInv e s' := by
  cases e with
  | be => trivial
  | le =>
    simp only [BufR.setBitPos, BufR.setBitPosLE] at h
    split at h
    · split at h
      · split at h
        · rename_i w back1 _
          cases h
          exact shr_lt _ _ (word_lt w (2 * W))
        all_goals cases h
      · cases h; simp [BInv]
    all_goals cases h

def dirtyLE : BufR 8 := { buffer := 0xFFFF#16, bib := 0, back := ⟨[0#8], 0, false⟩ }

/-- the invariant is needed for LE: on `dirtyLE`, `read_bits(1)` returns `0xFFFF` -/
theorem readBitsLE_dirty : ¬ ReadBitsBounded (BufR.impl (W := 8) .le) := by
  intro h
  obtain ⟨s', hs⟩ : ∃ s', (BufR.impl .le).readBits dirtyLE 1 = .ok (0xFFFF, s') := ⟨_, rfl⟩
  exact absurd (h _ _ _ _ hs) (by decide)

/-- the unbuffered `BitReader::read_bits` honours the contract on every state -/
theorem bitR_bounded (e : Endian) : ReadBitsBounded (BitR.impl e) :=
  fun _ _ _ _ h => bitR_readBits_bounded h

theorem countR_boundedOn {ρ : Type} {ri : RImpl ρ} {Inv : ρ → Prop} (h : ReadBitsBoundedOn Inv ri) :
    ReadBitsBoundedOn (fun s => Inv s.inner) (CountR.impl ri) := by
  intro s n v s' hs hr
  obtain ⟨⟨v1, i1⟩, hi, hv⟩ := Res.map_eq_ok.1 hr
  cases hv
  exact h _ _ _ _ hs hi

theorem countR_bounded {ρ : Type} {ri : RImpl ρ} (h : ReadBitsBounded ri) :
    ReadBitsBounded (CountR.impl ri) :=
  fun s n v s' hr => countR_boundedOn (boundedOn_of_bounded h (fun _ => True)) s n v s' trivial hr

theorem countR_preserves {ρ : Type} {ri : RImpl ρ} {Inv : ρ → Prop} (h : Preserves Inv ri) :
    Preserves (fun s => Inv s.inner) (CountR.impl ri) := by
  refine ⟨fun s n v s' hs hr => ?_, fun s v s' hs hr => ?_, fun s n v s' hs hr => ?_,
    fun s n hs => h.skipAfterPeek _ _ hs, fun s n s' hs hr => ?_⟩
  · obtain ⟨⟨v1, i1⟩, hi, hv⟩ := Res.map_eq_ok.1 hr
    cases hv
    exact h.readBits _ _ _ _ hs hi
  · obtain ⟨⟨v1, i1⟩, hi, hv⟩ := Res.map_eq_ok.1 hr
    cases hv
    exact h.readUnary _ _ _ hs hi
  · obtain ⟨⟨v1, i1⟩, hi, hv⟩ := Res.map_eq_ok.1 hr
    cases hv
    exact h.peekBits _ _ _ _ hs hi
  · obtain ⟨i1, hi, hv⟩ := Res.map_eq_ok.1 hr
    cases hv
    exact h.skipBits _ _ _ hs hi

end Main

section Corollaries
open Gen
variable {W : Nat}

/-- on `BufBitReader<E, _>` (every word width, every state satisfying `BInv e`, e.g. every state
    related to a reference reader, every state at all for BE) a hand-written reader program panics,
    debug-panics, or runs exactly like the generated program it guards -/
theorem guarded_bufR {α : Type} {hand gen : RProg α} (h : Guarded hand gen) (e : Endian) (s : BufR W)
    (hs : BInv e s) : AgreeOffPanic (BufR.impl e) hand gen s :=
  Guarded.soundOn (BufR.impl e) (BInv e) (bufR_boundedOn e) (bufR_preserves e) h s hs

theorem guarded_bufR_rel {α : Type} {hand gen : RProg α} (h : Guarded hand gen) {e : Endian}
    {s : BufR W} {r : RefR} (hrel : BufR.Rel e s r) : AgreeOffPanic (BufR.impl e) hand gen s :=
  guarded_bufR h e s (binv_of_rel hrel)

theorem guarded_bufR_be {α : Type} {hand gen : RProg α} (h : Guarded hand gen) (s : BufR W) :
    AgreeOffPanic (BufR.impl .be) hand gen s :=
  Guarded.sound (BufR.impl .be) bufR_be_bounded h s

theorem guarded_bitR {α : Type} {hand gen : RProg α} (h : Guarded hand gen) (e : Endian) (s : BitR) :
    AgreeOffPanic (BitR.impl e) hand gen s :=
  Guarded.sound (BitR.impl e) (bitR_bounded e) h s

/-- the same through the counting wrapper -/
theorem guarded_countR {ρ α : Type} {ri : RImpl ρ} {Inv : ρ → Prop} (hB : ReadBitsBoundedOn Inv ri)
    (hP : Preserves Inv ri) {hand gen : RProg α} (h : Guarded hand gen) (s : CountR ρ)
    (hs : Inv s.inner) : AgreeOffPanic (CountR.impl ri) hand gen s :=
  Guarded.soundOn (CountR.impl ri) _ (countR_boundedOn hB) (countR_preserves hP) h s hs

theorem guarded_countR_bufR {α : Type} {hand gen : RProg α} (h : Guarded hand gen) (e : Endian)
    (s : CountR (BufR W)) (hs : BInv e s.inner) :
    AgreeOffPanic (CountR.impl (BufR.impl e)) hand gen s :=
  guarded_countR (bufR_boundedOn e) (bufR_preserves e) h s hs

theorem guarded_countR_bitR {α : Type} {hand gen : RProg α} (h : Guarded hand gen) (e : Endian)
    (s : CountR BitR) : AgreeOffPanic (CountR.impl (BitR.impl e)) hand gen s :=
  Guarded.sound _ (countR_bounded (bitR_bounded e)) h s

theorem run_bufR_binv {α : Type} (p : RProg α) (e : Endian) {s s' : BufR W} {a : α} (hs : BInv e s)
    (h : p.run (BufR.impl e) s = .ok (a, s')) : BInv e s' :=
  run_preserves (BufR.impl e) (BInv e) (bufR_preserves e) p s a s' hs h

theorem read_rice_bufR (k : Nat) (e : Endian) (s : BufR W) (hs : BInv e s) :
    AgreeOffPanic (BufR.impl e) (readRice k) (Gen.read_rice k) s :=
  guarded_bufR (read_rice_guarded k) e s hs

theorem read_rice_bitR (k : Nat) (e : Endian) (s : BitR) :
    AgreeOffPanic (BitR.impl e) (readRice k) (Gen.read_rice k) s :=
  guarded_bitR (read_rice_guarded k) e s

theorem read_pi_bufR (k : Nat) (e : Endian) (s : BufR W) (hs : BInv e s) :
    AgreeOffPanic (BufR.impl e) (readPi k) (Gen.read_pi k) s :=
  guarded_bufR (read_pi_guarded k) e s hs

theorem read_pi_bitR (k : Nat) (e : Endian) (s : BitR) :
    AgreeOffPanic (BitR.impl e) (readPi k) (Gen.read_pi k) s :=
  guarded_bitR (read_pi_guarded k) e s

theorem read_minimal_binary_bufR (max : Nat) (e : Endian) (s : BufR W) (hs : BInv e s) :
    AgreeOffPanic (BufR.impl e) (readMinimalBinary max) (Gen.read_minimal_binary max) s :=
  guarded_bufR (read_minimal_binary_guarded max) e s hs

theorem read_minimal_binary_bitR (max : Nat) (e : Endian) (s : BitR) :
    AgreeOffPanic (BitR.impl e) (readMinimalBinary max) (Gen.read_minimal_binary max) s :=
  guarded_bitR (read_minimal_binary_guarded max) e s

theorem read_golomb_bufR (b : Nat) (e : Endian) (s : BufR W) (hs : BInv e s) :
    AgreeOffPanic (BufR.impl e) (readGolomb b) (Gen.read_golomb b) s :=
  guarded_bufR (read_golomb_guarded b) e s hs

theorem read_golomb_bitR (b : Nat) (e : Endian) (s : BitR) :
    AgreeOffPanic (BitR.impl e) (readGolomb b) (Gen.read_golomb b) s :=
  guarded_bitR (read_golomb_guarded b) e s

theorem read_exp_golomb_bufR (gtab : Option RTab) (k : Nat) (e : Endian) (s : BufR W) (hs : BInv e s) :
    AgreeOffPanic (BufR.impl e) (readExpGolomb gtab k) (Gen.read_exp_golomb (readGamma gtab) k) s :=
  guarded_bufR (read_exp_golomb_guarded gtab k) e s hs

theorem read_exp_golomb_bitR (gtab : Option RTab) (k : Nat) (e : Endian) (s : BitR) :
    AgreeOffPanic (BitR.impl e) (readExpGolomb gtab k) (Gen.read_exp_golomb (readGamma gtab) k) s :=
  guarded_bitR (read_exp_golomb_guarded gtab k) e s

theorem default_read_gamma_bufR (e : Endian) (s : BufR W) (hs : BInv e s) :
    AgreeOffPanic (BufR.impl e) readGammaDefault Gen.default_read_gamma s :=
  guarded_bufR default_read_gamma_guarded e s hs

theorem default_read_gamma_bitR (e : Endian) (s : BitR) :
    AgreeOffPanic (BitR.impl e) readGammaDefault Gen.default_read_gamma s :=
  guarded_bitR default_read_gamma_guarded e s

theorem default_read_delta_bufR (e' : Endian) (tg : Bool) (e : Endian) (s : BufR W) (hs : BInv e s) :
    AgreeOffPanic (BufR.impl e) (readDeltaDefault (opt tg (gammaRTab e'))) (Gen.default_read_delta (fun t => readGammaP e' t) tg) s :=
  guarded_bufR (default_read_delta_guarded e' tg) e s hs

theorem default_read_delta_bitR (e' : Endian) (tg : Bool) (e : Endian) (s : BitR) :
    AgreeOffPanic (BitR.impl e) (readDeltaDefault (opt tg (gammaRTab e'))) (Gen.default_read_delta (fun t => readGammaP e' t) tg) s :=
  guarded_bitR (default_read_delta_guarded e' tg) e s

theorem default_read_zeta_bufR (k : Nat) (e : Endian) (s : BufR W) (hs : BInv e s) :
    AgreeOffPanic (BufR.impl e) (readZetaDefault k) (Gen.default_read_zeta k) s :=
  guarded_bufR (default_read_zeta_guarded k) e s hs

theorem default_read_zeta_bitR (k : Nat) (e : Endian) (s : BitR) :
    AgreeOffPanic (BitR.impl e) (readZetaDefault k) (Gen.default_read_zeta k) s :=
  guarded_bitR (default_read_zeta_guarded k) e s

theorem read_omega_bufR (e' : Endian) (e : Endian) (s : BufR W) (hs : BInv e s) :
    AgreeOffPanic (BufR.impl e) (readOmega e') (Gen.read_omega e') s :=
  guarded_bufR (OmegaGen.read_omega_guarded e') e s hs

theorem read_omega_bitR (e' : Endian) (e : Endian) (s : BitR) :
    AgreeOffPanic (BitR.impl e) (readOmega e') (Gen.read_omega e') s :=
  guarded_bitR (OmegaGen.read_omega_guarded e') e s

theorem read_vbyte_be_bufR (fuel : Nat) (e : Endian) (s : BufR W) (hs : BInv e s) :
    AgreeOffPanic (BufR.impl e) (readVByteBe fuel) (Gen.read_vbyte_be fuel) s :=
  guarded_bufR (VByteGen.read_vbyte_be_guarded fuel) e s hs

theorem read_vbyte_be_bitR (fuel : Nat) (e : Endian) (s : BitR) :
    AgreeOffPanic (BitR.impl e) (readVByteBe fuel) (Gen.read_vbyte_be fuel) s :=
  guarded_bitR (VByteGen.read_vbyte_be_guarded fuel) e s

theorem read_vbyte_le_bufR (fuel : Nat) (e : Endian) (s : BufR W) (hs : BInv e s) :
    AgreeOffPanic (BufR.impl e) (readVByteLe fuel) (Gen.read_vbyte_le fuel) s :=
  guarded_bufR (VByteGen.read_vbyte_le_guarded fuel) e s hs

theorem read_vbyte_le_bitR (fuel : Nat) (e : Endian) (s : BitR) :
    AgreeOffPanic (BitR.impl e) (readVByteLe fuel) (Gen.read_vbyte_le fuel) s :=
  guarded_bitR (VByteGen.read_vbyte_le_guarded fuel) e s

end Corollaries

end Bounded
end Dsi
