/-
  The generated method bodies of `WordAdapter<W, B>` (lean/Dsi/Gen/AdapterBodies.lean, produced by
  tools/translate_adapter.py from src/impls/word_adapter.rs on every run) are the hand model:

  * for EVERY wrapped object `β` and every behaviour of its `std::io` methods (`*_eq`): the body is
    the forwarded call, with the word as its native bytes (`read_word`, `write_word`), the byte
    position divided by the word size rounded up (`word_pos`, hypothesis `0 < BYTES`) and the byte
    position `word_index * BYTES` (`set_word_pos`, hypothesis `word_index * BYTES < 2 ^ 64`: the
    Rust multiplication is a `u64` multiplication, which wraps in a build without overflow checks
    and panics in a build with them);
  * instantiated at the hand model's wrapped objects: `Sink.writeWord`, `Source.readWord`
    (lean/Dsi/Impl/Adapter.lean, the fault schedules) and `AdCursor.readWord / wordPos / setWordPos`
    (lean/Dsi/Impl/AdapterSeek.lean), which is what the driver's `adSeekStep` answers `AD seek` with
    (`ad_*_is_gen`).

  Recorded assumption (lean/Dsi/Impl/AdapterSeek.lean): native byte order is little-endian.
-/
import Dsi.Impl.Adapter
import Dsi.Impl.AdapterSeek
import Dsi.Glue.MiscDriver
import Dsi.Gen.AdapterBodies
import Dsi.Props.C11
import Dsi.Lemmas.Res
namespace Dsi
namespace AdapterGen
open Gen

theorem divCeil_eq (a b : Nat) (hb : 0 < b) : StdIO.divCeil a b = (a + b - 1) / b :=
  (add_sub_one_div a hb).symm

/-- used for `read_word`, whose mapping only changes the message -/
theorem mapErr_id {α : Type} (f : Err → Err) (hf : ∀ e, f e = e) (r : Res α) : StdIO.mapErr f r = r := by
  cases r <;> simp only [StdIO.mapErr, hf]

theorem toNeBytes_length (n w : Nat) : (StdIO.toNeBytes n w).length = n := by
  unfold StdIO.toNeBytes
  induction n generalizing w with
  | zero => rfl
  | succ n ih => simp only [leBytes, List.length_cons, ih]

theorem toNeBytes_lt (n w : Nat) : ∀ b ∈ StdIO.toNeBytes n w, b < 256 := by
  unfold StdIO.toNeBytes
  induction n generalizing w with
  | zero => intro b hb; cases hb
  | succ n ih =>
    intro b hb
    simp only [leBytes, List.mem_cons] at hb
    rcases hb with rfl | hb
    · exact Nat.mod_lt _ (by decide)
    · exact ih _ b hb

theorem fromNeBytes_toNeBytes (n w : Nat) : StdIO.fromNeBytes (StdIO.toNeBytes n w) = w % 256 ^ n := by
  unfold StdIO.fromNeBytes StdIO.toNeBytes
  induction n generalizing w with
  | zero => simp [leBytes, leVal, Nat.mod_one]
  | succ n ih =>
    have h : leVal (leBytes w (n + 1)) = w % 256 + 256 * leVal (leBytes (w / 256) n) := rfl
    rw [h, ih, Nat.pow_succ, Nat.mul_comm (256 ^ n) 256, Nat.mod_mul]

/-- `W::from_ne_bytes(w.to_ne_bytes()) == w` for a word of `n` bytes -/
theorem fromNeBytes_toNeBytes_word (n w : Nat) (h : w < 256 ^ n) :
    StdIO.fromNeBytes (StdIO.toNeBytes n w) = w := by
  rw [fromNeBytes_toNeBytes, Nat.mod_eq_of_lt h]

theorem new_eq {β : Type} (b : β) : Gen.WordAdapter.new b = ({ backend := b } : WordAdapter β) := rfl

theorem into_inner_eq {β : Type} (a : WordAdapter β) : Gen.WordAdapter.into_inner a = a.backend := rfl

theorem into_inner_new {β : Type} (b : β) : Gen.WordAdapter.into_inner (Gen.WordAdapter.new b) = b := rfl

/-- for every wrapped object: `read_word` is `read_exact` into a buffer of `BYTES` bytes; the word
    is the native value of the bytes read, the error is the error of `read_exact` -/
theorem read_word_eq {β : Type} (n : Nat) (re : β → List Nat → Res (List Nat × β)) (a : WordAdapter β) :
    Gen.WordAdapter.read_word n re a =
      Res.map (fun x => (StdIO.fromNeBytes x.1, ({ backend := x.2 } : WordAdapter β)))
        (re a.backend (List.replicate n 0)) := by
  rw [Gen.WordAdapter.read_word, mapErr_id _ (fun e => by cases e <;> rfl)]
  exact Res.bind_eq_map fun _ => rfl

/-- over a byte source with a fault schedule: the hand model `Source.readWord` -/
theorem read_word_source_eq (n : Nat) (src : Source) :
    Gen.WordAdapter.read_word n (fun s buf => s.readWord buf.length) { backend := src } =
      Res.map (fun x => (leVal x.1, ({ backend := x.2 } : WordAdapter Source))) (src.readWord n) := by
  rw [read_word_eq]
  simp only [List.length_replicate]
  rfl

/-- over a cursor: the hand model `AdCursor.readWord` (the driver's `rw`) -/
theorem read_word_cursor_eq (n : Nat) (c : AdCursor) :
    Gen.WordAdapter.read_word n (fun c buf => c.readWord buf.length) { backend := c } =
      Res.map (fun x => (leVal x.1, ({ backend := x.2 } : WordAdapter AdCursor))) (c.readWord n) := by
  rw [read_word_eq]
  simp only [List.length_replicate]
  rfl

/-- for every wrapped object: `write_word` is `write_all` of the native bytes of the word -/
theorem write_word_eq {β : Type} (n : Nat) (wa : β → List Nat → Res β) (a : WordAdapter β) (w : Nat) :
    Gen.WordAdapter.write_word n wa a w =
      Res.map (fun b => ({ backend := b } : WordAdapter β)) (wa a.backend (StdIO.toNeBytes n w)) :=
  Res.bind_eq_map fun _ => rfl

/-- over a byte sink with a fault schedule: the hand model `Sink.writeWord` on the `n` native
    bytes of the word -/
theorem write_word_sink_eq (n : Nat) (s : Sink) (w : Nat) :
    Gen.WordAdapter.write_word n Sink.writeWord { backend := s } w =
      Res.map (fun b => ({ backend := b } : WordAdapter Sink)) (s.writeWord (leBytes w n)) :=
  write_word_eq n Sink.writeWord { backend := s } w

/-- for every wrapped object: `flush` is forwarded -/
theorem flush_eq {β : Type} (fl : β → Res β) (a : WordAdapter β) :
    Gen.WordAdapter.flush fl a = Res.map (fun b => ({ backend := b } : WordAdapter β)) (fl a.backend) :=
  Res.bind_eq_map fun _ => rfl

/-- for every wrapped object: `word_pos` is the byte position divided by the word size, rounded up -/
theorem word_pos_eq {β : Type} (n : Nat) (hn : 0 < n) (sp : β → Res (Nat × β)) (a : WordAdapter β) :
    Gen.WordAdapter.word_pos n sp a =
      Res.map (fun x => ((x.1 + n - 1) / n, ({ backend := x.2 } : WordAdapter β))) (sp a.backend) :=
  Res.bind_eq_map fun x => by rw [← divCeil_eq _ _ hn]

/-- over a cursor: the hand model `AdCursor.wordPos` (the driver's `wp`) -/
theorem word_pos_cursor_eq (n : Nat) (hn : 0 < n) (c : AdCursor) :
    Gen.WordAdapter.word_pos n AdCursor.streamPosition { backend := c } =
      .ok (c.wordPos n, { backend := c }) := by
  rw [word_pos_eq n hn]
  rfl

/-- for every wrapped object: `set_word_pos(k)` seeks to the byte `k * BYTES` from the start,
    PROVIDED the `u64` product does not overflow -/
theorem set_word_pos_eq {β : Type} (n : Nat) (sk : β → StdIO.SeekFrom → Res (Nat × β)) (a : WordAdapter β)
    (k : Nat) (hk : k * n < 2 ^ 64) :
    Gen.WordAdapter.set_word_pos n sk a k =
      Res.map (fun x => ({ backend := x.2 } : WordAdapter β)) (sk a.backend (.start (k * n))) := by
  rw [Gen.WordAdapter.set_word_pos, Nat.mod_eq_of_lt hk]
  exact Res.bind_eq_map fun _ => rfl

/-- over a cursor: the hand model `AdCursor.setWordPos` (the driver's `sp`), PROVIDED the `u64`
    product does not overflow -/
theorem set_word_pos_cursor_eq (n : Nat) (c : AdCursor) (k : Nat) (hk : k * n < 2 ^ 64) :
    Gen.WordAdapter.set_word_pos n AdCursor.seek { backend := c } k =
      .ok { backend := c.setWordPos n k } := by
  rw [set_word_pos_eq n _ _ k hk]
  rfl

/-- what the source does without the hypothesis (a build without overflow checks): the byte
    position is the product modulo `2 ^ 64`; the hand model `AdCursor.setWordPos` does not wrap -/
theorem set_word_pos_cursor_wraps (n : Nat) (c : AdCursor) (k : Nat) :
    Gen.WordAdapter.set_word_pos n AdCursor.seek { backend := c } k =
      .ok { backend := { c with pos := (k * n) % 2 ^ 64 } } := rfl

/-- `wp`: the number shown is the value the translated `word_pos` returns -/
theorem ad_wp_is_gen (n : Nat) (hn : 0 < n) (c : AdCursor) :
    ∃ p a, Gen.WordAdapter.word_pos n AdCursor.streamPosition { backend := c } = .ok (p, a) ∧
      adSeekStep n c ["wp"] = (toString p, some a.backend) :=
  ⟨c.wordPos n, { backend := c }, word_pos_cursor_eq n hn c, ad_wp n c⟩

/-- `sp k`: the cursor afterwards is the wrapped object after the translated `set_word_pos(k)` -/
theorem ad_sp_is_gen (n : Nat) (c : AdCursor) (ks : String) (k : Nat) (hks : num? ks = some k)
    (hk : k * n < 2 ^ 64) :
    ∃ a, Gen.WordAdapter.set_word_pos n AdCursor.seek { backend := c } k = .ok a ∧
      adSeekStep n c ["sp", ks] = ("ok", some a.backend) :=
  ⟨{ backend := c.setWordPos n k }, set_word_pos_cursor_eq n c k hk, ad_sp n c ks k hks⟩

/-- `rw`: the bytes shown are the native bytes of the word the translated `read_word` returns, the
    cursor afterwards is its wrapped object; an error of `read_word` is the error shown -/
theorem ad_rw_is_gen (n : Nat) (c : AdCursor) :
    (∀ v a, Gen.WordAdapter.read_word n (fun c buf => c.readWord buf.length) { backend := c } = .ok (v, a) →
      ∃ w, adSeekStep n c ["rw"] = (bytesHex w, some a.backend) ∧ StdIO.fromNeBytes w = v ∧ w.length = n) ∧
    (∀ e, Gen.WordAdapter.read_word n (fun c buf => c.readWord buf.length) { backend := c } = .err e →
      adSeekStep n c ["rw"] = (showRes (fun _ => "") (.err e : Res Unit), some c.afterFailedRead)) := by
  rw [read_word_cursor_eq]
  by_cases h : c.pos + n ≤ c.data.length
  · rw [AdCursor.readWord, if_pos h]
    refine ⟨fun v a hva => ?_, fun e he => by cases he⟩
    cases hva
    exact ⟨(c.data.drop c.pos).take n, ad_rw n c h, rfl, by rw [List.length_take, List.length_drop]; omega⟩
  · rw [AdCursor.readWord, if_neg h]
    refine ⟨fun v a hva => (by cases hva), fun e he => ?_⟩
    cases he
    exact ad_rw_eof n c (by omega)

example : Gen.WordAdapter.word_pos 4 AdCursor.streamPosition { backend := { data := List.range 16, pos := 9 } }
    = .ok (3, { backend := { data := List.range 16, pos := 9 } }) := by rfl

example : (Gen.WordAdapter.set_word_pos 8 AdCursor.seek { backend := { data := [], pos := 0 } } (2 ^ 61 + 1)).map
    (fun a => a.backend.pos) = .ok 8 := by
  rw [set_word_pos_cursor_wraps]; rfl

example : (Gen.WordAdapter.read_word 4 (fun s buf => s.readWord buf.length)
      { backend := ({ bytes := [1, 2, 3, 4, 5, 6], sched := [.accept 1, .interrupted, .accept 2] } : Source) }).map
    (fun x => (x.1, x.2.backend.bytes)) = .ok (0x04030201, [5, 6]) := by rfl

end AdapterGen
end Dsi
