/-
  Bulk copy (C08): copying `n` bits appends exactly the reader's next `n` bits to the writer,
  advances the reader by `n`, and leaves both in states related to the reference machines, from
  which every continuation (`rprog_sim`, `wprog_sim`) behaves as on the reference machines, that
  is, as if the bits had been moved one at a time (`refCopy_bit_by_bit`).

  `refCopy` (in `Dsi/Lemmas/CopyRef.lean`) is the specification "move `n` bits".

  Hypotheses beyond the state relations:
  * reader and writer have the same endianness `e` (as in the Rust: `copy_to<E, W: BitWrite<E>>`);
  * `r.avail n`: the property speaks about copies the stream can serve.  On a strict stream that
    ends inside the copy the reference loop is `UnexpectedEof` like the specification
    (`copyGeneric_ref_eof`), some chunks having been appended before the failure;
  * `copyTo_sim`: reader word width `≤ 64` in BOTH endiannesses (the word loop calls
    `write_bits(word, W)`, see `copyTo_needs_W_le_64`), and, for LE, a writer with the `checks`
    assertion requires `copy_to` compiled with `checks` too (the unchecked LE tail hands the whole
    word to `write_bits`, see `copyTo_le_unchecked_tail_dirty`);
  * `copyFrom_sim`, `copyGeneric_sim`: `e = .be → W_r ≤ 64` (from `readBits_sim`).
-/
import Dsi.Lemmas.CopyTo
namespace Dsi
open BufW CopyL

variable {Wr Ww : Nat}

abbrev CopyPost (e : Endian) : BufR Wr × BufW Ww → RefR × RefW → Prop :=
  fun (s', t') (r', w') => BufR.Rel e s' r' ∧ RelC e t' w'

private theorem toPost {e : Endian} {x : Res (BufR Wr × BufW Ww)} {y : Res (RefR × RefW)}
    (h : ResRel (PQ (BufR.Rel e) (RelC e)) x y) : ResRel (CopyPost e) x y :=
  h.mono (fun ⟨_, _⟩ ⟨_, _⟩ h => h)

/-- **The generic chunked loop on the reference machines is the specification** (growable
    writer, enough fuel: the driver uses `n / 64 + 2`; any `checks`: the values read are clean,
    so the assertion of `write_bits` never fires). -/
theorem copyGeneric_ref (fuel : Nat) (r : RefR) (w : RefW) (n : Nat) (he : w.e = r.e)
    (hcap : w.cap = none) (hav : r.avail n = true) (hfuel : n / 64 + 1 ≤ fuel) :
    copyGeneric RefR.impl RefW.impl fuel r w n = refCopy r w n :=
  copyGeneric_ref_gen fuel r w n he (avail_mono r (Nat.zero_le n) hav)
    (by simp [RefW.fits, hcap]) (fuel_le hfuel)

theorem copyGeneric_ref_ok (fuel : Nat) (r : RefR) (w : RefW) (n : Nat) (he : w.e = r.e)
    (hcap : w.cap = none) (hav : r.avail n = true) (hfuel : n / 64 + 1 ≤ fuel) :
    copyGeneric RefR.impl RefW.impl fuel r w n =
      .ok ({ r with pos := r.pos + n }, { w with bits := w.bits ++ takeZ n r.rest }) := by
  rw [copyGeneric_ref fuel r w n he hcap hav hfuel, refCopy_growable r w n hav hcap]

theorem copyGeneric_ref_eof (fuel : Nat) (r : RefR) (w : RefW) (n : Nat) (he : w.e = r.e)
    (hcap : w.cap = none) (h0 : r.avail 0 = true) (hav : r.avail n = false)
    (hfuel : n / 64 + 1 ≤ fuel) :
    copyGeneric RefR.impl RefW.impl fuel r w n = .err .eof ∧ refCopy r w n = .err .eof := by
  have h := copyGeneric_ref_gen fuel r w n he h0 (by simp [RefW.fits, hcap]) (fuel_le hfuel)
  have h2 : refCopy r w n = .err .eof := by rw [refCopy_eq]; simp [hav]
  exact ⟨h.trans h2, h2⟩

def refCopyBits : Nat → RefR → RefW → Res (RefR × RefW)
  | 0, r, w => .ok (r, w)
  | n + 1, r, w => (refCopy r w 1).bind (fun p => refCopyBits n p.1 p.2)

/-- the specification is "move the bits one at a time" -/
theorem refCopy_bit_by_bit (n : Nat) (r : RefR) (w : RefW) (h0 : r.avail 0 = true)
    (hfit : w.fits w.bits = true) : refCopyBits n r w = refCopy r w n := by
  induction n generalizing r w with
  | zero => rw [refCopy_zero r w h0 hfit]; rfl
  | succ n ih =>
    rw [show refCopy r w (n + 1) = refCopy r w (1 + n) by rw [Nat.add_comm], refCopy_add]
    show (refCopy r w 1).bind (fun p => refCopyBits n p.1 p.2) = _
    cases hc : refCopy r w 1 with
    | ok p =>
      obtain ⟨hr, _, _, hf, hav⟩ := refCopy_ok_facts (r' := p.1) (w' := p.2) hc
      exact ih p.1 p.2 (by rw [hr, avail_advance]; exact hav) hf
    | _ => rfl

/-- 16-bit strict stream, 3 bits consumed; copy 11 bits into a writer holding 2 bits -/
def copyExR : RefR :=
  { e := .be, stream := [0xA5#8, 0x3C#8].flatMap (wordBits .be), pos := 3, strict := true, peekMax := 8 }
def copyExW : RefW := { e := .be, W := 8, bits := [true, false] }

example : copyGeneric RefR.impl RefW.impl 2 copyExR copyExW 11 = refCopy copyExR copyExW 11 :=
  copyGeneric_ref 2 _ _ 11 rfl rfl (by decide) (by decide)

example : refCopy copyExR copyExW 11 =
    .ok ({ copyExR with pos := 14 },
      { copyExW with bits := [true, false] ++
        [false, false, true, false, true, false, false, true, true, true, true] }) := rfl

-- the stream ends inside the copy
example : copyGeneric RefR.impl RefW.impl 2 copyExR copyExW 14 = .err .eof ∧
    refCopy copyExR copyExW 14 = .err .eof :=
  copyGeneric_ref_eof 2 _ _ 14 rfl rfl (by decide) (by decide) (by decide)

theorem copyGeneric_sim {e : Endian} (hW64 : e = .be → Wr ≤ 64) {s : BufR Wr} {r : RefR}
    {t : BufW Ww} {w : RefW} (hs : BufR.Rel e s r) (ht : RelC e t w) (fuel n : Nat) :
    ResRel (CopyPost e)
      (copyGeneric (BufR.impl e) (BufW.impl e) fuel s t n)
      (copyGeneric RefR.impl RefW.impl fuel r w n) :=
  toPost (copyGeneric_sim_gen (rsim_bufR hW64) (wsim_bufW e) fuel n hs ht)

theorem relC_e {e : Endian} {t : BufW Ww} {w : RefW} (h : RelC e t w) : w.e = e := h.1.2.1

/-- the generic loop against the specification (also for a fixed-capacity writer) -/
theorem copyGeneric_sim_spec {e : Endian} (hW64 : e = .be → Wr ≤ 64) {s : BufR Wr} {r : RefR}
    {t : BufW Ww} {w : RefW} (hs : BufR.Rel e s r) (ht : RelC e t w) {fuel n : Nat}
    (hav : r.avail n = true) (hfuel : n / 64 + 1 ≤ fuel) :
    ResRel (CopyPost e)
      (copyGeneric (BufR.impl e) (BufW.impl e) fuel s t n) (refCopy r w n) :=
  toPost (copyGeneric_stage (rsim_bufR hW64) (wsim_bufW e) hs ht ((relC_e ht).trans hs.2.2.1.symm)
    (fits_of_relC ht) hav (fuel_le hfuel))

/-- **`BufBitWriter::copy_from`** from a buffered reader -/
theorem copyFrom_sim {e : Endian} (hW64 : e = .be → Wr ≤ 64) {s : BufR Wr} {r : RefR}
    {t : BufW Ww} {w : RefW} (hs : BufR.Rel e s r) (ht : RelC e t w) {n : Nat}
    (hav : r.avail n = true) :
    ResRel (CopyPost e) (BufW.copyFrom e (BufR.impl e) t s n) (refCopy r w n) :=
  toPost (copyFrom_sim_gen (rsim_bufR hW64) ht hs hs.2.2.1 hav)

/-- **`BufBitReader::copy_to`** into a buffered writer -/
theorem copyTo_sim {e : Endian} (checks : Bool) (hW : Wr ≤ 64) {s : BufR Wr} {r : RefR}
    {t : BufW Ww} {w : RefW} (hs : BufR.Rel e s r) (ht : RelC e t w) {n : Nat}
    (hck : e = .le → t.checks = true → checks = true) (hav : r.avail n = true) :
    ResRel (CopyPost e) (BufR.copyTo e checks (BufW.impl e) s t n) (refCopy r w n) :=
  toPost (copyTo_sim_gen (wsim_bufW e) checks hW hs ht (relC_e ht) (fits_of_relC ht)
    (fun hle hwc => hck hle (by rw [← ht.1.2.2.2.2.1]; exact hwc)) hav)

def SameAbs (e : Endian) : BufR Wr × BufW Ww → BufR Wr × BufW Ww → Prop :=
  fun a b => ∃ r' w', (BufR.Rel e a.1 r' ∧ RelC e a.2 w') ∧ (BufR.Rel e b.1 r' ∧ RelC e b.2 w')

/-- **Specialised = generic.**  Under the hypotheses of the simulation theorems the specialised
    `copy_to`, the specialised `copy_from` and the generic chunked loop have the same outcome
    up to abstraction: the same error, or success in states representing the same reference
    reader and the same reference writer (namely those of `refCopy r w n`). -/
theorem copy_specialised_eq_generic {e : Endian} (checks : Bool) (hW : Wr ≤ 64) {s : BufR Wr}
    {r : RefR} {t : BufW Ww} {w : RefW} (hs : BufR.Rel e s r) (ht : RelC e t w) {n : Nat}
    (hck : e = .le → t.checks = true → checks = true) (hav : r.avail n = true) :
    ResRel (SameAbs e) (BufR.copyTo e checks (BufW.impl e) s t n)
        (copyGeneric (BufR.impl e) (BufW.impl e) (n / 64 + 2) s t n) ∧
    ResRel (SameAbs e) (BufW.copyFrom e (BufR.impl e) t s n)
        (copyGeneric (BufR.impl e) (BufW.impl e) (n / 64 + 2) s t n) := by
  have hg := copyGeneric_sim_spec (fuel := n / 64 + 2) (fun _ => hW) hs ht hav (Nat.le_succ _)
  have h1 := ResRel.join (copyTo_sim checks hW hs ht hck hav) hg
  have h2 := ResRel.join (copyFrom_sim (fun _ => hW) hs ht hav) hg
  exact ⟨h1.mono (fun ⟨_, _⟩ ⟨_, _⟩ ⟨⟨r', w'⟩, h, h'⟩ => ⟨r', w', h, h'⟩),
    h2.mono (fun ⟨_, _⟩ ⟨_, _⟩ ⟨⟨r', w'⟩, h, h'⟩ => ⟨r', w', h, h'⟩)⟩

/-- what "same abstract outcome" gives on the concrete states: same bit position, same delivered
    and pending bits -/
theorem SameAbs.states {e : Endian} {a b : BufR Wr × BufW Ww} (h : SameAbs e a b) :
    a.1.bitPos = b.1.bitPos ∧ a.2.abs e = b.2.abs e := by
  obtain ⟨r', w', ⟨h1, h2⟩, ⟨h3, h4⟩⟩ := h
  exact ⟨(bitPos_eq h1).trans (bitPos_eq h3).symm,
    h2.1.2.2.2.2.2.symm.trans h4.1.2.2.2.2.2⟩

/-! ### examples: `W = 8`, strict three-word reader with 5 buffered bits, fixed four-word writer
    with `checks`; 13 bits (buffered part, one whole word... ) and 17 bits -/

example : ResRel (CopyPost .be)
    (BufR.copyTo .be false (BufW.impl .be) (readerExS .be) exS 13)
    (refCopy (readerExR .be) exRbe 13) :=
  copyTo_sim false (by decide) (readerEx_rel .be) exS_be (fun h => by cases h) (by decide)

example : ResRel (CopyPost .le)
    (BufR.copyTo .le true (BufW.impl .le) (readerExS .le) exS 17)
    (refCopy (readerExR .le) exRle 17) :=
  copyTo_sim true (by decide) (readerEx_rel .le) exS_le (fun _ _ => rfl) (by decide)

example : ResRel (CopyPost .le)
    (BufW.copyFrom .le (BufR.impl .le) exS (readerExS .le) 17)
    (refCopy (readerExR .le) exRle 17) :=
  copyFrom_sim (fun h => by cases h) (readerEx_rel .le) exS_le (by decide)

example : ResRel (CopyPost .be)
    (copyGeneric (BufR.impl .be) (BufW.impl .be) 2 (readerExS .be) exS 17)
    (refCopy (readerExR .be) exRbe 17) :=
  copyGeneric_sim_spec (fun _ => by decide) (readerEx_rel .be) exS_be (by decide) (by decide)

/-- the writer `exS` over a fixed backend of two words (one delivered, five bits pending) -/
def copyExT : BufW 8 := { exS with cap := some 2 }
def copyExTr : RefW := { exRbe with cap := some 2 }
theorem copyExT_rel : RelC .be copyExT copyExTr :=
  ⟨⟨⟨by decide, by decide⟩, rfl, rfl, rfl, rfl, by decide⟩, rfl⟩

-- two words cannot take 13 + 17 bits: all three paths and the specification are `UnexpectedEof`
example : BufW.copyFrom .be (BufR.impl .be) copyExT (readerExS .be) 17 = .err .eof ∧
    BufR.copyTo .be true (BufW.impl .be) (readerExS .be) copyExT 17 = .err .eof ∧
    copyGeneric (BufR.impl .be) (BufW.impl .be) 2 (readerExS .be) copyExT 17 = .err .eof ∧
    refCopy (readerExR .be) copyExTr 17 = .err .eof := ⟨rfl, rfl, rfl, rfl⟩

example : ResRel (CopyPost .be)
    (BufW.copyFrom .be (BufR.impl .be) copyExT (readerExS .be) 17)
    (refCopy (readerExR .be) copyExTr 17) :=
  copyFrom_sim (fun _ => by decide) (readerEx_rel .be) copyExT_rel (by decide)

def copyCexS : BufR 65 := BufR.new ⟨[1#65, 1#65], 0, false⟩
def copyCexR : RefR :=
  { e := .le, stream := [1#65, 1#65].flatMap (wordBits .le), pos := 0, strict := false, peekMax := 65 }
def copyCexT : BufW 8 := BufW.new 8
def copyCexW : RefW := { e := .le, W := 8 }

/-- `W_r ≤ 64` is necessary for `copy_to` in both endiannesses: with `W_r = 65` the word loop calls
    `write_bits(word, 65)` (`dpanic`: a debug assertion in the Rust), while the specification and
    the generic loop succeed.  The Rust only instantiates `W ≤ 64`. -/
theorem copyTo_needs_W_le_64 :
    BufR.Rel .le copyCexS copyCexR ∧ RelC .le copyCexT copyCexW ∧
    BufR.copyTo .le false (BufW.impl .le) copyCexS copyCexT 66 = .dpanic ∧
    (refCopy copyCexR copyCexW 66).isOk = true := by
  refine ⟨new_rel .le (by decide) _ _, rel_new .le (by decide) false none, ?_, ?_⟩
  · rfl
  · rw [refCopy_growable _ _ _ rfl rfl]; rfl

def copyCex2S : BufR 8 := BufR.new ⟨[0xFF#8], 0, false⟩
def copyCex2R : RefR :=
  { e := .le, stream := [0xFF#8].flatMap (wordBits .le), pos := 0, strict := false, peekMax := 8 }
def copyCex2T : BufW 8 := BufW.new 8 true
def copyCex2W : RefW := { e := .le, W := 8, checks := true }

/-- the LE `copy_to` compiled without `checks` hands the whole tail word to `write_bits`; a writer
    that does check (not a configuration one cargo build produces: the feature is crate-wide)
    panics on it, while `copy_to` compiled with `checks` masks the tail and succeeds -/
theorem copyTo_le_unchecked_tail_dirty :
    BufR.Rel .le copyCex2S copyCex2R ∧ RelC .le copyCex2T copyCex2W ∧
    BufR.copyTo .le false (BufW.impl .le) copyCex2S copyCex2T 3 = .panic ∧
    (BufR.copyTo .le true (BufW.impl .le) copyCex2S copyCex2T 3).isOk = true ∧
    (refCopy copyCex2R copyCex2W 3).isOk = true :=
  ⟨new_rel .le (by decide) _ _, rel_new .le (by decide) true none, rfl, rfl, rfl⟩

-- a concrete run of the three paths: 17 bits from bit 3 of `A5 3C F0` after the 13 bits `12 | 10101`
example : ∃ s1 t1 s2 t2 s3 t3,
    BufR.copyTo .be true (BufW.impl .be) (readerExS .be) exS 17 = .ok (s1, t1) ∧
    BufW.copyFrom .be (BufR.impl .be) exS (readerExS .be) 17 = .ok (s2, t2) ∧
    copyGeneric (BufR.impl .be) (BufW.impl .be) 2 (readerExS .be) exS 17 = .ok (s3, t3) ∧
    t1.out = [0x12#8, 0xA9#8, 0x4F#8] ∧ t2.out = t1.out ∧ t3.out = t1.out ∧
    t1.abs .be = t2.abs .be ∧ t1.abs .be = t3.abs .be ∧
    s1.bitPos = 20 ∧ s2.bitPos = 20 ∧ s3.bitPos = 20 :=
  ⟨_, _, _, _, _, _, rfl, rfl, rfl, rfl, rfl, rfl, rfl, rfl, rfl, rfl, rfl⟩

end Dsi
