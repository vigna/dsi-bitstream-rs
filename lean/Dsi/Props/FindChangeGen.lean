/-
  The generated `FindChangePoints::next` (lean/Dsi/Gen/FindChangeBody.lean, produced by
  tools/translate_findchange.py from src/utils/find_change.rs on every run) against the hand-written
  `FC.next` of lean/Dsi/Glue/FindChange.lean.

  The hand-written model keeps `prev_value` as an `Option` (`none` = the sentinel `usize::MAX`) and
  has the u64 overflow checks as `dpanic` points; the generated function works on the two fields
  as the Rust holds them.  For every state whose `prev_value`
  is not a genuine `usize::MAX` (`Wf`) the two agree: same item, same new fields, same `dpanic`
  points (the generated function carries the overflow check of every u64 `+` and the
  `debug_assert!`s), same behaviour when the loop fuel (65 rounds each) runs out.
-/
import Dsi.Lemmas.FindChange
import Dsi.Gen.FindChangeBody
namespace Dsi
namespace FindChangeGen
open Gen.FindChange

/-- the result of `FC.next` as the Rust holds it: the item and the two fields -/
def absOut : Option (Nat × Nat) × FC → Option (Nat × Nat) × Nat × Nat
  | (o, s) => (o, s.current, s.prevValue)

def Wf (s : FC) : Prop := ∀ v, s.prev = some v → v ≠ FC.U64MAX

theorem u64max : FC.U64MAX = 2 ^ 64 - 1 := rfl

/-- what `next` does with the outcome of the exponential search -/
def afterExp (cur prev : Nat) (k : Nat → Res (Option (Nat × Nat) × Nat × Nat)) :
    Res (Option Nat) → Res (Option (Nat × Nat) × Nat × Nat)
  | .ok none => .ok (none, cur, prev)
  | .ok (some st) => k st
  | .err e => .err e
  | .panic => .panic
  | .dpanic => .dpanic

theorem exp_eq (f : Nat → Nat) (cur prev : Nat) (k : Nat → Res (Option (Nat × Nat) × Nat × Nat)) :
    ∀ fuel step,
      next_loop1 fuel f cur prev step k = afterExp cur prev k (FC.expPhase f cur prev fuel step) := by
  intro fuel
  induction fuel with
  | zero => intro step; rfl
  | succ fuel ih =>
    intro step
    rw [FC.expPhase_succ]
    unfold next_loop1
    rw [← u64max]
    by_cases hlt : cur + step < FC.U64MAX
    · rw [if_neg (not_not_intro hlt), if_neg (fun h => FC.out_iff.mp h hlt)]
      simp only [if_neg (FC.no_ovf hlt)]
      by_cases h3 : f (cur + step) < prev
      · rw [if_pos h3, if_pos (Nat.not_le.mpr h3)]; rfl
      rw [if_neg h3, if_neg (not_not_intro (Nat.le_of_not_lt h3))]
      by_cases h4 : f (cur + step) = prev
      · rw [if_neg (not_not_intro h4), if_neg (not_not_intro h4)]
        by_cases h5 : step * 2 ≥ 2 ^ 64
        · rw [if_pos h5, if_neg (Nat.not_lt.mpr h5)]; rfl
        · rw [if_neg h5, if_pos (Nat.lt_of_not_le h5)]
          exact ih (step * 2)
      · rw [if_pos h4, if_pos h4]; rfl
    · rw [if_pos hlt, if_pos (FC.out_iff.mpr hlt)]; rfl

/-- what `next` does with the outcome of the binary search -/
def afterBin (k : Nat → Res (Option (Nat × Nat) × Nat × Nat)) :
    Res Nat → Res (Option (Nat × Nat) × Nat × Nat)
  | .ok l => k l
  | .err e => .err e
  | .panic => .panic
  | .dpanic => .dpanic

/-- the binary search; its midpoint `left + (right - left) / 2` cannot overflow -/
theorem bin_eq (f : Nat → Nat) (cur prev : Nat) (k : Nat → Res (Option (Nat × Nat) × Nat × Nat)) :
    ∀ fuel left right, right < 2 ^ 64 →
      next_while1 fuel f cur prev left right (fun l _ => k l)
        = afterBin k (FC.binPhase f prev fuel left right) := by
  intro fuel
  induction fuel with
  | zero => intro l r _; rfl
  | succ fuel ih =>
    intro left right hr
    rw [FC.binPhase_succ]
    unfold next_while1
    by_cases h1 : left < right
    · have hm : left + (right - left) / 2 < 2 ^ 64 := Nat.lt_trans (FC.mid_lt h1) hr
      simp only [if_pos h1, if_neg (Nat.not_le.mpr hm)]
      by_cases h2 : f (left + (right - left) / 2) < prev
      · rw [if_pos h2, if_pos (Nat.not_le.mpr h2)]; rfl
      rw [if_neg h2, if_neg (not_not_intro (Nat.le_of_not_lt h2))]
      by_cases h3 : f (left + (right - left) / 2) = prev
      · rw [if_pos h3, if_pos h3]
        by_cases h4 : left + (right - left) / 2 + 1 ≥ 2 ^ 64
        · rw [if_pos h4, if_pos h4]; rfl
        · rw [if_neg h4, if_neg h4]
          exact ih _ _ hr
      · rw [if_neg h3, if_neg h3]
        exact ih _ _ hm
    · rw [if_neg h1, if_neg h1]; rfl

theorem next_eq (f : Nat → Nat) (s : FC) (hs : Wf s) :
    Gen.FindChange.next f s.current s.prevValue = (FC.next f s).map absOut := by
  unfold FC.next Gen.FindChange.next
  have hprev : s.prevValue = 2 ^ 64 - 1 ↔ s.prev = none := by
    unfold FC.prevValue
    cases hp : s.prev with
    | none => simp [u64max]
    | some v =>
      have := hs v hp
      rw [u64max] at this
      simp [this]
  by_cases h0 : s.current = 0 ∧ s.prev = none
  · have h0' : s.current = 0 ∧ s.prevValue = 2 ^ 64 - 1 := ⟨h0.1, hprev.2 h0.2⟩
    simp only [h0, h0', and_self, if_true]
    rfl
  · have h0' : ¬ (s.current = 0 ∧ s.prevValue = 2 ^ 64 - 1) := by
      intro h; exact h0 ⟨h.1, hprev.1 h.2⟩
    simp only [h0, h0', if_false]
    generalize hP : s.prevValue = prev
    generalize hC : s.current = cur
    rw [exp_eq]
    generalize FC.expPhase f cur prev 65 1 = r
    cases r with
    | err e => rfl
    | panic => rfl
    | dpanic => rfl
    | ok o =>
      cases o with
      | none => simp only [afterExp, Res.map, absOut, hP, hC]
      | some step =>
        simp only [afterExp]
        by_cases h2 : cur + step ≥ 2 ^ 64
        · simp only [h2, if_true]
          by_cases h2' : cur + step / 2 ≥ 2 ^ 64
          · simp only [h2', if_true]; rfl
          · simp only [h2', if_false]; rfl
        · have h2' : ¬ cur + step / 2 ≥ 2 ^ 64 := fun h =>
            h2 (Nat.le_trans h (Nat.add_le_add_left (Nat.div_le_self _ _) _))
          simp only [h2, h2', if_false]
          rw [bin_eq f cur prev (fun left =>
            if ¬ (f left ≥ prev) then .dpanic else .ok (some (left, f left), left, f left))
            65 (cur + step / 2) (cur + step) (Nat.lt_of_not_le h2)]
          generalize FC.binPhase f prev 65 (cur + step / 2) (cur + step) = r
          cases r with
          | err e => rfl
          | panic => rfl
          | dpanic => rfl
          | ok l =>
            simp only [afterBin]
            by_cases h3 : f l < prev
            · have h3' : ¬ f l ≥ prev := Nat.not_le.mpr h3
              simp only [h3, if_true, h3', not_false_eq_true]; rfl
            · have h3' : f l ≥ prev := Nat.le_of_not_lt h3
              simp only [h3, if_false, h3', not_true_eq_false, Res.map, absOut, FC.prevValue,
                Option.getD_some]

end FindChangeGen
end Dsi
