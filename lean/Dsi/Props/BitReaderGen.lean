/-
  The method bodies of the unbuffered `BitReader` as TRANSLATED from src/impls/bit_reader.rs on
  every run (lean/Dsi/Gen/BitReaderBodies.lean, emitted by tools/translate_bitr.py) are EQUAL to the
  hand-written model (lean/Dsi/Impl/BitReader.lean).

  The Rust keeps the position in a `u64` (`self.bit_index`), the hand model in a `Nat`; the
  translation computes in `BitVec 64`.  The equalities therefore need the hypothesis that the
  positions involved fit 64 bits (`s.bitIndex + n < 2 ^ 64`, for `read_unary` the current position
  plus the bits of the data and of three more words): beyond that the Rust wraps (or panics in debug
  builds) where the hand model goes on counting.  `set_bit_pos_*_eq` need none.  The `gen_bitr_*`
  theorems also carry the hypotheses of the hand-model theorems they instantiate (`n ≤ 64`,
  `1 ≤ n ≤ 32`, `r.avail n`).
-/
import Dsi.Gen.BitReaderBodies
import Dsi.Props.BitReader
namespace Dsi
namespace GenBitR
def natOut {w : Nat} {σ : Type} (x : Res (BitVec w × σ)) : Res (Nat × σ) :=
  x.map fun p => (p.1.toNat, p.2)

theorem ofNat_toNat_of_lt (x : Nat) (h : x < 2 ^ 64) : (BitVec.ofNat 64 x).toNat = x := by
  rw [BitVec.toNat_ofNat, Nat.mod_eq_of_lt h]

theorem idx_div (x : Nat) (h : x < 2 ^ 64) : (BitVec.ofNat 64 x / 64).toNat = x / 64 := by
  rw [BitVec.toNat_udiv, ofNat_toNat_of_lt x h]; rfl

theorem idx_mod (x : Nat) (h : x < 2 ^ 64) : (BitVec.ofNat 64 x % 64).toNat = x % 64 := by
  rw [BitVec.toNat_umod, ofNat_toNat_of_lt x h]; rfl

theorem idx_add (x n : Nat) (h : x + n < 2 ^ 64) :
    (BitVec.ofNat 64 x + BitVec.ofNat 64 n).toNat = x + n := by
  rw [← BitVec.ofNat_add, ofNat_toNat_of_lt _ h]

theorem skip_bits_be_eq (s : BitR) (n : Nat) (h : s.bitIndex + n < 2 ^ 64) :
    Gen.BitR.skip_bits_be s n = BitR.skipBits s n := by
  unfold Gen.BitR.skip_bits_be BitR.skipBits
  simp only [idx_add _ _ h]

/-- the body `read_bits` and `peek_bits` share in the Rust source, followed by `k` -/
def extractThen {β : Type} (e : Endian) (s : BitR) (n : Nat) (k : BitVec 64 × BitR → Res β) : Res β :=
  Res.bind (s.data.setWordPos ((BitVec.ofNat 64 s.bitIndex) / 64).toNat) fun bk =>
  let s : BitR := { s with data := bk }
  let off : Nat := ((BitVec.ofNat 64 s.bitIndex) % 64).toNat
  Res.bind (if (off + n) ≤ 64 then (
      Res.bind s.data.readWord fun rw =>
      Res.ok (BitRd.exOne e rw.1 off n, { s with data := rw.2 }))
    else (
      Res.bind s.data.readWord fun rw =>
      let s : BitR := { s with data := rw.2 }
      let w1 : BitVec 64 := rw.1
      Res.bind s.data.readWord fun rw =>
      Res.ok (BitRd.exTwo e w1 rw.1 off n, { s with data := rw.2 }))) k

theorem extractThen_eq {β : Type} (e : Endian) (d : MemR 64) {ix : Nat} (hix : ix < 2 ^ 64) (n : Nat)
    (k : BitVec 64 × BitR → Res β) :
    extractThen e ⟨d, ix⟩ n k = (BitR.extract e ⟨d, ix⟩ n).bind fun p => k (p.1, ⟨p.2, ix⟩) := by
  unfold extractThen BitR.extract
  simp only [idx_div ix hix, idx_mod ix hix]
  cases d.setWordPos (ix / 64) with
  | ok d0 =>
    simp only [Res.bind]
    by_cases hs : ix % 64 + n ≤ 64
    · simp only [if_pos hs]
      cases d0.readWord with
      | ok p => cases e <;> rfl
      | _ => rfl
    · simp only [if_neg hs]
      cases d0.readWord with
      | ok p =>
        simp only
        cases p.2.readWord with
        | ok q => cases e <;> rfl
        | _ => rfl
      | _ => rfl
  | _ => rfl

theorem read_bits_be_eq (s : BitR) (n : Nat) (h : s.bitIndex + n < 2 ^ 64) :
    natOut (Gen.BitR.read_bits_be s n) = BitR.readBits .be s n := by
  obtain ⟨d, ix⟩ := s
  replace h : ix + n < 2 ^ 64 := h
  show natOut (if n = 0 then _ else if ¬n ≤ 64 then _ else extractThen .be _ n _) = _
  unfold BitR.readBits
  by_cases h0 : n = 0
  · rw [if_pos h0, if_pos h0]; rfl
  rw [if_neg h0, if_neg h0]
  by_cases h64 : n > 64
  · rw [if_pos (by omega), if_pos h64]; rfl
  rw [if_neg (by omega), if_neg h64, extractThen_eq .be d (by omega : ix < 2 ^ 64)]
  cases BitR.extract .be ⟨d, ix⟩ n with
  | ok p => simp only [Res.bind, natOut, Res.map, idx_add ix n h]
  | _ => rfl

theorem read_bits_le_eq (s : BitR) (n : Nat) (h : s.bitIndex + n < 2 ^ 64) :
    natOut (Gen.BitR.read_bits_le s n) = BitR.readBits .le s n := by
  obtain ⟨d, ix⟩ := s
  replace h : ix + n < 2 ^ 64 := h
  show natOut (if ¬n ≤ 64 then _ else if n = 0 then _ else extractThen .le _ n _) = _
  unfold BitR.readBits
  by_cases h0 : n = 0
  · rw [if_neg (by omega), if_pos h0, if_pos h0]; rfl
  rw [if_neg h0, if_neg h0]
  by_cases h64 : n > 64
  · rw [if_pos (by omega), if_pos h64]; rfl
  rw [if_neg (by omega), if_neg h64, extractThen_eq .le d (by omega : ix < 2 ^ 64)]
  cases BitR.extract .le ⟨d, ix⟩ n with
  | ok p => simp only [Res.bind, natOut, Res.map, idx_add ix n h]
  | _ => rfl

theorem peek_bits_eq_aux (e : Endian) (d : MemR 64) {ix : Nat} (hix : ix < 2 ^ 64) (n : Nat) :
    (if n = 0 then .ok (0, ⟨d, ix⟩) else if ¬n ≤ 32 then .panic else
      extractThen e ⟨d, ix⟩ n fun st => .ok (st.1.toNat % 4294967296, st.2)) =
      BitR.peekBits e ⟨d, ix⟩ n := by
  unfold BitR.peekBits
  by_cases h0 : n = 0
  · rw [if_pos h0, if_pos h0]
  rw [if_neg h0, if_neg h0]
  by_cases h32 : n > 32
  · rw [if_pos (by omega), if_pos h32]
  rw [if_neg (by omega), if_neg h32, extractThen_eq e d hix]
  cases BitR.extract e ⟨d, ix⟩ n with
  | ok p => simp only [Res.bind, BitVec.toNat_setWidth]
  | _ => rfl

theorem peek_bits_be_eq (s : BitR) (n : Nat) (hix : s.bitIndex < 2 ^ 64) :
    Gen.BitR.peek_bits_be s n = BitR.peekBits .be s n :=
  peek_bits_eq_aux .be s.data hix n

theorem peek_bits_le_eq (s : BitR) (n : Nat) (hix : s.bitIndex < 2 ^ 64) :
    Gen.BitR.peek_bits_le s n = BitR.peekBits .le s n :=
  peek_bits_eq_aux .le s.data hix n

theorem skip_bits_le_eq (s : BitR) (n : Nat) (h : s.bitIndex + n < 2 ^ 64) :
    Gen.BitR.skip_bits_le s n = BitR.skipBits s n := by
  unfold Gen.BitR.skip_bits_le BitR.skipBits
  simp only [idx_add _ _ h]

theorem skip_bits_after_peek_be_eq (s : BitR) (n : Nat) (h : s.bitIndex + n < 2 ^ 64) :
    Gen.BitR.skip_bits_after_peek_be s n = .ok (BitR.skipAfterPeek s n) := by
  unfold Gen.BitR.skip_bits_after_peek_be BitR.skipAfterPeek
  simp only [idx_add _ _ h]

theorem skip_bits_after_peek_le_eq (s : BitR) (n : Nat) (h : s.bitIndex + n < 2 ^ 64) :
    Gen.BitR.skip_bits_after_peek_le s n = .ok (BitR.skipAfterPeek s n) := by
  unfold Gen.BitR.skip_bits_after_peek_le BitR.skipAfterPeek
  simp only [idx_add _ _ h]

theorem bit_pos_be_eq (s : BitR) (h : s.bitIndex < 2 ^ 64) :
    natOut (Gen.BitR.bit_pos_be s) = .ok (s.bitPos, s) := by
  unfold natOut Gen.BitR.bit_pos_be BitR.bitPos
  simp only [Res.map, ofNat_toNat_of_lt _ h]

theorem bit_pos_le_eq (s : BitR) (h : s.bitIndex < 2 ^ 64) :
    natOut (Gen.BitR.bit_pos_le s) = .ok (s.bitPos, s) := by
  unfold natOut Gen.BitR.bit_pos_le BitR.bitPos
  simp only [Res.map, ofNat_toNat_of_lt _ h]

theorem set_bit_pos_be_eq (s : BitR) (p : BitVec 64) :
    Gen.BitR.set_bit_pos_be s p = .ok (BitR.setBitPos s p.toNat) := rfl

theorem set_bit_pos_le_eq (s : BitR) (p : BitVec 64) :
    Gen.BitR.set_bit_pos_le s p = .ok (BitR.setBitPos s p.toNat) := rfl

theorem ofNat_lt_iff (a b : Nat) (ha : a < 2 ^ 64) (hb : b < 2 ^ 64) :
    BitVec.ofNat 64 a < BitVec.ofNat 64 b ↔ a < b := by
  rw [BitVec.lt_def, ofNat_toNat_of_lt a ha, ofNat_toNat_of_lt b hb]

/-- one round of the `loop` of `read_unary` on (bits left in the word, zeros so far, word, reader) -/
def unaryBody (e : Endian) (st : BitVec 64 × BitVec 64 × BitVec 64 × BitR) :
    Res (Step (BitVec 64 × BitR) (BitVec 64 × BitVec 64 × BitVec 64 × BitR)) :=
  if BitVec.ofNat 64 (zerosB e st.2.2.1) < st.1 then
    .ok (Step.ret (st.2.1 + BitVec.ofNat 64 (zerosB e st.2.2.1),
      { st.2.2.2 with bitIndex := (BitVec.ofNat 64 st.2.2.2.bitIndex +
          (st.2.1 + BitVec.ofNat 64 (zerosB e st.2.2.1) + 1)).toNat }))
  else Res.bind st.2.2.2.data.readWord fun rw =>
    .ok (Step.next (64, st.2.1 + st.1, rw.1, { st.2.2.2 with data := rw.2 }))

theorem loopN_unaryLoop (e : Endian) (ix : Nat) :
    ∀ k (biw tot : Nat) (word : BitVec 64) (d : MemR 64), biw ≤ 64 → ix + tot + k * 64 < 2 ^ 64 →
      natOut (loopN k (BitVec.ofNat 64 biw, BitVec.ofNat 64 tot, word, (⟨d, ix⟩ : BitR)) (unaryBody e)) =
        (BitR.unaryLoop e k d word biw tot).map fun p => (p.1, ⟨p.2, ix + p.1 + 1⟩)
  | 0, biw, tot, word, d, _, _ => by cases e <;> rfl
  | k + 1, biw, tot, word, d, hb, h => by
    rw [Nat.succ_mul] at h
    have hz := zerosB_le e word
    rw [BitRd.unaryLoop_succ]
    simp only [natOut, loopN, unaryBody, ofNat_lt_iff (zerosB e word) biw (by omega) (by omega)]
    by_cases hlt : zerosB e word < biw
    · simp only [hlt, if_true, Res.bind, Res.map]
      have e1 : (BitVec.ofNat 64 tot + BitVec.ofNat 64 (zerosB e word)).toNat = tot + zerosB e word :=
        idx_add _ _ (by omega)
      have e2 : (BitVec.ofNat 64 ix + (BitVec.ofNat 64 tot + BitVec.ofNat 64 (zerosB e word) + 1)).toNat
          = ix + (tot + zerosB e word) + 1 := by
        rw [show (1 : BitVec 64) = BitVec.ofNat 64 1 from rfl, ← BitVec.ofNat_add, ← BitVec.ofNat_add,
          idx_add _ _ (by omega)]
        omega
      rw [e1, e2]
    · simp only [hlt, if_false]
      show Res.map _ (Res.bind (Res.bind d.readWord _) _) = _
      cases d.readWord with
      | ok p =>
        obtain ⟨w, d'⟩ := p
        simp only [Res.bind]
        rw [← BitVec.ofNat_add]
        exact loopN_unaryLoop e ix k 64 (tot + biw) w d' (by omega) (by omega)
      | _ => rfl

theorem loopN_unaryLoop_be (ix : Nat)
    (f : BitVec 64 × BitVec 64 × BitVec 64 × BitR →
      Res (Step (BitVec 64 × BitR) (BitVec 64 × BitVec 64 × BitVec 64 × BitR)))
    (hf : ∀ st, f st =
      if BitVec.ofNat 64 (BufR.clz st.2.2.1) < st.1 then
        .ok (Step.ret (st.2.1 + BitVec.ofNat 64 (BufR.clz st.2.2.1),
          { st.2.2.2 with bitIndex := (BitVec.ofNat 64 st.2.2.2.bitIndex +
              (st.2.1 + BitVec.ofNat 64 (BufR.clz st.2.2.1) + 1)).toNat }))
      else Res.bind st.2.2.2.data.readWord fun rw =>
        .ok (Step.next (64, st.2.1 + st.1, rw.1, { st.2.2.2 with data := rw.2 }))) :
    ∀ k (biw tot : Nat) (word : BitVec 64) (d : MemR 64), biw ≤ 64 → ix + tot + k * 64 < 2 ^ 64 →
      natOut (loopN k (BitVec.ofNat 64 biw, BitVec.ofNat 64 tot, word, (⟨d, ix⟩ : BitR)) f) =
        (BitR.unaryLoop .be k d word biw tot).map fun p => (p.1, ⟨p.2, ix + p.1 + 1⟩) :=
  (funext hf : f = unaryBody .be) ▸ loopN_unaryLoop .be ix

theorem loopN_unaryLoop_le (ix : Nat)
    (f : BitVec 64 × BitVec 64 × BitVec 64 × BitR →
      Res (Step (BitVec 64 × BitR) (BitVec 64 × BitVec 64 × BitVec 64 × BitR)))
    (hf : ∀ st, f st =
      if BitVec.ofNat 64 (BufR.ctz st.2.2.1) < st.1 then
        .ok (Step.ret (st.2.1 + BitVec.ofNat 64 (BufR.ctz st.2.2.1),
          { st.2.2.2 with bitIndex := (BitVec.ofNat 64 st.2.2.2.bitIndex +
              (st.2.1 + BitVec.ofNat 64 (BufR.ctz st.2.2.1) + 1)).toNat }))
      else Res.bind st.2.2.2.data.readWord fun rw =>
        .ok (Step.next (64, st.2.1 + st.1, rw.1, { st.2.2.2 with data := rw.2 }))) :
    ∀ k (biw tot : Nat) (word : BitVec 64) (d : MemR 64), biw ≤ 64 → ix + tot + k * 64 < 2 ^ 64 →
      natOut (loopN k (BitVec.ofNat 64 biw, BitVec.ofNat 64 tot, word, (⟨d, ix⟩ : BitR)) f) =
        (BitR.unaryLoop .le k d word biw tot).map fun p => (p.1, ⟨p.2, ix + p.1 + 1⟩) :=
  (funext hf : f = unaryBody .le) ▸ loopN_unaryLoop .le ix

theorem setWordPos_data {d d0 : MemR 64} {p : Nat} (h : d.setWordPos p = .ok d0) :
    d0.data = d.data := by
  unfold MemR.setWordPos at h
  split at h
  · cases h
  · cases h; rfl

theorem readWord_data {d d1 : MemR 64} {w : BitVec 64} (h : d.readWord = .ok (w, d1)) :
    d1.data = d.data := by
  unfold MemR.readWord at h
  split at h
  · cases h; rfl
  · split at h
    · cases h
    · cases h; rfl

theorem off_ofNat (ix : Nat) : BitVec.ofNat 64 ix % 64 = BitVec.ofNat 64 (ix % 64) := by
  apply BitVec.eq_of_toNat_eq
  rw [BitVec.toNat_umod, BitVec.toNat_ofNat, BitVec.toNat_ofNat]
  show ix % 2 ^ 64 % 64 = ix % 64 % 2 ^ 64
  rw [Nat.mod_mod_of_dvd ix (by decide : 64 ∣ 2 ^ 64),
    Nat.mod_eq_of_lt (Nat.lt_trans (Nat.mod_lt ix (by decide)) (by decide))]

theorem biw_ofNat (ix : Nat) :
    (64 : BitVec 64) - BitVec.ofNat 64 (ix % 64) = BitVec.ofNat 64 (64 - ix % 64) := by
  have hm : ix % 64 < 64 := Nat.mod_lt ix (by decide)
  exact BitVec.ofNat_sub_ofNat_of_le 64 (ix % 64) (Nat.lt_trans hm (by decide)) (Nat.le_of_lt hm)

theorem read_unary_eq_aux (e : Endian) (s : BitR)
    (hfit : s.bitIndex + (s.data.data.length + 3) * 64 < 2 ^ 64) :
    natOut (Res.bind (s.data.setWordPos ((BitVec.ofNat 64 s.bitIndex) / 64).toNat) fun bk =>
      Res.bind bk.readWord fun rw =>
        loopN (rw.2.data.length + 3 - rw.2.pos)
          (64 - (BitVec.ofNat 64 s.bitIndex) % 64, (0 : BitVec 64),
            dropB e rw.1 ((BitVec.ofNat 64 s.bitIndex) % 64).toNat,
            ({ data := rw.2, bitIndex := s.bitIndex } : BitR)) (unaryBody e)) =
      BitR.readUnary e s := by
  obtain ⟨d, ix⟩ := s
  replace hfit : ix + (d.data.length + 3) * 64 < 2 ^ 64 := hfit
  have hix : ix < 2 ^ 64 := by omega
  rw [BitRd.readUnary_eq]
  simp only [idx_div ix hix, off_ofNat, biw_ofNat]
  cases hs : d.setWordPos (ix / 64) with
  | ok d0 =>
    simp only [Res.bind]
    cases hr : d0.readWord with
    | ok p =>
      obtain ⟨w, d1⟩ := p
      simp only
      have hd : d1.data.length = d.data.length := by
        rw [readWord_data hr, setWordPos_data hs]
      rw [ofNat_toNat_of_lt (ix % 64) (by omega)]
      refine (loopN_unaryLoop e ix (d1.data.length + 3 - d1.pos) (64 - ix % 64) 0 _ d1 (by omega)
        (by
          have : (d1.data.length + 3 - d1.pos) * 64 ≤ (d.data.length + 3) * 64 :=
            Nat.mul_le_mul_right _ (by omega)
          omega)).trans ?_
      cases BitR.unaryLoop e (d1.data.length + 3 - d1.pos) d1 (dropB e w (ix % 64)) (64 - ix % 64) 0 with
      | ok q => rfl
      | _ => rfl
    | _ => rfl
  | _ => rfl

/-- `hfit`: the position plus the bits of the data and of three more words still fits 64 bits -/
theorem read_unary_be_eq (s : BitR)
    (hfit : s.bitIndex + (s.data.data.length + 3) * 64 < 2 ^ 64) :
    natOut (Gen.BitR.read_unary_be s) = BitR.readUnary .be s :=
  read_unary_eq_aux .be s hfit

theorem read_unary_le_eq (s : BitR)
    (hfit : s.bitIndex + (s.data.data.length + 3) * 64 < 2 ^ 64) :
    natOut (Gen.BitR.read_unary_le s) = BitR.readUnary .le s :=
  read_unary_eq_aux .le s hfit

def genImpl (e : Endian) : RImpl BitR :=
  match e with
  | .be => { readBits := fun s n => natOut (Gen.BitR.read_bits_be s n),
             peekBits := Gen.BitR.peek_bits_be,
             skipAfterPeek := fun s n =>
               match Gen.BitR.skip_bits_after_peek_be s n with
               | .ok s' => s'
               | _ => s,
             skipBits := Gen.BitR.skip_bits_be,
             readUnary := fun s => natOut (Gen.BitR.read_unary_be s) }
  | .le => { readBits := fun s n => natOut (Gen.BitR.read_bits_le s n),
             peekBits := Gen.BitR.peek_bits_le,
             skipAfterPeek := fun s n =>
               match Gen.BitR.skip_bits_after_peek_le s n with
               | .ok s' => s'
               | _ => s,
             skipBits := Gen.BitR.skip_bits_le,
             readUnary := fun s => natOut (Gen.BitR.read_unary_le s) }

theorem genImpl_readBits (e : Endian) (s : BitR) (n : Nat) (h : s.bitIndex + n < 2 ^ 64) :
    (genImpl e).readBits s n = (BitR.impl e).readBits s n := by
  cases e
  · exact read_bits_be_eq s n h
  · exact read_bits_le_eq s n h

theorem genImpl_peekBits (e : Endian) (s : BitR) (n : Nat) (h : s.bitIndex < 2 ^ 64) :
    (genImpl e).peekBits s n = (BitR.impl e).peekBits s n := by
  cases e
  · exact peek_bits_be_eq s n h
  · exact peek_bits_le_eq s n h

theorem genImpl_skipAfterPeek (e : Endian) (s : BitR) (n : Nat) (h : s.bitIndex + n < 2 ^ 64) :
    (genImpl e).skipAfterPeek s n = (BitR.impl e).skipAfterPeek s n := by
  cases e
  · show (match Gen.BitR.skip_bits_after_peek_be s n with | .ok s' => s' | _ => s) = _
    rw [skip_bits_after_peek_be_eq s n h]; rfl
  · show (match Gen.BitR.skip_bits_after_peek_le s n with | .ok s' => s' | _ => s) = _
    rw [skip_bits_after_peek_le_eq s n h]; rfl

theorem genImpl_skipBits (e : Endian) (s : BitR) (n : Nat) (h : s.bitIndex + n < 2 ^ 64) :
    (genImpl e).skipBits s n = (BitR.impl e).skipBits s n := by
  cases e
  · exact skip_bits_be_eq s n h
  · exact skip_bits_le_eq s n h

theorem genImpl_readUnary (e : Endian) (s : BitR)
    (hfit : s.bitIndex + (s.data.data.length + 3) * 64 < 2 ^ 64) :
    (genImpl e).readUnary s = (BitR.impl e).readUnary s := by
  cases e
  · exact read_unary_be_eq s hfit
  · exact read_unary_le_eq s hfit

theorem gen_bitr_readBits_sim {e : Endian} {s : BitR} {r : RefR} (h : BitR.Rel' e s r) {n : Nat}
    (hn : n ≤ 64) (hfit : s.bitIndex + n < 2 ^ 64) :
    ResRel (fun (a, s') (b, r') => a = b ∧ BitR.Rel' e s' r')
      ((genImpl e).readBits s n) (RefR.readBits r n) := by
  rw [genImpl_readBits e s n hfit]
  exact bitr_readBits_sim h hn

theorem gen_bitr_peekBits_sim {e : Endian} {s : BitR} {r : RefR} (h : BitR.Rel' e s r) {n : Nat}
    (h1 : 1 ≤ n) (hn : n ≤ 32) (hfit : s.bitIndex < 2 ^ 64) :
    ResRel (fun (a, s') (b, r') => a = b ∧ BitR.Rel' e s' r')
      ((genImpl e).peekBits s n) (RefR.peekBits r n) := by
  rw [genImpl_peekBits e s n hfit]
  exact bitr_peekBits_sim h h1 hn

theorem gen_bitr_skipBits {e : Endian} {s : BitR} {r : RefR} (h : BitR.Rel' e s r) {n : Nat}
    (hav : r.avail n = true) (hfit : s.bitIndex + n < 2 ^ 64) :
    ResRel (fun s' r' => BitR.Rel' e s' r') ((genImpl e).skipBits s n) (RefR.skipBits r n) := by
  rw [genImpl_skipBits e s n hfit]
  exact bitr_skipBits h hav

theorem gen_bitr_readUnary_sim {e : Endian} {s : BitR} {r : RefR} (h : BitR.Rel' e s r)
    (hfit : s.bitIndex + (s.data.data.length + 3) * 64 < 2 ^ 64) :
    ResRel (fun (a, s') (b, r') => a = b ∧ BitR.Rel' e s' r')
      ((genImpl e).readUnary s) (RefR.readUnary r) := by
  rw [genImpl_readUnary e s hfit]
  exact bitr_readUnary_sim h

theorem gen_bitr_bitPos {e : Endian} {s : BitR} {r : RefR} (h : BitR.Rel e s r)
    (hfit : s.bitIndex < 2 ^ 64) :
    natOut (Gen.BitR.bit_pos_be s) = .ok (r.pos, s) ∧ natOut (Gen.BitR.bit_pos_le s) = .ok (r.pos, s) := by
  rw [bit_pos_be_eq s hfit, bit_pos_le_eq s hfit, bitr_bitPos h]
  exact ⟨rfl, rfl⟩

theorem gen_bitr_setBitPos {e : Endian} {s : BitR} {r : RefR} (h : BitR.Rel e s r) (p : BitVec 64) :
    (∃ s', Gen.BitR.set_bit_pos_be s p = .ok s' ∧ BitR.Rel e s' (r.seek p.toNat)) ∧
    (∃ s', Gen.BitR.set_bit_pos_le s p = .ok s' ∧ BitR.Rel e s' (r.seek p.toNat)) :=
  ⟨⟨_, set_bit_pos_be_eq s p, bitr_setBitPos h p.toNat⟩, ⟨_, set_bit_pos_le_eq s p, bitr_setBitPos h p.toNat⟩⟩

end GenBitR
end Dsi
