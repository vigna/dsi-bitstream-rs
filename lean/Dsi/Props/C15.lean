/-
  C15 — code statistics are exact, mergeable and order-independent.

  The model (`Dsi.Glue.Stats`) follows the source through the generated offsets
  (namespace `Dsi.Gen.Stats`, `Gen/StatsOffsets.lean`); the statements below compare it with
  `Stats.exact` / `Stats.bestSpec`, which spell out the documented slot assignment (ζ: k = i+1, Golomb: b = i+1, exp-Golomb: k = i,
  Rice: log2_b = i, π: k = i+2) without generated data.  A shifted offset, a family skipped by
  `add`, a changed scan order or comparison therefore breaks a proof here.
  u64 overflow is outside the model: the statements are about `Nat` totals and apply to the
  implementation whenever `Stats.fits` (every total `< 2^64`) holds.
-/
import Dsi.Glue.Stats
namespace Dsi
open Stats

theorem updateMany_eq (s : Stats) (n c : Nat) :
    s.updateMany n c =
      { total := s.total + c,
        unary := s.unary + (n + 1) * c,
        gamma := s.gamma + lenGammaD n * c,
        delta := s.delta + lenDeltaD n * c,
        omega := s.omega + lenOmega n * c,
        vbyte := s.vbyte + bitLenVByte n * c,
        zeta := s.zeta.mapIdx fun i x => x + lenZetaD n (i + 1) * c,
        golomb := s.golomb.mapIdx fun i x => x + lenGolomb n (i + 1) * c,
        expGolomb := s.expGolomb.mapIdx fun i x => x + lenExpGolombD n i * c,
        rice := s.rice.mapIdx fun i x => x + lenRice n i * c,
        pi := s.pi.mapIdx fun i x => x + lenPi n (i + 2) * c } := by
  have h : scalarInc .total n c = c := Nat.one_mul c
  rw [updateMany, h]
  rfl

theorem add_eq (s r : Stats) :
    s.add r =
      { total := s.total + r.total, unary := s.unary + r.unary, gamma := s.gamma + r.gamma,
        delta := s.delta + r.delta, omega := s.omega + r.omega, vbyte := s.vbyte + r.vbyte,
        zeta := List.zipWith (· + ·) s.zeta r.zeta,
        golomb := List.zipWith (· + ·) s.golomb r.golomb,
        expGolomb := List.zipWith (· + ·) s.expGolomb r.expGolomb,
        rice := List.zipWith (· + ·) s.rice r.rice,
        pi := List.zipWith (· + ·) s.pi r.pi } := rfl

theorem empty_eq :
    Stats.empty =
      { total := 0, unary := 0, gamma := 0, delta := 0, omega := 0, vbyte := 0,
        zeta := List.replicate 10 0, golomb := List.replicate 20 0, expGolomb := List.replicate 10 0,
        rice := List.replicate 10 0, pi := List.replicate 10 0 } := rfl

theorem sumLen_nil (f : Nat → Nat) : sumLen f [] = 0 := rfl

theorem sumLen_cons (f : Nat → Nat) (u : Nat × Nat) (us : List (Nat × Nat)) :
    sumLen f (u :: us) = u.2 * f u.1 + sumLen f us := by
  simp [sumLen]

theorem sumLen_append (f : Nat → Nat) (us vs : List (Nat × Nat)) :
    sumLen f (us ++ vs) = sumLen f us + sumLen f vs := by
  simp [sumLen, List.sum_append]

theorem sumLen_perm (f : Nat → Nat) {us vs : List (Nat × Nat)} (h : us.Perm vs) :
    sumLen f us = sumLen f vs :=
  (h.map _).sum_nat

theorem mapIdx_snd (l : List Nat) : (l.mapIdx fun _ x => x) = l := by
  apply List.ext_getElem <;> simp

theorem mapIdx_mapIdx_add (l : List Nat) (a b : Nat → Nat) :
    ((l.mapIdx fun i x => x + a i).mapIdx fun i x => x + b i) = l.mapIdx fun i x => x + (a i + b i) := by
  apply List.ext_getElem
  · simp
  · intro i h1 h2
    simp [Nat.add_assoc]

theorem replicate_mapIdx (n : Nat) (S : Nat → Nat) :
    ((List.replicate n 0).mapIdx fun i x => x + S i) = (List.range n).map S := by
  apply List.ext_getElem
  · simp
  · intro i h1 h2
    simp

theorem zipWith_range_map (n : Nat) (A B : Nat → Nat) :
    List.zipWith (· + ·) ((List.range n).map A) ((List.range n).map B) = (List.range n).map fun i => A i + B i := by
  apply List.ext_getElem
  · simp
  · intro i h1 h2
    simp

theorem applyUpdates_eq (us : List (Nat × Nat)) : ∀ s : Stats,
    applyUpdates s us =
      { total := s.total + (us.map (·.2)).sum,
        unary := s.unary + sumLen lenUnary us,
        gamma := s.gamma + sumLen lenGammaD us,
        delta := s.delta + sumLen lenDeltaD us,
        omega := s.omega + sumLen lenOmega us,
        vbyte := s.vbyte + sumLen bitLenVByte us,
        zeta := s.zeta.mapIdx fun i x => x + sumLen (lenZetaD · (i + 1)) us,
        golomb := s.golomb.mapIdx fun i x => x + sumLen (lenGolomb · (i + 1)) us,
        expGolomb := s.expGolomb.mapIdx fun i x => x + sumLen (lenExpGolombD · i) us,
        rice := s.rice.mapIdx fun i x => x + sumLen (lenRice · i) us,
        pi := s.pi.mapIdx fun i x => x + sumLen (lenPi · (i + 2)) us } := by
  induction us with
  | nil =>
    intro s
    simp [applyUpdates, sumLen_nil, mapIdx_snd]
  | cons u us ih =>
    intro s
    have h : applyUpdates s (u :: us) = applyUpdates (s.updateMany u.1 u.2) us := rfl
    rw [h, ih, updateMany_eq]
    simp only [mapIdx_mapIdx_add, sumLen_cons, List.map_cons, List.sum_cons, lenUnary,
      Nat.add_assoc, Nat.mul_comm u.2]

/-- After any list of `(value, count)` observations every tracked total is
    `Σ count · len_code(value)` with the documented parameter of its slot, and `total = Σ count`. -/
theorem update_many_exact (us : List (Nat × Nat)) : applyUpdates Stats.empty us = Stats.exact us := by
  rw [applyUpdates_eq, empty_eq]
  simp only [Stats.exact, replicate_mapIdx, Nat.zero_add]

theorem update_many_exact_fields (us : List (Nat × Nat)) :
    let s := applyUpdates Stats.empty us
    s.total = (us.map (·.2)).sum ∧ s.unary = sumLen (· + 1) us ∧ s.gamma = sumLen lenGammaD us ∧
    s.delta = sumLen lenDeltaD us ∧ s.omega = sumLen lenOmega us ∧ s.vbyte = sumLen bitLenVByte us ∧
    (∀ i, i < 10 → s.zeta[i]? = some (sumLen (lenZetaD · (i + 1)) us)) ∧
    (∀ i, i < 20 → s.golomb[i]? = some (sumLen (lenGolomb · (i + 1)) us)) ∧
    (∀ i, i < 10 → s.expGolomb[i]? = some (sumLen (lenExpGolombD · i) us)) ∧
    (∀ i, i < 10 → s.rice[i]? = some (sumLen (lenRice · i) us)) ∧
    (∀ i, i < 10 → s.pi[i]? = some (sumLen (lenPi · (i + 2)) us)) ∧
    s.zeta.length = 10 ∧ s.golomb.length = 20 ∧ s.expGolomb.length = 10 ∧ s.rice.length = 10 ∧
    s.pi.length = 10 := by
  intro s
  have h : s = Stats.exact us := update_many_exact us
  rw [h]
  simp +contextual [Stats.exact]
  rfl

/-- observing a value `count` times one by one (`update`) is `update_many(value, count)` -/
theorem update_iter (s : Stats) (n c : Nat) :
    applyUpdates s (List.replicate c (n, 1)) = s.updateMany n c := by
  have e : s.updateMany n c = applyUpdates s [(n, c)] := by simp [applyUpdates]
  rw [e, applyUpdates_eq, applyUpdates_eq]
  -- `c` copies of `(n, 1)` weigh what one `(n, c)` weighs
  have h1 : ∀ f : Nat → Nat, sumLen f (List.replicate c (n, 1)) = sumLen f [(n, c)] := fun f => by simp [sumLen]
  have h2 : ((List.replicate c (n, 1)).map (·.2)).sum = ([(n, c)].map (·.2)).sum := by simp
  simp only [h1, h2]

theorem update_eq (s : Stats) (n : Nat) : s.update n = s.updateMany n 1 := rfl

theorem add_exact (us vs : List (Nat × Nat)) :
    (Stats.exact us).add (Stats.exact vs) = Stats.exact (us ++ vs) := by
  rw [add_eq]
  simp only [Stats.exact, zipWith_range_map, sumLen_append, List.map_append, List.sum_append]

/-- Merging partial statistics equals observing the union -/
theorem add_is_union (us vs : List (Nat × Nat)) :
    (applyUpdates Stats.empty us).add (applyUpdates Stats.empty vs) = applyUpdates Stats.empty (us ++ vs) := by
  simp only [update_many_exact, add_exact]

theorem exact_perm {us vs : List (Nat × Nat)} (h : us.Perm vs) : Stats.exact us = Stats.exact vs := by
  simp only [Stats.exact, sumLen_perm _ h, (h.map _).sum_nat]

theorem exact_nil : Stats.exact [] = Stats.empty := by
  rw [← update_many_exact]; rfl

theorem mergeTree_eval (t : MergeTree) : t.eval = applyUpdates Stats.empty t.flatten := by
  induction t with
  | leaf us => rfl
  | node l r ihl ihr => simp only [MergeTree.eval, MergeTree.flatten, ihl, ihr, add_is_union]

/-- `sum()` over partial statistics is the statistics of the concatenation -/
theorem sum_exact (ls : List (List (Nat × Nat))) :
    Stats.sum (ls.map (applyUpdates Stats.empty)) = applyUpdates Stats.empty ls.flatten := by
  have key : ∀ (ls : List (List (Nat × Nat))) (acc : List (Nat × Nat)),
      (ls.map (applyUpdates Stats.empty)).foldl Stats.add (Stats.exact acc) = Stats.exact (acc ++ ls.flatten) := by
    intro ls
    induction ls with
    | nil => intro acc; simp
    | cons l ls ih =>
      intro acc
      simp only [List.map_cons, List.foldl_cons, update_many_exact, add_exact, ih, List.flatten_cons,
        List.append_assoc]
  have := key ls []
  rw [exact_nil] at this
  simpa [Stats.sum, update_many_exact] using this

/-- The result is invariant under any permutation of the observations and under any
    split-and-merge tree over them — every serialisation of concurrent `update`s through the
    mutex-protected wrapper, and every way of merging per-thread partial statistics, gives the
    sequential result. -/
theorem sum_perm :
    (∀ us vs : List (Nat × Nat), us.Perm vs →
      applyUpdates Stats.empty us = applyUpdates Stats.empty vs) ∧
    (∀ (t : MergeTree) (us : List (Nat × Nat)), t.flatten.Perm us →
      t.eval = applyUpdates Stats.empty us) := by
  refine ⟨fun us vs h => ?_, fun t us h => ?_⟩
  · simp only [update_many_exact, exact_perm h]
  · rw [mergeTree_eval]; simp only [update_many_exact, exact_perm h]

theorem candidates_eq (s : Stats) :
    (⟨Gen.Stats.bestInit.1, 0⟩, s.scalar Gen.Stats.bestInit.2) :: s.candidates = s.trackedCodes := by
  simp only [candidates, trackedCodes, Gen.Stats.bestScan, Gen.Stats.bestInit, scalar, family, List.flatMap_cons,
    List.flatMap_nil, List.append_nil, List.cons_append, List.nil_append, List.append_assoc, Nat.add_zero]

theorem map_snd_mapIdx (l : List Nat) (c : Nat → StatCodeId) :
    (l.mapIdx fun i x => (c i, x)).map (·.2) = l := by
  apply List.ext_getElem <;> simp

theorem trackedCodes_snd (s : Stats) : s.trackedCodes.map (·.2) = s.tracked := by
  simp only [trackedCodes, tracked, List.map_append, map_snd_mapIdx, List.map_cons, List.map_nil]

/-- the `check!` step keeps one of its two arguments, and the cheaper one -/
theorem bestStep_cases (strict : Bool) (a c : StatCodeId × Nat) :
    (bestStep strict a c = a ∧ a.2 ≤ c.2) ∨ (bestStep strict a c = c ∧ c.2 ≤ a.2) := by
  unfold bestStep
  cases strict <;> simp only [Bool.false_eq_true, if_false, if_true] <;> split
  · exact .inr ⟨rfl, ‹_›⟩
  · exact .inl ⟨rfl, by omega⟩
  · exact .inr ⟨rfl, by omega⟩
  · exact .inl ⟨rfl, by omega⟩

theorem foldl_bestStep (strict : Bool) (cs : List (StatCodeId × Nat)) : ∀ a : StatCodeId × Nat,
    let r := cs.foldl (bestStep strict) a
    r ∈ a :: cs ∧ ∀ c ∈ a :: cs, r.2 ≤ c.2 := by
  induction cs with
  | nil => exact fun a => ⟨List.mem_cons_self, fun c hc => by cases List.mem_singleton.1 hc; exact Nat.le_refl _⟩
  | cons c cs ih =>
    intro a
    obtain ⟨hm, hl⟩ := ih (bestStep strict a c)
    rw [List.foldl_cons]
    generalize cs.foldl (bestStep strict) (bestStep strict a c) = r at hm hl ⊢
    simp only [List.mem_cons, forall_eq_or_imp] at hm hl ⊢
    -- the kept one of `a`, `c` bounds the other
    rcases bestStep_cases strict a c with ⟨hb, hle⟩ | ⟨hb, hle⟩ <;> rw [hb] at hm hl
    · exact ⟨hm.imp id .inr, hl.1, Nat.le_trans hl.1 hle, hl.2⟩
    · exact ⟨.inr hm, Nat.le_trans hl.1 hle, hl.1, hl.2⟩

theorem totalOf_tracked (s : Stats) : ∀ c ∈ s.trackedCodes, s.totalOf c.1 = some c.2 := by
  intro c hc
  simp only [trackedCodes, List.mem_append, List.mem_cons, List.mem_mapIdx, List.not_mem_nil, or_false] at hc
  rcases hc with ((((h | h) | h) | h) | h) | h
  · rcases h with h | h | h | h | h <;> subst h <;> rfl
  all_goals
    obtain ⟨i, hi, rfl⟩ := h
    simp [totalOf, List.getElem?_eq_getElem hi]

/-- The returned cost is the minimum over all tracked totals (it is one of
    them and none is smaller), and the returned code's total equals it -/
theorem best_code_min (s : Stats) :
    s.bestCode.2 ∈ s.tracked ∧ (∀ t ∈ s.tracked, s.bestCode.2 ≤ t) ∧
    s.totalOf s.bestCode.1 = some s.bestCode.2 := by
  have h := foldl_bestStep Gen.Stats.bestStrict s.candidates
    (⟨Gen.Stats.bestInit.1, 0⟩, s.scalar Gen.Stats.bestInit.2)
  rw [candidates_eq] at h
  obtain ⟨hm, hl⟩ := h
  rw [← trackedCodes_snd]
  exact ⟨List.mem_map_of_mem hm, List.forall_mem_map.2 hl, totalOf_tracked s _ hm⟩

theorem firstMin_cons (c : StatCodeId × Nat) (cs : List (StatCodeId × Nat)) :
    firstMin (c :: cs) = some ((firstMin cs).elim c (bestStep true c)) := by
  rw [firstMin]
  cases firstMin cs with
  | none => rfl
  | some m => simp only [Option.elim, bestStep, if_true]; split <;> rfl

/-- the strict step is associative (ties go to the earlier candidate either way), so that the scan
    from the left finds what `firstMin` finds from the right -/
theorem bestStep_assoc (a c m : StatCodeId × Nat) :
    bestStep true (bestStep true a c) m = bestStep true a (bestStep true c m) := by
  simp only [bestStep, if_true]
  by_cases h2 : c.2 < a.2
  · have h : (if m.2 < c.2 then m else c).2 < a.2 := by split <;> omega
    rw [if_pos h2, if_pos h]
  · rw [if_neg h2]
    by_cases h1 : m.2 < c.2
    · rw [if_pos h1]
    · rw [if_neg h1, if_neg h2, if_neg (by omega)]

theorem foldl_bestStep_firstMin (cs : List (StatCodeId × Nat)) : ∀ a,
    some (cs.foldl (bestStep true) a) = firstMin (a :: cs) := by
  induction cs with
  | nil => intro a; rfl
  | cons c cs ih =>
    intro a
    rw [List.foldl_cons, ih, firstMin_cons, firstMin_cons a, firstMin_cons c]
    cases firstMin cs with
    | none => rfl
    | some m => exact congrArg some (bestStep_assoc a c m)

/-- The reported code is the first one, in the documented order
    (Unary, Gamma, Delta, Omega, VByteBe, Zeta(1..), Golomb(1..), ExpGolomb(0..), Rice(0..), Pi(2..)),
    among those with the least total -/
theorem best_code_first (s : Stats) : some s.bestCode = s.bestSpec := by
  have hs : Gen.Stats.bestStrict = true := rfl
  unfold bestCode bestSpec
  rw [hs, foldl_bestStep_firstMin, candidates_eq]

example : (applyUpdates Stats.empty [(5, 3), (0, 1)]).rice.take 3 = [19, 14, 15] := rfl
example : (applyUpdates Stats.empty [(5, 3), (0, 1)]).pi.take 2 = [18, 22] := rfl
example : (applyUpdates Stats.empty [(5, 3), (0, 1)]).total = 4 := rfl
set_option maxRecDepth 8000 in
example : (Stats.empty).bestCode = (⟨.unary, 0⟩, 0) := by decide
example : MergeTree.flatten (.node (.leaf [(1, 2)]) (.leaf [(3, 4)])) = [(1, 2), (3, 4)] := rfl

end Dsi
