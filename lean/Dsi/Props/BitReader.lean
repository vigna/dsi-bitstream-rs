/-
  Refinement L3 ⟶ L1 for the unbuffered bit reader `BitReader<E, WR>` (`BitR`, 64-bit words over a
  `MemR 64` backend): every operation of `BitR.impl e` simulates the reference reader `RefR`, and so
  does every reader program with bounded reads / peeks.

  Relations.
  * `BitR.Rel e s r` (from `SimFrame`): same endianness, strictness, `peekMax = 32`, the reference
    stream is the bits of the backend words, `r.pos = s.bitIndex`.  No constraint on the position:
    `skip_bits` / `set_bit_pos` of this reader only move the index and never fail, so the position
    can be beyond the end of a strict stream.
  * `BitR.Rel' e s r := BitR.Rel e s r ∧ r.avail 0`: on a strict stream the position is
    within the stream (`rel'_iff`).  It holds initially (`bitr_new_rel`) and is preserved by every
    operation on which the reference succeeds.

  Divergences between the model and the reference, all made explicit below.
  * `read_bits(n)`, `n > 64`: BE `panic` (`assert!`), LE `dpanic`, reference `dpanic`
    (`bitr_readBits_gt64`); the simulation is stated for `n ≤ 64`.
  * `read_bits(0)` returns `0` without touching the backend; the reference answers `err eof` on a
    strict stream at a position beyond the end (`bitr_readBits_zero_diverges`).  Under `Rel'` (or for
    `1 ≤ n` under plain `Rel`) there is no divergence.
  * `peek_bits(0)` returns `0`, the reference is `dpanic`; `peek_bits(n)`, `n > 32` is `panic`,
    the reference (`peekMax = 32`) `dpanic`: the simulation is stated for `1 ≤ n ≤ 32`.
  * `skip_bits(n)` never fails; the reference fails (`err eof`) when the skip leaves a strict
    stream.  `bitr_skipBits`: simulation when the reference succeeds (`r.avail n`);
    `bitr_skipBits_beyond`: otherwise the concrete skip succeeds and every following
    `read_bits (1 ≤ m ≤ 64)` / `peek_bits (1 ≤ m ≤ 32)` / `read_unary` fails with `err eof`.
-/
import Dsi.Lemmas.BitReaderUnary
import Dsi.Props.Reader
namespace Dsi

namespace BitR
def Rel' (e : Endian) (s : BitR) (r : RefR) : Prop := BitR.Rel e s r ∧ r.avail 0 = true
end BitR

namespace BitRd

theorem rel'_iff (e : Endian) (s : BitR) (r : RefR) :
    BitR.Rel' e s r ↔ BitR.Rel e s r ∧ (r.strict = true → r.pos ≤ r.stream.length) := by
  unfold BitR.Rel'
  rw [RefR.avail_iff]
  rfl

theorem ref_readBits_avail {r r' : RefR} {n v : Nat} (h : RefR.readBits r n = .ok (v, r')) :
    r'.avail 0 = true := by
  obtain ⟨hav, rfl⟩ := RefR.readBits_ok h
  exact hav

theorem ref_readUnary_avail {r r' : RefR} {v : Nat} (h : RefR.readUnary r = .ok (v, r')) :
    r'.avail 0 = true := by
  obtain ⟨hle, rfl⟩ := RefR.readUnary_ok h
  exact (RefR.avail_iff _ _).2 fun _ => hle

theorem lift' {e : Endian} {x : Res (Nat × BitR)} {y : Res (Nat × RefR)}
    (h : ResRel (fun a b => a.1 = b.1 ∧ BitR.Rel e a.2 b.2) x y)
    (hav : ∀ b, y = .ok b → b.2.avail 0 = true) :
    ResRel (fun (a, s') (b, r') => a = b ∧ BitR.Rel' e s' r') x y :=
  h.mono_ok fun _ b _ hb hab => ⟨hab.1, hab.2, hav b hb⟩

end BitRd

open BitRd

/-! ### concrete states used by the `example`s: a strict two-word backend, `bitIndex = 61`
    (three bits left in the first word) -/

def bitrExData : List (BitVec 64) := [0x1A5A5A5ADEADBEE8#64, 0x0123456789ABCDE8#64]

def bitrExS : BitR := { data := ⟨bitrExData, 0, true⟩, bitIndex := 61 }

def bitrExR (e : Endian) : RefR :=
  { e := e, stream := bitrExData.flatMap (wordBits e), pos := 61, strict := true, peekMax := 32 }

theorem bitrEx_rel (e : Endian) : BitR.Rel e bitrExS (bitrExR e) := ⟨rfl, rfl, rfl, rfl, rfl⟩

theorem bitrEx_rel' (e : Endian) : BitR.Rel' e bitrExS (bitrExR e) := by
  refine ⟨bitrEx_rel e, ?_⟩
  rw [RefR.avail_iff]
  intro _
  show 61 + 0 ≤ (bitrExData.flatMap (wordBits e)).length
  rw [length_flatMap_wordBits]
  decide

theorem bitr_readBits_sim {e : Endian} {s : BitR} {r : RefR} (h : BitR.Rel' e s r) {n : Nat}
    (hn : n ≤ 64) :
    ResRel (fun (a, s') (b, r') => a = b ∧ BitR.Rel' e s' r')
      (BitR.readBits e s n) (RefR.readBits r n) := by
  exact lift' (BitRd.readBits_sim h.1 h.2 hn) fun b hb => ref_readBits_avail (v := b.1) (r' := b.2) hb

/-- `read_bits(n)`, `1 ≤ n ≤ 64`, under the plain `Rel` (any position, even beyond the end) -/
theorem bitr_readBits_sim_of_pos {e : Endian} {s : BitR} {r : RefR} (h : BitR.Rel e s r) {n : Nat}
    (h1 : 1 ≤ n) (hn : n ≤ 64) :
    ResRel (fun (a, s') (b, r') => a = b ∧ BitR.Rel e s' r')
      (BitR.readBits e s n) (RefR.readBits r n) :=
  BitRd.readBits_sim_pos h h1 hn

/-- divergence: beyond 64 bits the BE reader panics in every build, the LE reader and the
    reference only under debug assertions -/
theorem bitr_readBits_gt64 (s : BitR) (r : RefR) {n : Nat} (hn : n > 64) :
    BitR.readBits .be s n = .panic ∧ BitR.readBits .le s n = .dpanic ∧ RefR.readBits r n = .dpanic := by
  have h0 : ¬ n = 0 := by omega
  simp [BitR.readBits, RefR.readBits, h0, hn]

/-- divergence: `Rel` alone does not give the simulation of `read_bits(0)`: on a strict
    one-word stream at position 65 the model returns `0`, the reference `err eof` -/
theorem bitr_readBits_zero_diverges :
    ∃ (s : BitR) (r : RefR), BitR.Rel .le s r ∧ BitR.readBits .le s 0 = .ok (0, s) ∧
      RefR.readBits r 0 = .err .eof ∧
      ¬ ResRel (fun (a, s') (b, r') => a = b ∧ BitR.Rel .le s' r')
          (BitR.readBits .le s 0) (RefR.readBits r 0) := by
  refine ⟨{ data := ⟨[0#64], 0, true⟩, bitIndex := 65 },
    { e := .le, stream := [0#64].flatMap (wordBits .le), pos := 65, strict := true, peekMax := 32 },
    ⟨rfl, rfl, rfl, rfl, rfl⟩, rfl, ?_, ?_⟩
  · simp [RefR.readBits, RefR.avail, length_wordBits]
  · simp [RefR.readBits, RefR.avail, length_wordBits, BitR.readBits, ResRel]

-- 7 bits across the word boundary (3 from the first word, 4 from the second)
example (e : Endian) : ResRel (fun (a, s') (b, r') => a = b ∧ BitR.Rel' e s' r')
    (BitR.readBits e bitrExS 7) (RefR.readBits (bitrExR e) 7) :=
  bitr_readBits_sim (bitrEx_rel' e) (by decide)

example : ∃ s', BitR.readBits .le bitrExS 7 = .ok (0x40, s') ∧ s'.bitIndex = 68 := ⟨_, rfl, rfl⟩
example : ∃ s', BitR.readBits .be bitrExS 7 = .ok (0, s') ∧ s'.bitIndex = 68 := ⟨_, rfl, rfl⟩

/-- `peek_bits(n)`, `1 ≤ n ≤ 32`: the truncation to 32 bits is the identity -/
theorem bitr_peekBits_sim {e : Endian} {s : BitR} {r : RefR} (h : BitR.Rel' e s r) {n : Nat}
    (h1 : 1 ≤ n) (hn : n ≤ 32) :
    ResRel (fun (a, s') (b, r') => a = b ∧ BitR.Rel' e s' r')
      (BitR.peekBits e s n) (RefR.peekBits r n) := by
  apply lift' (BitRd.peekBits_sim h.1 h1 hn)
  intro b hb
  rw [(RefR.peekBits_ok (v := b.1) (r' := b.2) hb).2]
  exact h.2

theorem bitr_peekBits_sim_rel {e : Endian} {s : BitR} {r : RefR} (h : BitR.Rel e s r) {n : Nat}
    (h1 : 1 ≤ n) (hn : n ≤ 32) :
    ResRel (fun (a, s') (b, r') => a = b ∧ BitR.Rel e s' r')
      (BitR.peekBits e s n) (RefR.peekBits r n) :=
  BitRd.peekBits_sim h h1 hn

theorem bitr_peekBits_pos {e : Endian} {s s' : BitR} {n v : Nat}
    (h : BitR.peekBits e s n = .ok (v, s')) : s'.bitIndex = s.bitIndex := by
  unfold BitR.peekBits at h
  split at h
  · cases h; rfl
  · split at h
    · cases h
    · split at h <;> cases h
      rfl

theorem bitr_peekBits_ref_pos {r r' : RefR} {n v : Nat} (h : RefR.peekBits r n = .ok (v, r')) :
    r' = r := (RefR.peekBits_ok h).2

theorem bitr_peekBits_out_of_range (e : Endian) (s : BitR) (r : RefR) (hpm : r.peekMax = 32) :
    BitR.peekBits e s 0 = .ok (0, s) ∧ RefR.peekBits r 0 = .dpanic ∧
    ∀ n, n > 32 → BitR.peekBits e s n = .panic ∧ RefR.peekBits r n = .dpanic := by
  refine ⟨by simp [BitR.peekBits], by simp [RefR.peekBits], ?_⟩
  intro n hn
  have h0 : ¬ n = 0 := by omega
  simp [BitR.peekBits, RefR.peekBits, h0, hn, hpm]

-- a 32-bit peek across the word boundary
example (e : Endian) : ResRel (fun (a, s') (b, r') => a = b ∧ BitR.Rel' e s' r')
    (BitR.peekBits e bitrExS 32) (RefR.peekBits (bitrExR e) 32) :=
  bitr_peekBits_sim (bitrEx_rel' e) (by decide) (by decide)

theorem bitr_skipAfterPeek' {e : Endian} {s : BitR} {r : RefR} (h : BitR.Rel' e s r) {k : Nat}
    (hk : r.avail k = true) :
    BitR.Rel' e (BitR.skipAfterPeek s k) (RefR.skipAfterPeek r k) := by
  refine ⟨BitRd.skipAfterPeek_rel h.1 k, ?_⟩
  rw [RefR.avail_iff] at hk ⊢
  exact hk

theorem bitr_skipAfterPeek_sim {e : Endian} {s s1 : BitR} {r : RefR} (h : BitR.Rel' e s r)
    {n v k : Nat} (h1 : 1 ≤ n) (hn : n ≤ 32) (hpk : BitR.peekBits e s n = .ok (v, s1)) (hk : k ≤ n) :
    BitR.Rel' e (BitR.skipAfterPeek s1 k) (RefR.skipAfterPeek r k) := by
  have hsim := BitRd.peekBits_sim h.1 h1 hn
  rw [hpk] at hsim
  obtain ⟨⟨b, r'⟩, hr, hab⟩ := hsim.of_ok_left
  obtain ⟨hav, rfl⟩ := RefR.peekBits_ok hr
  exact bitr_skipAfterPeek' ⟨hab.2, h.2⟩ (RefR.avail_mono hav hk)

example (e : Endian) : ∃ v s1, BitR.peekBits e bitrExS 8 = .ok (v, s1) ∧
    BitR.Rel' e (BitR.skipAfterPeek s1 7) (RefR.skipAfterPeek (bitrExR e) 7) := by
  cases e
  · exact ⟨_, _, rfl, bitr_skipAfterPeek_sim (n := 8) (bitrEx_rel' .be) (by decide) (by decide) rfl (by decide)⟩
  · exact ⟨_, _, rfl, bitr_skipAfterPeek_sim (n := 8) (bitrEx_rel' .le) (by decide) (by decide) rfl (by decide)⟩

/-- the concrete skip never fails and keeps `Rel` (`BitR.skipBits s n` is `.ok (BitR.skipAfterPeek s n)`,
    hence `BitRd.skipAfterPeek_rel`) -/
theorem bitr_skipBits_rel {e : Endian} {s : BitR} {r : RefR} (h : BitR.Rel e s r) (n : Nat) :
    ∃ s', BitR.skipBits s n = .ok s' ∧ BitR.Rel e s' { r with pos := r.pos + n } :=
  ⟨_, rfl, BitRd.skipAfterPeek_rel h n⟩

theorem bitr_skipBits {e : Endian} {s : BitR} {r : RefR} (h : BitR.Rel' e s r) {n : Nat}
    (hav : r.avail n = true) :
    ResRel (fun s' r' => BitR.Rel' e s' r') (BitR.skipBits s n) (RefR.skipBits r n) := by
  simp only [BitR.skipBits, RefR.skipBits, hav, if_true]
  exact bitr_skipAfterPeek' h hav

/-- when the reference skip fails (strict stream, the skip leaves it) the concrete skip succeeds,
    and the concrete reader fails at the next read / peek / unary read, with the same error -/
theorem bitr_skipBits_beyond {e : Endian} {s : BitR} {r : RefR} (h : BitR.Rel e s r) {n : Nat}
    (hav : r.avail n = false) :
    RefR.skipBits r n = .err .eof ∧
    ∃ s', BitR.skipBits s n = .ok s' ∧ BitR.Rel e s' { r with pos := r.pos + n } ∧
      (∀ m, 1 ≤ m → m ≤ 64 → BitR.readBits e s' m = .err .eof) ∧
      (∀ m, 1 ≤ m → m ≤ 32 → BitR.peekBits e s' m = .err .eof) ∧
      BitR.readUnary e s' = .err .eof := by
  have hrel := BitRd.skipAfterPeek_rel h n
  obtain ⟨hs, hlt⟩ := (RefR.avail_false_iff _ _).1 hav
  have hav' : ∀ m, (RefR.skipAfterPeek r n).avail m = false := fun m =>
    (RefR.avail_false_iff _ _).2 ⟨hs, by show r.stream.length < r.pos + n + m; omega⟩
  refine ⟨by rw [RefR.skipBits, hav]; rfl, _, rfl, hrel, ?_, ?_, ?_⟩
  · intro m h1 hm
    have := BitRd.readBits_sim_pos hrel h1 hm
    have c : ¬ m > 64 := by omega
    simp only [RefR.readBits, if_neg c, hav' m] at this
    exact this.of_err_right
  · intro m h1 hm
    have := BitRd.peekBits_sim hrel h1 hm
    have c : ¬ (m = 0 ∨ m > (RefR.skipAfterPeek r n).peekMax) := by
      show ¬ (m = 0 ∨ m > r.peekMax)
      rw [h.2.2.1]; omega
    simp only [RefR.peekBits, if_neg c, hav' m] at this
    exact this.of_err_right
  · have := BitRd.readUnary_sim hrel
    have hnone : RefR.readUnary (RefR.skipAfterPeek r n) = .err .eof := by
      rw [RefR.readUnary_none fun i => bitZ_of_ge (by show r.stream.length ≤ r.pos + n + i; omega)]
      show (if r.strict = true then _ else _) = _
      rw [if_pos hs]
    rw [hnone] at this
    exact this.of_err_right

-- 14 bits: into the second word
example (e : Endian) : ResRel (fun s' r' => BitR.Rel' e s' r')
    (BitR.skipBits bitrExS 14) (RefR.skipBits (bitrExR e) 14) :=
  bitr_skipBits (bitrEx_rel' e) (by
    rw [RefR.avail_iff]; intro _
    show 61 + 14 ≤ (bitrExData.flatMap (wordBits e)).length
    rw [length_flatMap_wordBits]; decide)

-- 68 bits: one bit beyond the end of the strict stream
example (e : Endian) : RefR.skipBits (bitrExR e) 68 = .err .eof ∧
    ∃ s', BitR.skipBits bitrExS 68 = .ok s' ∧ BitR.readBits e s' 1 = .err .eof := by
  obtain ⟨h1, s', h2, _, h3, _⟩ := bitr_skipBits_beyond (bitrEx_rel e) (n := 68) (by
    simp only [RefR.avail, bitrExR, length_flatMap_wordBits]; decide)
  exact ⟨h1, s', h2, h3 1 (by decide) (by decide)⟩

/-- no restriction: on a zero-extended stream with no one ahead the model runs out of fuel
    (`dpanic`) exactly where the reference is `dpanic`; on a strict stream both are `err eof` -/
theorem bitr_readUnary_sim {e : Endian} {s : BitR} {r : RefR} (h : BitR.Rel' e s r) :
    ResRel (fun (a, s') (b, r') => a = b ∧ BitR.Rel' e s' r')
      (BitR.readUnary e s) (RefR.readUnary r) :=
  lift' (BitRd.readUnary_sim h.1) (fun b hb => ref_readUnary_avail (v := b.1) (r' := b.2) hb)

theorem bitr_readUnary_sim_rel {e : Endian} {s : BitR} {r : RefR} (h : BitR.Rel e s r) :
    ResRel (fun (a, s') (b, r') => a = b ∧ BitR.Rel e s' r')
      (BitR.readUnary e s) (RefR.readUnary r) :=
  BitRd.readUnary_sim h

theorem bitr_readUnary_none {e : Endian} {s : BitR} {r : RefR} (h : BitR.Rel e s r)
    (hs : r.strict = false) (h0 : RefR.firstOne r.rest = none) :
    BitR.readUnary e s = .dpanic ∧ RefR.readUnary r = .dpanic := by
  have hr : RefR.readUnary r = .dpanic := by simp [RefR.readUnary, h0, hs]
  have := BitRd.readUnary_sim h
  rw [hr] at this
  refine ⟨?_, hr⟩
  match hx : BitR.readUnary e s, this with
  | .dpanic, _ => rfl

-- the terminating one is in the second word (LE: 3 + 3 zeros, BE: 3 + 7 zeros)
example (e : Endian) : ResRel (fun (a, s') (b, r') => a = b ∧ BitR.Rel' e s' r')
    (BitR.readUnary e bitrExS) (RefR.readUnary (bitrExR e)) :=
  bitr_readUnary_sim (bitrEx_rel' e)

example : ∃ s', BitR.readUnary .le bitrExS = .ok (6, s') ∧ s'.bitIndex = 68 := ⟨_, rfl, rfl⟩
example : ∃ s', BitR.readUnary .be bitrExS = .ok (10, s') ∧ s'.bitIndex = 72 := ⟨_, rfl, rfl⟩

theorem bitr_setBitPos {e : Endian} {s : BitR} {r : RefR} (h : BitR.Rel e s r) (p : Nat) :
    BitR.Rel e (BitR.setBitPos s p) (r.seek p) :=
  BitRd.setBitPos_rel h p

/-- `Rel'` after a seek within a strict stream (anywhere on a zero-extended one) -/
theorem bitr_setBitPos' {e : Endian} {s : BitR} {r : RefR} (h : BitR.Rel' e s r) {p : Nat}
    (hp : r.strict = true → p ≤ r.stream.length) :
    BitR.Rel' e (BitR.setBitPos s p) (r.seek p) := by
  refine ⟨BitRd.setBitPos_rel h.1 p, ?_⟩
  rw [RefR.avail_iff]
  exact hp

theorem bitr_bitPos {e : Endian} {s : BitR} {r : RefR} (h : BitR.Rel e s r) : s.bitPos = r.pos :=
  h.2.2.2.2.symm

example (e : Endian) : BitR.Rel' e (BitR.setBitPos bitrExS 100) ((bitrExR e).seek 100) :=
  bitr_setBitPos' (bitrEx_rel' e) (by
    intro _
    show 100 ≤ (bitrExData.flatMap (wordBits e)).length
    rw [length_flatMap_wordBits]; decide)

example (e : Endian) : bitrExS.bitPos = (bitrExR e).pos := bitr_bitPos (bitrEx_rel e)

theorem bitr_new_rel (e : Endian) (data : List (BitVec 64)) (wp : Nat) (strict : Bool) :
    BitR.Rel' e { data := ⟨data, wp, strict⟩ }
      { e := e, stream := data.flatMap (wordBits e), pos := 0, strict := strict, peekMax := 32 } := by
  refine ⟨⟨rfl, rfl, rfl, rfl, rfl⟩, ?_⟩
  rw [RefR.avail_iff]
  intro _
  exact Nat.zero_le _

example (e : Endian) : BitR.Rel' e { data := ⟨bitrExData, 0, true⟩ }
    { e := e, stream := bitrExData.flatMap (wordBits e), pos := 0, strict := true, peekMax := 32 } :=
  bitr_new_rel e _ _ _

namespace BitR

/-- `ProgOK c p`: every `readBits` of `p` asks for at most 64 bits, every `peek` for between 1 and
    32 bits, and every `skipAfterPeek k` is covered by the credit of peeked bits: `c` initially, `n`
    after a successful `peek n`, the remainder after a `skipAfterPeek`, nothing after any other
    operation.  (`PeekBounded 32 c p` of the buffered reader plus `ReadBounds p`, the bounds `n ≤ 64` on
    reads and `1 ≤ n` on peeks that this reader needs: `progOK_of_peekBounded`.) -/
def ProgOK {α : Type} : Nat → RProg α → Prop
  | _, .ret _ => True
  | _, .fail _ => True
  | _, .panic => True
  | _, .dpanic => True
  | _, .readBits n k => n ≤ 64 ∧ ∀ v, ProgOK 0 (k v)
  | _, .readUnary k => ∀ v, ProgOK 0 (k v)
  | c, .peek n k => 1 ≤ n ∧ n ≤ 32 ∧ (∀ v, ProgOK n (k (.ok v))) ∧ (∀ x, ProgOK c (k (.error x)))
  | c, .skipAfterPeek n k => n ≤ c ∧ ProgOK (c - n) k
  | _, .skip _ k => ProgOK 0 k

/-- `NoEofSkip p r`: run on the reference reader `r`, the program `p` never executes a `skip` that
    fails (i.e. that leaves a strict stream).  This is where the concrete `skip_bits`, which never
    fails, diverges. -/
def NoEofSkip {α : Type} : RProg α → RefR → Prop
  | .ret _, _ => True
  | .fail _, _ => True
  | .panic, _ => True
  | .dpanic, _ => True
  | .readBits n k, r => ∀ v r', RefR.readBits r n = .ok (v, r') → NoEofSkip (k v) r'
  | .readUnary k, r => ∀ v r', RefR.readUnary r = .ok (v, r') → NoEofSkip (k v) r'
  | .peek n k, r => (∀ v r', RefR.peekBits r n = .ok (v, r') → NoEofSkip (k (.ok v)) r') ∧
      (∀ x, RefR.peekBits r n = .err x → NoEofSkip (k (.error x)) r)
  | .skipAfterPeek n k, r => NoEofSkip k (RefR.skipAfterPeek r n)
  | .skip n k, r => r.avail n = true ∧ NoEofSkip k { r with pos := r.pos + n }

def NoSkip {α : Type} : RProg α → Prop
  | .ret _ => True
  | .fail _ => True
  | .panic => True
  | .dpanic => True
  | .readBits _ k => ∀ v, NoSkip (k v)
  | .readUnary k => ∀ v, NoSkip (k v)
  | .peek _ k => ∀ v, NoSkip (k v)
  | .skipAfterPeek _ k => NoSkip k
  | .skip _ _ => False

end BitR

theorem noEofSkip_of_noSkip {α : Type} (p : RProg α) (hp : BitR.NoSkip p) (r : RefR) :
    BitR.NoEofSkip p r := by
  induction p generalizing r with
  | readBits n k ih => intro v r' _; exact ih v (hp v) r'
  | readUnary k ih => intro v r' _; exact ih v (hp v) r'
  | peek n k ih => exact ⟨fun v r' _ => ih (.ok v) (hp (.ok v)) r', fun x _ => ih (.error x) (hp (.error x)) r⟩
  | skipAfterPeek n k ih => exact ih hp _
  | skip n k ih => exact hp.elim
  | _ => trivial

def BitR.ReadBounds {α : Type} : RProg α → Prop
  | .ret _ => True
  | .fail _ => True
  | .panic => True
  | .dpanic => True
  | .readBits n k => n ≤ 64 ∧ ∀ v, ReadBounds (k v)
  | .readUnary k => ∀ v, ReadBounds (k v)
  | .peek n k => 1 ≤ n ∧ ∀ v, ReadBounds (k v)
  | .skipAfterPeek _ k => ReadBounds k
  | .skip _ k => ReadBounds k

theorem progOK_of_peekBounded {α : Type} (p : RProg α) (c : Nat) (h1 : PeekBounded 32 c p)
    (h2 : BitR.ReadBounds p) : BitR.ProgOK c p := by
  induction p generalizing c with
  | readBits n k ih => exact ⟨h2.1, fun v => ih v 0 (h1 v) (h2.2 v)⟩
  | readUnary k ih => exact fun v => ih v 0 (h1 v) (h2 v)
  | peek n k ih =>
    exact ⟨h2.1, h1.1, fun v => ih (.ok v) n (h1.2.1 v) (h2.2 (.ok v)),
      fun x => ih (.error x) c (h1.2.2 x) (h2.2 (.error x))⟩
  | skipAfterPeek n k ih => exact ⟨h1.1, ih (c - n) h1.2 h2⟩
  | skip n k ih => exact ih 0 h1 h2
  | _ => trivial

theorem noEofSkip_of_nonstrict {α : Type} (p : RProg α) (r : RefR) (hs : r.strict = false) :
    BitR.NoEofSkip p r := by
  induction p generalizing r with
  | readBits n k ih => intro v r' h; exact ih v r' ((RefR.readBits_ok h).2 ▸ hs)
  | readUnary k ih => intro v r' h; exact ih v r' ((RefR.readUnary_ok h).2 ▸ hs)
  | peek n k ih =>
    exact ⟨fun v r' h => (RefR.peekBits_ok h).2 ▸ ih (.ok v) r hs, fun x _ => ih (.error x) r hs⟩
  | skipAfterPeek n k ih => exact ih _ hs
  | skip n k ih => exact ⟨(RefR.avail_iff _ _).2 fun h => (by rw [hs] at h; cases h), ih _ hs⟩
  | _ => trivial

/-- what relates the states from which `p` is about to run: the credit is available on the
    reference side, and the reference run of `p` never skips out of a strict stream -/
private def Cred {α : Type} (e : Endian) (p : RProg α) (s : BitR) (r : RefR) : Prop :=
  ∃ c, BitR.ProgOK c p ∧ BitR.Rel e s r ∧ r.avail c = true ∧ BitR.NoEofSkip p r

private theorem cred_simIx {α : Type} (e : Endian) :
    RImpl.SimIx (BitR.impl e) RefR.impl (Cred (α := α) e) where
  readBits := fun ⟨_, hp, h, hc, hk⟩ =>
    (BitRd.readBits_sim h (RefR.avail_mono hc (Nat.zero_le _)) hp.1).mono_ok fun a b _ hb hab =>
      ⟨hab.1, 0, hp.2 a.1, hab.2, ref_readBits_avail hb, hab.1 ▸ hk b.1 b.2 hb⟩
  readUnary := fun ⟨_, hp, h, _, hk⟩ =>
    (BitRd.readUnary_sim h).mono_ok fun a b _ hb hab =>
      ⟨hab.1, 0, hp a.1, hab.2, ref_readUnary_avail hb, hab.1 ▸ hk b.1 b.2 hb⟩
  peekBits := fun {n _ _ r} ⟨c, ⟨h1, hn, hok, herr⟩, h, hc, hk1, hk2⟩ =>
    ⟨(BitRd.peekBits_sim h h1 hn).mono_ok fun a b _ hb hab =>
        ⟨hab.1, n, hok a.1, hab.2, (RefR.peekBits_ok hb).2 ▸ (RefR.peekBits_ok hb).1,
          hab.1 ▸ hk1 b.1 b.2 hb⟩,
      fun x hx => ⟨c, herr x, h, hc, hk2 x hx⟩⟩
  skipAfterPeek := fun {n _ _ r} ⟨c, ⟨hn, hk⟩, h, hc, hskip⟩ =>
    ⟨c - n, hk, BitRd.skipAfterPeek_rel h n, by
      rw [RefR.avail_iff] at hc ⊢
      intro hs
      have := hc hs
      show r.pos + n + (c - n) ≤ r.stream.length
      omega, hskip⟩
  skipBits := fun {n _ _ r} ⟨_, hp, h, _, hav, hk⟩ => by
    show ResRel _ (.ok _) (RefR.skipBits r n)
    rw [RefR.skipBits, if_pos hav]
    exact ⟨0, hp, BitRd.skipAfterPeek_rel h n, hav, hk⟩

theorem bitr_rprog_sim_credit {α : Type} {e : Endian} (p : RProg α) (c : Nat) (hp : BitR.ProgOK c p)
    {s : BitR} {r : RefR} (h : BitR.Rel e s r) (hc : r.avail c = true) (hskip : BitR.NoEofSkip p r) :
    ResRel (fun (a, s') (b, r') => a = b ∧ BitR.Rel' e s' r')
      (p.run (BitR.impl e) s) (p.run RefR.impl r) :=
  RProg.run_simIx (cred_simIx e) (fun ⟨_, _, h, hc, _⟩ => ⟨h, RefR.avail_mono hc (Nat.zero_le _)⟩) p
    ⟨c, hp, h, hc, hskip⟩

/-- every reader program with reads of at most 64 bits and covered peeks of 1 to 32 bits runs
    identically (related outcomes, related final states) on the unbuffered reader and on the
    reference reader, as long as the reference run never skips out of a strict stream -/
theorem bitr_rprog_sim {α : Type} {e : Endian} (p : RProg α) (hp : BitR.ProgOK 0 p)
    {s : BitR} {r : RefR} (h : BitR.Rel' e s r) (hskip : BitR.NoEofSkip p r) :
    ResRel (fun (a, s') (b, r') => a = b ∧ BitR.Rel' e s' r')
      (p.run (BitR.impl e) s) (p.run RefR.impl r) :=
  bitr_rprog_sim_credit p 0 hp h.1 h.2 hskip

/-- no side condition on a zero-extended stream -/
theorem bitr_rprog_sim_nonstrict {α : Type} {e : Endian} (p : RProg α) (hp : BitR.ProgOK 0 p)
    {s : BitR} {r : RefR} (h : BitR.Rel e s r) (hs : r.strict = false) :
    ResRel (fun (a, s') (b, r') => a = b ∧ BitR.Rel' e s' r')
      (p.run (BitR.impl e) s) (p.run RefR.impl r) :=
  bitr_rprog_sim_credit p 0 hp h (by simp [RefR.avail, hs]) (noEofSkip_of_nonstrict p r hs)

/-- no side condition for a program without `skip` (all the code readers) -/
theorem bitr_rprog_sim_noSkip {α : Type} {e : Endian} (p : RProg α) (hp : BitR.ProgOK 0 p)
    (hns : BitR.NoSkip p) {s : BitR} {r : RefR} (h : BitR.Rel' e s r) :
    ResRel (fun (a, s') (b, r') => a = b ∧ BitR.Rel' e s' r')
      (p.run (BitR.impl e) s) (p.run RefR.impl r) :=
  bitr_rprog_sim p hp h (noEofSkip_of_noSkip p hns r)

/-- a program mixing every operation: peek across the word boundary, partial skip, a read, a skip
    that stays inside the stream, a unary read -/
def bitrExProg : RProg Nat :=
  .peek 9 (fun
    | .ok idx => .skipAfterPeek 5 (.readBits 20 (fun v => .skip 3 (.readUnary (fun u => .ret (idx + v + u)))))
    | .error _ => .readUnary .ret)

theorem bitrExProg_ok : BitR.ProgOK 0 bitrExProg :=
  ⟨by decide, by decide, fun _ => ⟨by decide, by decide, fun _ => fun _ => trivial⟩, fun _ => fun _ => trivial⟩

theorem bitrExProg_noEofSkip (e : Endian) : BitR.NoEofSkip bitrExProg (bitrExR e) := by
  refine ⟨?_, fun _ _ => fun _ _ _ => trivial⟩
  intro v r' h
  rw [(RefR.peekBits_ok h).2]
  intro v2 r2 h2
  refine ⟨?_, fun _ _ _ => trivial⟩
  rw [(RefR.readBits_ok h2).2, RefR.avail_iff]
  intro _
  show 61 + 5 + 20 + 3 ≤ (bitrExData.flatMap (wordBits e)).length
  rw [length_flatMap_wordBits]; decide

example (e : Endian) : ResRel (fun (a, s') (b, r') => a = b ∧ BitR.Rel' e s' r')
    (bitrExProg.run (BitR.impl e) bitrExS) (bitrExProg.run RefR.impl (bitrExR e)) :=
  bitr_rprog_sim bitrExProg bitrExProg_ok (bitrEx_rel' e) (bitrExProg_noEofSkip e)

end Dsi
