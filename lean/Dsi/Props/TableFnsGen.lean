/-
  The generated table functions and `*Param` trait impls (lean/Dsi/Gen/TableFns.lean, produced by
  tools/translate_codes2.py from src/codes/{gamma,delta,zeta}_tables.rs and
  src/codes/{gamma,delta,zeta}.rs on every run) against the hand-written programs of
  Dsi/Codes.lean / Dsi/Defaults.lean.

  * `read_table_be/le`: `readTable (xRTab e) fb` is the generated function followed by the
    caller's `if let Some((res, _)) = .. { return Ok(res) } fb`, up to the order of the two bounds
    checks (`Guarded`: the hand-written program checks both indices before skipping); with tables
    of equal size the two are equal (`*_eq`).
  * `len_table_be/le` is `read_table_be/le` with the value dropped.
  * `write_table_be/le` followed by the caller's `if let Some(len) = ..? { return Ok(len) } fb`
    is `writeTable (xWTab e) n fb`.
  * the `*Param` impls are `readGammaP e t`, `readDeltaP e td tg`, `readZeta3P e t`,
    `writeGammaP e checks t n`, ... : which table module and which endianness each impl uses is
    part of the generated text, so is checked here.
-/
import Dsi.Defaults
import Dsi.Gen.TableFns
import Dsi.Props.CodeBodiesGen
namespace Dsi
namespace TableFnsGen
open Gen CodeBodiesGen

/-- the text of `read_table_be/le` over arbitrary constants -/
def readTableG (bits missing : Nat) (vals lens : Array Nat) : RProg (Option (Nat × Nat)) :=
  .peek bits fun
  | .ok idx =>
    (match lens[idx]? with
    | none => .panic
    | some len =>
    if len ≠ missing then
      (.skipAfterPeek len <|
      match vals[idx]? with
      | none => .panic
      | some r1 =>
      .ret (some (r1, len)))
    else
      .ret none)
  | .error _ =>
    (.ret none)

/-- the text of `len_table_be/le` -/
def lenTableG (bits missing : Nat) (lens : Array Nat) : RProg (Option Nat) :=
  .peek bits fun
  | .ok idx =>
    (match lens[idx]? with
    | none => .panic
    | some len =>
    if len ≠ missing then
      (.skipAfterPeek len <|
      .ret (some len))
    else
      .ret none)
  | .error _ =>
    (.ret none)

/-- the text of `write_table_be/le` -/
def writeTableG (vals lens : Array Nat) (value : Nat) : WProg (Option Nat) :=
  match vals[value]? with
  | some bits =>
    (match lens[value]? with
    | none => .panic
    | some len =>
    .writeBits bits len fun _ =>
    .ret (some len))
  | none =>
    (.ret none)

/-- the caller's `if let Some((res, _)) = read_table(self) { return Ok(res); } fb` -/
def orElseR (fb : RProg Nat) : Option (Nat × Nat) → RProg Nat
  | some (res, _) => .ret res
  | none => fb

/-- the caller's `if let Some(len) = write_table(self, n)? { return Ok(len); } fb` -/
def orElseW (fb : WProg Nat) : Option Nat → WProg Nat
  | some len => .ret len
  | none => fb

theorem readTableG_guarded (bits missing : Nat) (vals lens : Array Nat) {fb fb' : RProg Nat}
    (hf : Guarded fb fb') :
    Guarded (readTable { readBits := bits, missing := missing, vals := vals, lens := lens } fb)
      ((readTableG bits missing vals lens).bind (orElseR fb')) := by
  unfold readTable readTableG
  simp only [RProg.bind]
  refine Guarded.peek _ fun r => ?_
  cases r with
  | error e => exact hf
  | ok idx =>
    simp only
    cases hl : lens[idx]? with
    | none => exact Guarded.panic _
    | some len =>
      cases hv : vals[idx]? with
      | none => exact Guarded.panic _
      | some v =>
        simp only
        split
        · simp only [RProg.bind, orElseR]; exact Guarded.refl _
        · exact hf

theorem getElem?_none_of_size {a b : Array Nat} {i v : Nat} (h : a.size = b.size) (hb : b[i]? = some v) :
    a[i]? ≠ none := by
  intro ha
  have h1 : a.size ≤ i := Array.getElem?_eq_none_iff.mp ha
  have h2 : i < b.size := by
    rcases Nat.lt_or_ge i b.size with h | h
    · exact h
    · rw [Array.getElem?_eq_none_iff.mpr h] at hb; cases hb
  omega

/-- with tables of equal size the order of the two bounds checks does not matter -/
theorem readTableG_eq (bits missing : Nat) (vals lens : Array Nat) (h : vals.size = lens.size)
    (fb : RProg Nat) :
    (readTableG bits missing vals lens).bind (orElseR fb)
      = readTable { readBits := bits, missing := missing, vals := vals, lens := lens } fb := by
  unfold readTable readTableG
  simp only [RProg.bind]
  congr 1
  funext r
  cases r with
  | error e => rfl
  | ok idx =>
    simp only
    cases hl : lens[idx]? with
    | none => rfl
    | some len =>
      cases hv : vals[idx]? with
      | none => exact absurd hv (getElem?_none_of_size h hl)
      | some v =>
        simp only
        split
        · simp only [RProg.bind, orElseR]
        · rfl

/-- `len_table` is `read_table` with the value dropped (which has one more bounds check) -/
theorem lenTableG_guarded (bits missing : Nat) (vals lens : Array Nat) :
    Guarded ((readTableG bits missing vals lens).bind fun o => .ret (o.map Prod.snd))
      (lenTableG bits missing lens) := by
  unfold lenTableG readTableG
  simp only [RProg.bind]
  refine Guarded.peek _ fun r => ?_
  cases r with
  | error e => exact Guarded.refl _
  | ok idx =>
    simp only
    cases hl : lens[idx]? with
    | none => exact Guarded.refl _
    | some len =>
      simp only
      split
      · simp only [RProg.bind]
        refine Guarded.skipAfterPeek _ ?_
        cases hv : vals[idx]? with
        | none => exact Guarded.panic _
        | some v => exact Guarded.refl _
      · exact Guarded.refl _

theorem lenTableG_eq (bits missing : Nat) (vals lens : Array Nat) (h : vals.size = lens.size) :
    lenTableG bits missing lens
      = (readTableG bits missing vals lens).bind fun o => .ret (o.map Prod.snd) := by
  unfold lenTableG readTableG
  simp only [RProg.bind]
  congr 1
  funext r
  cases r with
  | error e => rfl
  | ok idx =>
    simp only
    cases hl : lens[idx]? with
    | none => rfl
    | some len =>
      simp only
      split
      · simp only [RProg.bind]
        cases hv : vals[idx]? with
        | none => exact absurd hv (getElem?_none_of_size h hl)
        | some v => rfl
      · rfl

theorem writeTableG_eq (vals lens : Array Nat) (n : Nat) (fb : WProg Nat) :
    (writeTableG vals lens n).bind (orElseW fb) = writeTable { vals := vals, lens := lens } n fb := by
  unfold writeTable writeTableG
  cases hv : vals[n]? with
  | none => rfl
  | some bits =>
    simp only
    cases hl : lens[n]? with
    | none => rfl
    | some len => rfl

/-! ### the generated functions have that shape (this is where the constant and array names used
    by each function are checked) -/

def gammaReadTable : Endian → RProg (Option (Nat × Nat))
  | .be => Gen.Gamma.read_table_be
  | .le => Gen.Gamma.read_table_le
def deltaReadTable : Endian → RProg (Option (Nat × Nat))
  | .be => Gen.Delta.read_table_be
  | .le => Gen.Delta.read_table_le
def zetaReadTable : Endian → RProg (Option (Nat × Nat))
  | .be => Gen.Zeta.read_table_be
  | .le => Gen.Zeta.read_table_le
def gammaLenTable : Endian → RProg (Option Nat)
  | .be => Gen.Gamma.len_table_be
  | .le => Gen.Gamma.len_table_le
def deltaLenTable : Endian → RProg (Option Nat)
  | .be => Gen.Delta.len_table_be
  | .le => Gen.Delta.len_table_le
def zetaLenTable : Endian → RProg (Option Nat)
  | .be => Gen.Zeta.len_table_be
  | .le => Gen.Zeta.len_table_le
def gammaWriteTable : Endian → Nat → WProg (Option Nat)
  | .be => Gen.Gamma.write_table_be
  | .le => Gen.Gamma.write_table_le
def deltaWriteTable : Endian → Nat → WProg (Option Nat)
  | .be => Gen.Delta.write_table_be
  | .le => Gen.Delta.write_table_le
def zetaWriteTable : Endian → Nat → WProg (Option Nat)
  | .be => Gen.Zeta.write_table_be
  | .le => Gen.Zeta.write_table_le

/- The generated text and the generic shapes use differently compiled `match`es, and to compare
   them the kernel unfolds both and tries to evaluate `T[idx]?` on the concrete tables of up to
   4096 entries.  So each comparison is made with the tables as variables (`generalize`) in a lemma
   of its own (`as_aux_lemma`; otherwise the proof term is `rfl` on the concrete tables again),
   and for `write_table` between the functions, not their values at `n`.  The elaborator is kept
   from the same evaluation, here and for the `*Param` impls, by making the tables irreducible. -/
attribute [local irreducible] Gamma.READ_BE Gamma.READ_LEN_BE Gamma.READ_LE Gamma.READ_LEN_LE
  Gamma.WRITE_BE Gamma.WRITE_LEN_BE Gamma.WRITE_LE Gamma.WRITE_LEN_LE
  Delta.READ_BE Delta.READ_LEN_BE Delta.READ_LE Delta.READ_LEN_LE
  Delta.WRITE_BE Delta.WRITE_LEN_BE Delta.WRITE_LE Delta.WRITE_LEN_LE
  Zeta.READ_BE Zeta.READ_LEN_BE Zeta.READ_LE Zeta.READ_LEN_LE
  Zeta.WRITE_BE Zeta.WRITE_LEN_BE Zeta.WRITE_LE Zeta.WRITE_LEN_LE

theorem gamma_read_table_shape :
    Gen.Gamma.read_table_be = readTableG Gamma.READ_BITS Gamma.MISSING_VALUE_LEN_BE Gamma.READ_BE Gamma.READ_LEN_BE ∧
    Gen.Gamma.read_table_le = readTableG Gamma.READ_BITS Gamma.MISSING_VALUE_LEN_LE Gamma.READ_LE Gamma.READ_LEN_LE := by
  delta Gen.Gamma.read_table_be Gen.Gamma.read_table_le
  generalize Gamma.READ_BE = vb, Gamma.READ_LEN_BE = lb, Gamma.READ_LE = vl, Gamma.READ_LEN_LE = ll
  as_aux_lemma => exact ⟨rfl, rfl⟩
theorem gamma_len_table_shape :
    Gen.Gamma.len_table_be = lenTableG Gamma.READ_BITS Gamma.MISSING_VALUE_LEN_BE Gamma.READ_LEN_BE ∧
    Gen.Gamma.len_table_le = lenTableG Gamma.READ_BITS Gamma.MISSING_VALUE_LEN_LE Gamma.READ_LEN_LE := by
  delta Gen.Gamma.len_table_be Gen.Gamma.len_table_le
  generalize Gamma.READ_LEN_BE = lb, Gamma.READ_LEN_LE = ll
  as_aux_lemma => exact ⟨rfl, rfl⟩
theorem gamma_write_table_shape (n : Nat) :
    Gen.Gamma.write_table_be n = writeTableG Gamma.WRITE_BE Gamma.WRITE_LEN_BE n ∧
    Gen.Gamma.write_table_le n = writeTableG Gamma.WRITE_LE Gamma.WRITE_LEN_LE n := by
  have h : Gen.Gamma.write_table_be = writeTableG Gamma.WRITE_BE Gamma.WRITE_LEN_BE ∧
      Gen.Gamma.write_table_le = writeTableG Gamma.WRITE_LE Gamma.WRITE_LEN_LE := by
    delta Gen.Gamma.write_table_be Gen.Gamma.write_table_le
    generalize Gamma.WRITE_BE = vb, Gamma.WRITE_LEN_BE = lb, Gamma.WRITE_LE = vl, Gamma.WRITE_LEN_LE = ll
    as_aux_lemma => exact ⟨rfl, rfl⟩
  exact ⟨congrFun h.1 n, congrFun h.2 n⟩
theorem delta_read_table_shape :
    Gen.Delta.read_table_be = readTableG Delta.READ_BITS Delta.MISSING_VALUE_LEN_BE Delta.READ_BE Delta.READ_LEN_BE ∧
    Gen.Delta.read_table_le = readTableG Delta.READ_BITS Delta.MISSING_VALUE_LEN_LE Delta.READ_LE Delta.READ_LEN_LE := by
  delta Gen.Delta.read_table_be Gen.Delta.read_table_le
  generalize Delta.READ_BE = vb, Delta.READ_LEN_BE = lb, Delta.READ_LE = vl, Delta.READ_LEN_LE = ll
  as_aux_lemma => exact ⟨rfl, rfl⟩
theorem delta_len_table_shape :
    Gen.Delta.len_table_be = lenTableG Delta.READ_BITS Delta.MISSING_VALUE_LEN_BE Delta.READ_LEN_BE ∧
    Gen.Delta.len_table_le = lenTableG Delta.READ_BITS Delta.MISSING_VALUE_LEN_LE Delta.READ_LEN_LE := by
  delta Gen.Delta.len_table_be Gen.Delta.len_table_le
  generalize Delta.READ_LEN_BE = lb, Delta.READ_LEN_LE = ll
  as_aux_lemma => exact ⟨rfl, rfl⟩
theorem delta_write_table_shape (n : Nat) :
    Gen.Delta.write_table_be n = writeTableG Delta.WRITE_BE Delta.WRITE_LEN_BE n ∧
    Gen.Delta.write_table_le n = writeTableG Delta.WRITE_LE Delta.WRITE_LEN_LE n := by
  have h : Gen.Delta.write_table_be = writeTableG Delta.WRITE_BE Delta.WRITE_LEN_BE ∧
      Gen.Delta.write_table_le = writeTableG Delta.WRITE_LE Delta.WRITE_LEN_LE := by
    delta Gen.Delta.write_table_be Gen.Delta.write_table_le
    generalize Delta.WRITE_BE = vb, Delta.WRITE_LEN_BE = lb, Delta.WRITE_LE = vl, Delta.WRITE_LEN_LE = ll
    as_aux_lemma => exact ⟨rfl, rfl⟩
  exact ⟨congrFun h.1 n, congrFun h.2 n⟩
theorem zeta_read_table_shape :
    Gen.Zeta.read_table_be = readTableG Zeta.READ_BITS Zeta.MISSING_VALUE_LEN_BE Zeta.READ_BE Zeta.READ_LEN_BE ∧
    Gen.Zeta.read_table_le = readTableG Zeta.READ_BITS Zeta.MISSING_VALUE_LEN_LE Zeta.READ_LE Zeta.READ_LEN_LE := by
  delta Gen.Zeta.read_table_be Gen.Zeta.read_table_le
  generalize Zeta.READ_BE = vb, Zeta.READ_LEN_BE = lb, Zeta.READ_LE = vl, Zeta.READ_LEN_LE = ll
  as_aux_lemma => exact ⟨rfl, rfl⟩
theorem zeta_len_table_shape :
    Gen.Zeta.len_table_be = lenTableG Zeta.READ_BITS Zeta.MISSING_VALUE_LEN_BE Zeta.READ_LEN_BE ∧
    Gen.Zeta.len_table_le = lenTableG Zeta.READ_BITS Zeta.MISSING_VALUE_LEN_LE Zeta.READ_LEN_LE := by
  delta Gen.Zeta.len_table_be Gen.Zeta.len_table_le
  generalize Zeta.READ_LEN_BE = lb, Zeta.READ_LEN_LE = ll
  as_aux_lemma => exact ⟨rfl, rfl⟩
theorem zeta_write_table_shape (n : Nat) :
    Gen.Zeta.write_table_be n = writeTableG Zeta.WRITE_BE Zeta.WRITE_LEN_BE n ∧
    Gen.Zeta.write_table_le n = writeTableG Zeta.WRITE_LE Zeta.WRITE_LEN_LE n := by
  have h : Gen.Zeta.write_table_be = writeTableG Zeta.WRITE_BE Zeta.WRITE_LEN_BE ∧
      Gen.Zeta.write_table_le = writeTableG Zeta.WRITE_LE Zeta.WRITE_LEN_LE := by
    delta Gen.Zeta.write_table_be Gen.Zeta.write_table_le
    generalize Zeta.WRITE_BE = vb, Zeta.WRITE_LEN_BE = lb, Zeta.WRITE_LE = vl, Zeta.WRITE_LEN_LE = ll
    as_aux_lemma => exact ⟨rfl, rfl⟩
  exact ⟨congrFun h.1 n, congrFun h.2 n⟩

theorem gammaReadTable_shape (e : Endian) :
    gammaReadTable e = readTableG (gammaRTab e).readBits (gammaRTab e).missing (gammaRTab e).vals (gammaRTab e).lens := by
  cases e
  · exact gamma_read_table_shape.1
  · exact gamma_read_table_shape.2

theorem gammaLenTable_shape (e : Endian) :
    gammaLenTable e = lenTableG (gammaRTab e).readBits (gammaRTab e).missing (gammaRTab e).lens := by
  cases e
  · exact gamma_len_table_shape.1
  · exact gamma_len_table_shape.2

theorem gammaWriteTable_shape (e : Endian) (n : Nat) :
    gammaWriteTable e n = writeTableG (gammaWTab e).vals (gammaWTab e).lens n := by
  cases e
  · exact (gamma_write_table_shape n).1
  · exact (gamma_write_table_shape n).2

theorem gamma_read_table_guarded (e : Endian) {fb fb' : RProg Nat} (hf : Guarded fb fb') :
    Guarded (readTable (gammaRTab e) fb) ((gammaReadTable e).bind (orElseR fb')) := by
  rw [gammaReadTable_shape]; exact readTableG_guarded _ _ _ _ hf

theorem gamma_read_table_eq (e : Endian) (h : (gammaRTab e).vals.size = (gammaRTab e).lens.size)
    (fb : RProg Nat) : (gammaReadTable e).bind (orElseR fb) = readTable (gammaRTab e) fb := by
  rw [gammaReadTable_shape]; exact readTableG_eq _ _ _ _ h fb

theorem gamma_len_table_guarded (e : Endian) :
    Guarded ((gammaReadTable e).bind fun o => .ret (o.map Prod.snd)) (gammaLenTable e) := by
  rw [gammaReadTable_shape, gammaLenTable_shape]; exact lenTableG_guarded _ _ _ _

theorem gamma_len_table_eq (e : Endian) (h : (gammaRTab e).vals.size = (gammaRTab e).lens.size) :
    gammaLenTable e = (gammaReadTable e).bind fun o => .ret (o.map Prod.snd) := by
  rw [gammaReadTable_shape, gammaLenTable_shape]; exact lenTableG_eq _ _ _ _ h

theorem gamma_write_table_eq (e : Endian) (n : Nat) (fb : WProg Nat) :
    (gammaWriteTable e n).bind (orElseW fb) = writeTable (gammaWTab e) n fb := by
  rw [gammaWriteTable_shape]; exact writeTableG_eq _ _ n fb

theorem deltaReadTable_shape (e : Endian) :
    deltaReadTable e = readTableG (deltaRTab e).readBits (deltaRTab e).missing (deltaRTab e).vals (deltaRTab e).lens := by
  cases e
  · exact delta_read_table_shape.1
  · exact delta_read_table_shape.2

theorem deltaLenTable_shape (e : Endian) :
    deltaLenTable e = lenTableG (deltaRTab e).readBits (deltaRTab e).missing (deltaRTab e).lens := by
  cases e
  · exact delta_len_table_shape.1
  · exact delta_len_table_shape.2

theorem deltaWriteTable_shape (e : Endian) (n : Nat) :
    deltaWriteTable e n = writeTableG (deltaWTab e).vals (deltaWTab e).lens n := by
  cases e
  · exact (delta_write_table_shape n).1
  · exact (delta_write_table_shape n).2

theorem delta_read_table_guarded (e : Endian) {fb fb' : RProg Nat} (hf : Guarded fb fb') :
    Guarded (readTable (deltaRTab e) fb) ((deltaReadTable e).bind (orElseR fb')) := by
  rw [deltaReadTable_shape]; exact readTableG_guarded _ _ _ _ hf

theorem delta_read_table_eq (e : Endian) (h : (deltaRTab e).vals.size = (deltaRTab e).lens.size)
    (fb : RProg Nat) : (deltaReadTable e).bind (orElseR fb) = readTable (deltaRTab e) fb := by
  rw [deltaReadTable_shape]; exact readTableG_eq _ _ _ _ h fb

theorem delta_len_table_guarded (e : Endian) :
    Guarded ((deltaReadTable e).bind fun o => .ret (o.map Prod.snd)) (deltaLenTable e) := by
  rw [deltaReadTable_shape, deltaLenTable_shape]; exact lenTableG_guarded _ _ _ _

theorem delta_len_table_eq (e : Endian) (h : (deltaRTab e).vals.size = (deltaRTab e).lens.size) :
    deltaLenTable e = (deltaReadTable e).bind fun o => .ret (o.map Prod.snd) := by
  rw [deltaReadTable_shape, deltaLenTable_shape]; exact lenTableG_eq _ _ _ _ h

theorem delta_write_table_eq (e : Endian) (n : Nat) (fb : WProg Nat) :
    (deltaWriteTable e n).bind (orElseW fb) = writeTable (deltaWTab e) n fb := by
  rw [deltaWriteTable_shape]; exact writeTableG_eq _ _ n fb

theorem zetaReadTable_shape (e : Endian) :
    zetaReadTable e = readTableG (zetaRTab e).readBits (zetaRTab e).missing (zetaRTab e).vals (zetaRTab e).lens := by
  cases e
  · exact zeta_read_table_shape.1
  · exact zeta_read_table_shape.2

theorem zetaLenTable_shape (e : Endian) :
    zetaLenTable e = lenTableG (zetaRTab e).readBits (zetaRTab e).missing (zetaRTab e).lens := by
  cases e
  · exact zeta_len_table_shape.1
  · exact zeta_len_table_shape.2

theorem zetaWriteTable_shape (e : Endian) (n : Nat) :
    zetaWriteTable e n = writeTableG (zetaWTab e).vals (zetaWTab e).lens n := by
  cases e
  · exact (zeta_write_table_shape n).1
  · exact (zeta_write_table_shape n).2

theorem zeta_read_table_guarded (e : Endian) {fb fb' : RProg Nat} (hf : Guarded fb fb') :
    Guarded (readTable (zetaRTab e) fb) ((zetaReadTable e).bind (orElseR fb')) := by
  rw [zetaReadTable_shape]; exact readTableG_guarded _ _ _ _ hf

theorem zeta_read_table_eq (e : Endian) (h : (zetaRTab e).vals.size = (zetaRTab e).lens.size)
    (fb : RProg Nat) : (zetaReadTable e).bind (orElseR fb) = readTable (zetaRTab e) fb := by
  rw [zetaReadTable_shape]; exact readTableG_eq _ _ _ _ h fb

theorem zeta_len_table_guarded (e : Endian) :
    Guarded ((zetaReadTable e).bind fun o => .ret (o.map Prod.snd)) (zetaLenTable e) := by
  rw [zetaReadTable_shape, zetaLenTable_shape]; exact lenTableG_guarded _ _ _ _

theorem zeta_len_table_eq (e : Endian) (h : (zetaRTab e).vals.size = (zetaRTab e).lens.size) :
    zetaLenTable e = (zetaReadTable e).bind fun o => .ret (o.map Prod.snd) := by
  rw [zetaReadTable_shape, zetaLenTable_shape]; exact lenTableG_eq _ _ _ _ h

theorem zeta_write_table_eq (e : Endian) (n : Nat) (fb : WProg Nat) :
    (zetaWriteTable e n).bind (orElseW fb) = writeTable (zetaWTab e) n fb := by
  rw [zetaWriteTable_shape]; exact writeTableG_eq _ _ n fb

def readGammaParam : Endian → Bool → RProg Nat
  | .be => Gen.read_gamma_param_be
  | .le => Gen.read_gamma_param_le
def writeGammaParam : Endian → Bool → Bool → Nat → WProg Nat
  | .be => Gen.write_gamma_param_be
  | .le => Gen.write_gamma_param_le
def readDeltaParam : Endian → Bool → Bool → RProg Nat
  | .be => Gen.read_delta_param_be
  | .le => Gen.read_delta_param_le
def writeDeltaParam : Endian → Bool → Bool → Bool → Nat → WProg Nat
  | .be => Gen.write_delta_param_be
  | .le => Gen.write_delta_param_le
def readZetaParam : Endian → Nat → RProg Nat
  | .be => Gen.read_zeta_param_be
  | .le => Gen.read_zeta_param_le
def readZeta3Param : Endian → Bool → RProg Nat
  | .be => Gen.read_zeta3_param_be
  | .le => Gen.read_zeta3_param_le
def writeZetaParam : Endian → Bool → Nat → Nat → WProg Nat
  | .be => Gen.write_zeta_param_be
  | .le => Gen.write_zeta_param_le
def writeZeta3Param : Endian → Bool → Nat → WProg Nat
  | .be => Gen.write_zeta3_param_be
  | .le => Gen.write_zeta3_param_le

theorem read_gamma_param_guarded (e : Endian) (t : Bool) :
    Guarded (readGammaP e t) (readGammaParam e t) := by
  cases t
  · cases e <;> exact default_read_gamma_guarded
  · cases e <;> exact gamma_read_table_guarded _ default_read_gamma_guarded

/-- `default_read_delta::<E, _, G>(self)` with the `read_gamma_param` of the impl for `E` -/
theorem default_read_delta_param_guarded (e : Endian) (tg : Bool) :
    Guarded (readDeltaDefault (opt tg (gammaRTab e))) (Gen.default_read_delta (readGammaParam e) tg) := by
  unfold readDeltaDefault Gen.default_read_delta
  refine Guarded.bind (read_gamma_param_guarded e tg) fun len => ?_
  split
  · exact Guarded.dpanic _
  · rw [one_shl_mod (by omega)]
    exact Guarded.refl _

theorem read_delta_param_guarded (e : Endian) (td tg : Bool) :
    Guarded (readDeltaP e td tg) (readDeltaParam e td tg) := by
  cases td
  · cases e <;> exact default_read_delta_param_guarded _ tg
  · cases e <;> exact delta_read_table_guarded _ (default_read_delta_param_guarded _ tg)

theorem read_zeta_param_guarded (e : Endian) (k : Nat) :
    Guarded (readZetaDefault k) (readZetaParam e k) := by
  cases e <;> exact default_read_zeta_guarded k

theorem read_zeta3_param_guarded (e : Endian) (t : Bool) :
    Guarded (readZeta3P e t) (readZeta3Param e t) := by
  cases t
  · cases e <;> exact default_read_zeta_guarded 3
  · cases e <;> exact zeta_read_table_guarded _ (default_read_zeta_guarded 3)

theorem write_gamma_param_eq (e : Endian) (checks t : Bool) {n : Nat} (hn : n < 2 ^ 64 - 1) :
    writeGammaParam e checks t n = writeGammaP e checks t n := by
  cases t
  · cases e <;> exact default_write_gamma_eq checks hn
  · have h := default_write_gamma_eq checks hn
    cases e
    · exact (gamma_write_table_eq .be n _).trans (congrArg (writeTable _ n) h)
    · exact (gamma_write_table_eq .le n _).trans (congrArg (writeTable _ n) h)

/-- `default_write_delta::<E, _, G>(self, n)` with the `write_gamma_param` of the impl for `E` -/
theorem default_write_delta_param_eq (e : Endian) (checks tg : Bool) {n : Nat} (hn : n < 2 ^ 64 - 1) :
    Gen.default_write_delta (writeGammaParam e checks) checks tg n
      = writeDeltaDefault checks (opt tg (gammaWTab e)) n := by
  rw [← default_write_delta_eq e checks tg hn]
  have hl : (n + 1).log2 < 2 ^ 64 - 1 := by
    have := log2_lt_64 (m := n + 1) (by omega)
    omega
  have hg := write_gamma_param_eq e checks tg hl
  unfold Gen.default_write_delta
  simp only [hg]

theorem write_delta_param_eq (e : Endian) (checks td tg : Bool) {n : Nat} (hn : n < 2 ^ 64 - 1) :
    writeDeltaParam e checks td tg n = writeDeltaP e checks td tg n := by
  cases td
  · cases e
    · exact default_write_delta_param_eq .be checks tg hn
    · exact default_write_delta_param_eq .le checks tg hn
  · cases e
    · exact (delta_write_table_eq .be n _).trans
        (congrArg (writeTable _ n) (default_write_delta_param_eq .be checks tg hn))
    · exact (delta_write_table_eq .le n _).trans
        (congrArg (writeTable _ n) (default_write_delta_param_eq .le checks tg hn))

/-- `write_zeta_param::<T>` ignores its flag: there is no table lookup for a general `k` -/
theorem write_zeta_param_eq (e : Endian) (t : Bool) {n k : Nat} (hn : n < 2 ^ 64 - 1) (hk0 : k ≠ 0)
    (hk : k < 64) : writeZetaParam e t n k = writeZetaDefault n k := by
  cases e <;> exact default_write_zeta_eq hn hk0 hk

theorem write_zeta3_param_eq (e : Endian) (t : Bool) {n : Nat} (hn : n < 2 ^ 64 - 1) :
    writeZeta3Param e t n = writeZeta3P e t n := by
  have h := default_write_zeta_eq (k := 3) hn (by decide) (by decide)
  cases t
  · cases e <;> exact h
  · cases e
    · exact (zeta_write_table_eq .be n _).trans (congrArg (writeTable _ n) h)
    · exact (zeta_write_table_eq .le n _).trans (congrArg (writeTable _ n) h)

end TableFnsGen
end Dsi
