/-
  C16 — code names and identifiers round-trip.

  `Display`, `FromStr`, `to_code_const`, `from_code_const` and `PartialEq` are the models of
  `Dsi.Glue.CodesText` over the generated lists (`Dsi.Gen.CodesText`).  `CodeId.equiv` is the
  syntactic relation generated by the documented coincidences; that related codes have equal
  codewords is proved elsewhere (L2).
-/
import Dsi.Props.DispatchCommon
import Dsi.Glue.CodesText
namespace Dsi
open Gen.CodesText Gen.Dispatch

theorem digitVal_digitChar : ∀ d, d < 10 → digitVal? (digitChar d) = some d := by decide

theorem digitChar_ne : ∀ d, d < 10 →
    digitChar d ≠ '(' ∧ digitChar d ≠ ')' ∧ digitChar d ≠ '+' := by decide

theorem showNat_eq (n : Nat) :
    showNat n = if n < 10 then [digitChar n] else showNat (n / 10) ++ [digitChar (n % 10)] := by
  rw [showNat]

theorem showNat_digits (n : Nat) : ∀ c ∈ showNat n, ∃ d, d < 10 ∧ c = digitChar d := by
  induction n using Nat.strongRecOn with
  | _ n ih =>
    rw [showNat_eq]
    split
    · intro c hc
      simp only [List.mem_singleton] at hc
      exact ⟨n, by assumption, hc⟩
    · intro c hc
      rcases List.mem_append.mp hc with h | h
      · exact ih (n / 10) (by omega) c h
      · simp only [List.mem_singleton] at h
        exact ⟨n % 10, by omega, h⟩

theorem showNat_ne_nil (n : Nat) : showNat n ≠ [] := by
  rw [showNat_eq]
  split <;> simp

theorem parseDigits_append (d : Nat) (hd : d < 10) (l : List Char) (acc : Nat) :
    parseDigits acc (l ++ [digitChar d]) = (parseDigits acc l).map (fun m => 10 * m + d) := by
  induction l generalizing acc with
  | nil => simp [parseDigits, digitVal_digitChar d hd]
  | cons c l ih =>
    simp only [List.cons_append, parseDigits]
    cases digitVal? c with
    | none => rfl
    | some x => exact ih _

theorem parseDigits_showNat (n : Nat) : parseDigits 0 (showNat n) = some n := by
  induction n using Nat.strongRecOn with
  | _ n ih =>
    rw [showNat_eq]
    split
    · rename_i h
      simp [parseDigits, digitVal_digitChar n h]
    · rw [parseDigits_append _ (by omega), ih (n / 10) (by omega)]
      simp only [Option.map_some, Option.some.injEq]
      omega

theorem not_mem_showNat {c : Char} (h : ∀ d, d < 10 → digitChar d ≠ c) (n : Nat) : c ∉ showNat n := by
  intro hc
  obtain ⟨d, hd, rfl⟩ := showNat_digits n c hc
  exact h d hd rfl

theorem stripPlus_of_not_mem {s : List Char} (h : '+' ∉ s) : stripPlus s = s := by
  cases s with
  | nil => rfl
  | cons c r =>
    have hc : c ≠ '+' := fun hc => h (by rw [hc]; exact List.mem_cons_self)
    simp [stripPlus, hc]

theorem parseUsize_showNat (n : Nat) (h : n < 2 ^ 64) : parseUsize (showNat n) = some n := by
  have hplus : '+' ∉ showNat n := not_mem_showNat (fun d hd => (digitChar_ne d hd).2.2) n
  simp [parseUsize, stripPlus_of_not_mem hplus, showNat_ne_nil, parseDigits_showNat, h]

theorem splitFirst_append_left {c : Char} {a : List Char} (t : List Char) (h : c ∉ a) :
    splitFirst c (a ++ t) = (a ++ (splitFirst c t).1, (splitFirst c t).2) := by
  induction a with
  | nil => rfl
  | cons x a ih =>
    have hx : x ≠ c := fun hx => h (by rw [hx]; exact List.mem_cons_self)
    simp [splitFirst, hx, ih fun ha => h (List.mem_cons_of_mem _ ha)]

theorem splitFirst_append {c : Char} {a : List Char} (b : List Char) (h : c ∉ a) :
    splitFirst c (a ++ c :: b) = (a, some b) := by
  simp [splitFirst_append_left _ h, splitFirst]

theorem splitFirst_not_mem {c : Char} {a : List Char} (h : c ∉ a) : splitFirst c a = (a, none) := by
  simpa [splitFirst] using splitFirst_append_left [] h

theorem splitFirst_spec (c : Char) (s : List Char) : c ∉ (splitFirst c s).1 ∧
    s = (splitFirst c s).1 ++ (match (splitFirst c s).2 with | some b => c :: b | none => []) := by
  induction s with
  | nil => simp [splitFirst]
  | cons x s ih =>
    by_cases hx : x = c
    · simp [splitFirst, hx]
    · simp only [splitFirst, if_neg hx, List.cons_append, List.mem_cons, not_or]
      exact ⟨⟨Ne.symm hx, ih.1⟩, congrArg (x :: ·) ih.2⟩

theorem lookupLit_none {s : List Char} (l : List (String × Option Mk))
    (h : ∀ km ∈ l, km.1.toList ≠ s) : lookupLit s l = none := by
  induction l with
  | nil => rfl
  | cons a l ih =>
    obtain ⟨key, mk⟩ := a
    have h1 : key.toList ≠ s := h (key, mk) List.mem_cons_self
    simp only [lookupLit, h1, if_false]
    exact ih (fun km hkm => h km (List.mem_cons_of_mem _ hkm))

theorem lookupLit_some {s : List Char} {l : List (String × Option Mk)} {r : Option Mk}
    (h : lookupLit s l = some r) : ∃ key, (key, r) ∈ l ∧ key.toList = s := by
  induction l with
  | nil => cases h
  | cons a l ih =>
    obtain ⟨key, mk⟩ := a
    simp only [lookupLit] at h
    split at h
    · cases h
      exact ⟨key, List.mem_cons_self, ‹_›⟩
    · obtain ⟨k', hk', hs⟩ := ih h
      exact ⟨k', List.mem_cons_of_mem _ hk', hs⟩

theorem lookupParamName_some {name : List Char} {l : List (Option String × Option Mk)} {m : Mk}
    (h : lookupParamName name l = some (some m)) :
    (∃ key, (some key, some m) ∈ l ∧ key.toList = name) ∨ (none, some m) ∈ l := by
  induction l with
  | nil => cases h
  | cons a l ih =>
    obtain ⟨_ | key, mk⟩ := a <;> simp only [lookupParamName] at h
    · cases h
      exact Or.inr List.mem_cons_self
    · split at h
      · cases h
        exact Or.inl ⟨key, List.mem_cons_self, ‹_›⟩
      · rcases ih h with ⟨k', hk', hs⟩ | h'
        · exact Or.inl ⟨k', List.mem_cons_of_mem _ hk', hs⟩
        · exact Or.inr (List.mem_cons_of_mem _ h')

theorem paramText_showNat (n : Nat) (rest : List Char) (hrest : '(' ∉ rest) :
    paramText (showNat n ++ ')' :: rest) = showNat n := by
  have h1 : '(' ∉ showNat n ++ ')' :: rest := by
    simp [hrest, not_mem_showNat (fun d hd => (digitChar_ne d hd).1) n]
  have h2 : ')' ∉ showNat n := not_mem_showNat (fun d hd => (digitChar_ne d hd).2.1) n
  simp [paramText, splitFirst_not_mem h1, splitFirst_append rest h2]

theorem parseL_param (name : List Char) (v : String) (n : Nat) (c : Codes) (hn : n < 2 ^ 64)
    (hname : '(' ∉ name)
    (hlits : ∀ km ∈ fromStrLiteral, '(' ∉ km.1.toList)
    (hpar : lookupParamName name fromStrParam = some (some ⟨v, some Arg.param⟩))
    (hmk : Codes.ofVariant? v (some n) = some c) :
    parseL (name ++ '(' :: (showNat n ++ [')'])) = .ok c := by
  have hl : lookupLit (name ++ '(' :: (showNat n ++ [')'])) fromStrLiteral = none := by
    apply lookupLit_none
    intro km hkm heq
    apply hlits km hkm
    rw [heq]
    exact List.mem_append_right _ List.mem_cons_self
  simp only [parseL, hl, splitFirst_append _ hname, hpar, paramText_showNat n [] (by simp),
    parseUsize_showNat n hn, mkCode, hmk, okOr]

theorem fmtApply_paren (name a : List Char) (h : '{' ∉ name) :
    fmtApply (name ++ "({})".toList) [a] = name ++ '(' :: (a ++ [')']) := by
  induction name with
  | nil => simp [fmtApply]
  | cons x name ih =>
    have hx : x ≠ '{' := fun hx => h (by rw [hx]; exact List.mem_cons_self)
    have ih := ih (fun hm => h (List.mem_cons_of_mem _ hm))
    cases name <;> simp_all [fmtApply]

theorem Codes.ofVariant_self (c : Codes) :
    Codes.ofVariant? c.variant (if c.hasParam then some c.param else none) = some c := by
  cases c <;> rfl

deriving instance DecidableEq for Except

/-- The arm `r` that `display` has for the variant `d` is read back by `FromStr`.  A parameterless
    variant is formatted and parsed.  A parametric `V` must be shown as `V({})` with its parameter,
    and `V`, which contains no `(`, must be the key of a `FromStr` arm that builds `V` from the
    parsed parameter: that is what `parseL_param` asks for. -/
def displayP (d : VDesc) (r : Option (String × List Arg)) : Bool :=
  match r with
  | none => false
  | some a =>
    if d.isParam then
      a.1.toList == d.v.toList ++ "({})".toList && a.2 == [Arg.param] &&
      !d.v.toList.contains '{' && !d.v.toList.contains '(' &&
      lookupParamName d.v.toList fromStrParam == some (some ⟨d.v, some Arg.param⟩)
    else parseL (renderArm 0 a) == okOr (Codes.ofVariant? d.v none)

theorem display_ok :
    (codesChk display (fun d _ => displayP d) displayP &&
      fromStrLiteral.all (fun km => !km.1.toList.contains '(')) = true := by decide +kernel

/-- Formatting a code and parsing the text yields the code, for every variant and every
    parameter a `usize` can hold. -/
theorem parse_display (c : Codes) (h : c.param < 2 ^ 64) :
    ∃ s, displayL c = some s ∧ parseL s = .ok c := by
  obtain ⟨hdisp, hlits⟩ := Bool.and_eq_true_iff.mp display_ok
  have hq := forall_codes hdisp (fun _ _ _ h => h) c
  have hmk := c.ofVariant_self
  unfold displayL
  cases hr : lookupCodes display c.variant c.param with
  | none => rw [hr] at hq; exact absurd hq (by simp [displayP])
  | some a =>
    refine ⟨renderArm c.param a, rfl, ?_⟩
    rw [hr] at hq
    cases hp : c.hasParam
    · simp only [displayP, c.desc_isParam, c.desc_v, hp, Bool.false_eq_true, if_false] at hq hmk
      rw [Codes.param_eq_zero hp, eq_of_beq hq, hmk]; rfl
    · simp only [displayP, c.desc_isParam, c.desc_v, hp, if_true, Bool.and_eq_true,
        Bool.not_eq_true', List.contains_eq_mem, decide_eq_false_iff_not, beq_iff_eq] at hq hmk
      obtain ⟨⟨⟨⟨hfmt, hargs⟩, hbrace⟩, hparen⟩, hpar⟩ := hq
      rw [renderArm, hfmt, hargs]
      simp only [List.map, argText]
      rw [fmtApply_paren _ _ hbrace]
      refine parseL_param _ c.variant c.param c h hparen ?_ hpar hmk
      simpa using hlits

theorem ofVariant_spec {v : String} {o : Option Nat} {c : Codes}
    (h : Codes.ofVariant? v o = some c) :
    c.variant = v ∧ c.hasParam = o.isSome ∧ c.param = o.getD 0 := by
  cases o <;> simp only [Codes.ofVariant?] at h
  all_goals repeat' split at h
  all_goals first
    | (cases h; subst_vars; exact ⟨rfl, rfl, rfl⟩)
    | cases h

/-- every literal arm builds the parameterless variant it is keyed by; every parametric arm
    builds the variant it is keyed by from the parsed parameter; the last arm is the wildcard
    error arm -/
def fromStrShapeOk : Bool :=
  fromStrLiteral.all (fun km => km.2 == some ⟨km.1, none⟩) &&
  fromStrParam.all (fun km => match km.1 with
    | some key => km.2 == some ⟨key, some .param⟩
    | none => km.2 == none)

theorem fromStr_shape : fromStrShapeOk = true := by decide +kernel

theorem okOr_eq_ok {o : Option Codes} {c : Codes} (h : okOr o = .ok c) : o = some c := by
  cases o with
  | none => cases h
  | some c' => cases h; rfl

/-- Any accepted text is a code name, or a code name followed by `(` and a parameter text that
    is a decimal `usize`; and the result is that code with that parameter.  (Hence: a name that
    is not a code name, a missing `(`, an empty / non-numeric / overflowing parameter are all
    rejected, never mapped to some code.) -/
theorem parse_ok_inv (s : List Char) (c : Codes) (h : parseL s = .ok c) :
    (c.hasParam = false ∧ s = c.variant.toList) ∨
    (c.hasParam = true ∧ ∃ rest, s = c.variant.toList ++ '(' :: rest ∧
      parseUsize (paramText rest) = some c.param) := by
  have hshape := fromStr_shape
  simp only [fromStrShapeOk, Bool.and_eq_true, List.all_eq_true] at hshape
  unfold parseL at h
  split at h
  · -- literal arm
    rename_i mk hl
    obtain ⟨key, hmem, hkey⟩ := lookupLit_some hl
    have := hshape.1 (key, some mk) hmem
    simp only [beq_iff_eq, Option.some.injEq] at this
    subst this
    obtain ⟨h1, h2, _⟩ := ofVariant_spec (v := key) (o := none) (okOr_eq_ok h)
    left; exact ⟨h2, by rw [h1, hkey]⟩
  · cases h
  · split at h
    · cases h
    · rename_i name rest hsp
      split at h
      · rename_i mk hp
        split at h
        · rename_i n hn
          rcases lookupParamName_some hp with ⟨key, hmem, hkey⟩ | hmem
          · have := hshape.2 (some key, some mk) hmem
            simp only [beq_iff_eq, Option.some.injEq] at this
            subst this
            obtain ⟨h1, h2, h3⟩ := ofVariant_spec (v := key) (o := some n) (okOr_eq_ok h)
            right
            refine ⟨h2, rest, ?_, by rw [h3]; exact hn⟩
            have hs := (splitFirst_spec '(' s).2
            rw [hsp] at hs
            rw [hs, h1, hkey]
          · have := hshape.2 (none, some mk) hmem
            simp at this
        · cases h
      · cases h

/-- the names `FromStr` knows -/
def literalNames : List String := ["Unary", "Gamma", "Delta", "Omega", "VByteLe", "VByteBe"]
def paramNames : List String := ["Zeta", "Pi", "Golomb", "ExpGolomb", "Rice"]

theorem names_ok :
    vdescs.all (fun d => (if d.isParam then paramNames else literalNames).contains d.v &&
      !d.v.toList.contains '(') = true := by decide +kernel

theorem variant_mem (c : Codes) :
    (c.hasParam = false → c.variant ∈ literalNames) ∧ (c.hasParam = true → c.variant ∈ paramNames) ∧
    '(' ∉ c.variant.toList := by
  have h := List.all_eq_true.mp names_ok _ c.desc_mem
  simp only [c.desc_isParam, c.desc_v, Bool.and_eq_true, List.contains_eq_mem, decide_eq_true_eq,
    Bool.not_eq_true', decide_eq_false_iff_not] at h
  refine ⟨fun hp => ?_, fun hp => ?_, h.2⟩
  · simpa only [hp, Bool.false_eq_true, if_false] using h.1
  · simpa only [hp, if_true] using h.1

theorem split_unique {c : Char} {a a' b b' : List Char} (ha : c ∉ a) (ha' : c ∉ a')
    (h : a ++ c :: b = a' ++ c :: b') : a = a' ∧ b = b' := by
  have h1 := splitFirst_append b ha
  rw [h, splitFirst_append b' ha'] at h1
  simp only [Prod.mk.injEq, Option.some.injEq] at h1
  exact ⟨h1.1.symm, h1.2.symm⟩

/-- Text that is not a parameterless code name is rejected when it has no `(`, when the text
    before the first `(` is not a parametric code name, or when the parameter text is not a
    decimal `usize`. -/
theorem parse_rejects (s : List Char) (hlit : ∀ nm ∈ literalNames, s ≠ nm.toList) :
    ('(' ∉ s → ∀ c, parseL s ≠ .ok c) ∧
    (∀ name rest, s = name ++ '(' :: rest → '(' ∉ name →
      ((∀ nm ∈ paramNames, name ≠ nm.toList) ∨ parseUsize (paramText rest) = none) →
      ∀ c, parseL s ≠ .ok c) := by
  refine ⟨?_, ?_⟩
  · intro hno c hc
    rcases parse_ok_inv s c hc with ⟨hp, hs⟩ | ⟨_, rest, hs, _⟩
    · exact hlit _ ((variant_mem c).1 hp) hs
    · apply hno; rw [hs]; exact List.mem_append_right _ List.mem_cons_self
  · intro name rest hs hname hbad c hc
    rcases parse_ok_inv s c hc with ⟨hp, hs'⟩ | ⟨hp, rest', hs', hk⟩
    · exact hlit _ ((variant_mem c).1 hp) hs'
    · rw [hs] at hs'
      obtain ⟨h1, h2⟩ := split_unique hname (variant_mem c).2.2 hs'
      rcases hbad with hbad | hbad
      · exact hbad _ ((variant_mem c).2.1 hp) h1
      · rw [h2, hk] at hbad; cases hbad

/-- what `usize::from_str` accepts: an optional `+`, then a non-empty string of ASCII digits
    whose value is below `2^64` -/
theorem parseUsize_some {t : List Char} {n : Nat} (h : parseUsize t = some n) :
    stripPlus t ≠ [] ∧ parseDigits 0 (stripPlus t) = some n ∧ n < 2 ^ 64 := by
  unfold parseUsize at h
  split at h
  · cases h
  · rename_i hne
    split at h
    · rename_i m hm
      split at h
      · simp only [Option.some.injEq] at h; subst h
        refine ⟨?_, hm, by assumption⟩
        intro he; rw [he] at hne; simp at hne
      · cases h
    · cases h

theorem parseDigits_some_digits {l : List Char} {acc n : Nat} (h : parseDigits acc l = some n) :
    ∀ c ∈ l, (digitVal? c).isSome = true := by
  induction l generalizing acc with
  | nil => intro c hc; cases hc
  | cons x l ih =>
    simp only [parseDigits] at h
    intro c hc
    cases hx : digitVal? x with
    | none => rw [hx] at h; cases h
    | some d =>
      rw [hx] at h
      rcases List.mem_cons.mp hc with rfl | hc
      · simp [hx]
      · exact ih h c hc

/-- empty, sign-only, non-numeric and overflowing parameters are not numbers -/
theorem parseUsize_rejects :
    parseUsize [] = none ∧ parseUsize ['+'] = none ∧
    (∀ t c, c ∈ stripPlus t → (digitVal? c).isSome = false → parseUsize t = none) ∧
    (∀ t n, parseDigits 0 (stripPlus t) = some n → 2 ^ 64 ≤ n → parseUsize t = none) := by
  refine ⟨by decide, by decide, ?_, ?_⟩
  · intro t c hc hd
    cases h : parseUsize t with
    | none => rfl
    | some n =>
      have := parseDigits_some_digits (parseUsize_some h).2.1 c hc
      rw [hd] at this; cases this
  · intro t n hn hbig
    cases h : parseUsize t with
    | none => rfl
    | some m =>
      obtain ⟨_, h2, h3⟩ := parseUsize_some h
      rw [hn] at h2; simp only [Option.some.injEq] at h2; omega

/-- `to_code_const c = id` implies `from_code_const id ≈ c` -/
def toFromP (fam : Family) (n : Nat) (r : Option (Option String)) : Bool :=
  match r with
  | some (some name) =>
    match constVal codeConsts name with
    | some id =>
      match fromCodeConst id with
      | some c' => c'.id.equiv ⟨fam, n⟩
      | none => false
    | none => true
  | _ => true

theorem toFromP_spec (c : Codes) (id : Nat)
    (hP : toFromP c.fam c.param (lookupCodes Gen.CodesText.toCodeConst c.variant c.param) = true)
    (h : Dsi.toCodeConst c = some id) :
    ∃ c', fromCodeConst id = some c' ∧ c'.id.equiv c.id = true := by
  unfold Dsi.toCodeConst at h
  unfold toFromP at hP
  split at h
  · rename_i name hl
    rw [hl] at hP
    simp only [h] at hP
    split at hP
    · rename_i c' hc'
      exact ⟨c', hc', hP⟩
    · cases hP
  · cases h

/-- `const_roundtrip` as one closed term: the round trip of every identifier up to 50; no
    identifier and no literal of `from_code_const` is above 50, and its wildcard arm returns an
    error; `to_code_const` on every literal arm, and refusing any other parameter. -/
def idChk : Bool :=
  (List.range 51).all (fun id => (fromCodeConst id).bind Dsi.toCodeConst == some id) &&
  codeConsts.all (·.2 ≤ 50) && Gen.CodesText.fromCodeConst.all (·.1.all (CPat.below 50)) &&
  lookupWild Gen.CodesText.fromCodeConst == some none &&
  codesChk Gen.CodesText.toCodeConst (fun d => toFromP d.fam) (fun _ r => r == some none)

theorem idChk_ok : idChk = true := by decide +kernel

theorem const_roundtrip :
    -- every identifier 0..=50 denotes a code that maps back to it; no other identifier is a code
    (∀ id, id ≤ 50 → (fromCodeConst id).bind Dsi.toCodeConst = some id) ∧
    (∀ id, id > 50 → fromCodeConst id = none) ∧
    -- a code's identifier denotes the code, up to the documented coincidences
    (∀ (c : Codes) (id : Nat), Dsi.toCodeConst c = some id →
      ∃ c', fromCodeConst id = some c' ∧ c'.id.equiv c.id = true) := by
  have h := idChk_ok
  simp only [idChk, Bool.and_eq_true, List.all_eq_true, decide_eq_true_eq, beq_iff_eq] at h
  obtain ⟨⟨⟨⟨hround, hle⟩, hlit⟩, hwild⟩, hto⟩ := h
  refine ⟨fun id hid => hround id (List.mem_range.mpr (Nat.lt_succ_of_le hid)),
    fun id hid => ?_, fun c id h => toFromP_spec c id (forall_codes hto (fun d n r hr => ?_) c) h⟩
  · unfold Dsi.fromCodeConst
    rw [lookupConst_gt hle hlit id hid, hwild]
  · rw [eq_of_beq hr]; rfl

def eqLits (v : String) : List (List Pat × List Pat × EqRes) → List Nat
  | [] => []
  | (l, r, _) :: rest => patLits v l ++ patLits v r ++ eqLits v rest

/-- the result depends on the left parameter only through the literals of the left patterns -/
theorem lookupEq_congr_left (v1 : String) {k1 k1' : Nat} (v2 : String) (k2 : Nat)
    (arms : List (List Pat × List Pat × EqRes)) (h : k1 ∉ eqLits v1 arms) (h' : k1' ∉ eqLits v1 arms) :
    lookupEq arms v1 k1 v2 k2 = lookupEq arms v1 k1' v2 k2 := by
  induction arms with
  | nil => rfl
  | cons a arms ih =>
    obtain ⟨l, r, res⟩ := a
    simp only [eqLits, List.mem_append, not_or] at h h'
    simp only [lookupEq, patAny_congr v1 k1 k1' l h.1.1 h'.1.1, ih h.2 h'.2]

theorem lookupEq_congr_right (v1 : String) (k1 : Nat) (v2 : String) {k2 k2' : Nat}
    (arms : List (List Pat × List Pat × EqRes)) (h : k2 ∉ eqLits v2 arms) (h' : k2' ∉ eqLits v2 arms) :
    lookupEq arms v1 k1 v2 k2 = lookupEq arms v1 k1 v2 k2' := by
  induction arms with
  | nil => rfl
  | cons a arms ih =>
    obtain ⟨l, r, res⟩ := a
    simp only [eqLits, List.mem_append, not_or] at h h'
    simp only [lookupEq, patAny_congr v2 k2 k2' r h.1.2 h'.1.2, ih h.2 h'.2]

/-- the parameters to examine one by one: the literals of the arms, or `0` alone for a
    parameterless variant -/
def VDesc.lits (x : VDesc) : List Nat := if x.isParam then eqLits x.v eqArms else [0]
def VDesc.gen (x : VDesc) : Nat := fresh (eqLits x.v eqArms)

def eqOk (x1 : VDesc) (k1 : Nat) (x2 : VDesc) (k2 : Nat) : Bool :=
  !(evalEq (lookupEq eqArms x1.v k1 x2.v k2) k1 k2) || CodeId.equiv ⟨x1.fam, k1⟩ ⟨x2.fam, k2⟩

/-- an arm reached with a generic parameter may only say "different", or compare the parameters
    of one and the same variant -/
def genRes (x1 x2 : VDesc) (r : Option EqRes) : Bool :=
  match r with
  | some .ff => true
  | none => true
  | some .paramsEq => x1 == x2
  | some .tt => false

def eqCheck (x1 x2 : VDesc) : Bool :=
  x1.lits.all (fun k1 => x2.lits.all (fun k2 => eqOk x1 k1 x2 k2)) &&
  (!x2.isParam || x1.lits.all (fun k1 => genRes x1 x2 (lookupEq eqArms x1.v k1 x2.v x2.gen))) &&
  (!x1.isParam || x2.lits.all (fun k2 => genRes x1 x2 (lookupEq eqArms x1.v x1.gen x2.v k2))) &&
  (!(x1.isParam && x2.isParam) || genRes x1 x2 (lookupEq eqArms x1.v x1.gen x2.v x2.gen))

theorem eqCheck_all : (vdescs.all fun x1 => vdescs.all fun x2 => eqCheck x1 x2) = true := by
  decide +kernel

theorem eqOk_of_genRes (x1 x2 : VDesc) (k1 k2 : Nat) (r : Option EqRes)
    (hr : lookupEq eqArms x1.v k1 x2.v k2 = r) (hg : genRes x1 x2 r = true) :
    eqOk x1 k1 x2 k2 = true := by
  unfold eqOk
  rw [hr]
  cases r with
  | none => simp [evalEq]
  | some res =>
    cases res with
    | tt => simp [genRes] at hg
    | ff => simp [evalEq]
    | paramsEq =>
      simp only [genRes, beq_iff_eq] at hg
      subst hg
      by_cases hk : k1 = k2
      · subst hk; simp [CodeId.equiv_refl]
      · simp [evalEq, hk]

/-- a parameter is examined on its own, or it is a parameter of a parametric variant that no arm
    mentions -/
def VDesc.covers (x : VDesc) (k : Nat) : Prop :=
  k ∈ x.lits ∨ (x.isParam = true ∧ k ∉ eqLits x.v eqArms)

theorem Codes.desc_covers (c : Codes) : c.desc.covers c.param := by
  unfold VDesc.covers VDesc.lits
  cases hp : c.hasParam
  · left; simp [Codes.desc, hp, Codes.param_eq_zero hp]
  · by_cases hk : c.param ∈ eqLits c.variant eqArms
    · left; simp [Codes.desc, hp, hk]
    · exact Or.inr ⟨hp, hk⟩

theorem eqOk_all (x1 x2 : VDesc) (h : eqCheck x1 x2 = true) (k1 k2 : Nat)
    (d1 : x1.covers k1) (d2 : x2.covers k2) : eqOk x1 k1 x2 k2 = true := by
  simp only [eqCheck, Bool.and_eq_true, Bool.or_eq_true, Bool.not_eq_true', List.all_eq_true] at h
  obtain ⟨⟨⟨c1, c2⟩, c3⟩, c4⟩ := h
  rcases d1 with m1 | ⟨p1, n1⟩ <;> rcases d2 with m2 | ⟨p2, n2⟩
  · exact c1 k1 m1 k2 m2
  · rcases c2 with c2 | c2
    · rw [p2] at c2; cases c2
    · exact eqOk_of_genRes x1 x2 k1 k2 _
        (lookupEq_congr_right x1.v k1 x2.v eqArms n2 (fresh_not_mem _))
        (c2 k1 m1)
  · rcases c3 with c3 | c3
    · rw [p1] at c3; cases c3
    · exact eqOk_of_genRes x1 x2 k1 k2 _
        (lookupEq_congr_left x1.v x2.v k2 eqArms n1 (fresh_not_mem _))
        (c3 k2 m2)
  · rcases c4 with c4 | c4
    · simp [p1, p2] at c4
    · exact eqOk_of_genRes x1 x2 k1 k2 _
        ((lookupEq_congr_left x1.v x2.v k2 eqArms n1 (fresh_not_mem _)).trans
          (lookupEq_congr_right x1.v x1.gen x2.v eqArms n2 (fresh_not_mem _)))
        c4

/-- Two codes that compare equal are related by the documented coincidences (whose codeword
    equalities are the L2 theorems). -/
theorem eq_sound (a b : Codes) (h : codesEq a b = true) : a.id.equiv b.id = true := by
  have := eqOk_all a.desc b.desc
    (List.all_eq_true.mp (List.all_eq_true.mp eqCheck_all _ a.desc_mem) _ b.desc_mem)
    a.param b.param a.desc_covers b.desc_covers
  unfold eqOk at this
  unfold codesEq at h
  simp only [Codes.desc] at this
  rw [h] at this
  simpa [Codes.id] using this

end Dsi
