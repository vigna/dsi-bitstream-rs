/-
  C13 — the four in-memory word streams (`MemR` zero-extended / strict, `MemW` slice / vector)
  behave as an array with a cursor (`ArrCur`).
-/
import Dsi.Impl.MemWord
import Dsi.Impl.MemWordSpec
namespace Dsi

def absR {W : Nat} (m : MemR W) : ArrCur :=
  { kind := if m.strict then .readerStrict else .readerZeroExt,
    arr := m.data.map BitVec.toNat, cur := m.pos }

def absW {W : Nat} (m : MemW W) : ArrCur :=
  { kind := if m.growable then .writerVec else .writerSlice,
    arr := m.data.map BitVec.toNat, cur := m.pos }

namespace SmallL
@[simp] theorem res_map_ok {α β} (f : α → β) (a : α) : Res.map f (.ok a) = .ok (f a) := rfl
@[simp] theorem res_map_err {α β} (f : α → β) (e : Err) : Res.map f (.err e : Res α) = .err e := rfl
@[simp] theorem res_map_panic {α β} (f : α → β) : Res.map f (.panic : Res α) = .panic := rfl
@[simp] theorem res_map_dpanic {α β} (f : α → β) : Res.map f (.dpanic : Res α) = .dpanic := rfl

theorem map_toNat_getElem? {W : Nat} (l : List (BitVec W)) (i : Nat) :
    (l.map BitVec.toNat)[i]? = (l[i]?).map BitVec.toNat := by simp
end SmallL
open SmallL

theorem memr_read_refines {W : Nat} (m : MemR W) :
    (m.readWord).map (fun (w, m') => (w.toNat, absR m')) = (absR m).read := by
  unfold MemR.readWord ArrCur.read ArrCur.under absR
  simp only [map_toNat_getElem?]
  cases m.data[m.pos]? with
  | some w => rfl
  | none => cases m.strict <;> rfl

theorem memr_seek_refines {W : Nat} (m : MemR W) (p : Nat) :
    (m.setWordPos p).map absR = (absR m).seek p := by
  unfold MemR.setWordPos ArrCur.seek absR
  cases m.strict
  · rfl
  · by_cases hp : p ≤ m.data.length
    · simp [hp, Nat.not_lt.2 hp]
    · simp [hp, Nat.not_le.1 hp]

theorem memr_pos_refines {W : Nat} (m : MemR W) : m.wordPos = (absR m).cur := rfl
theorem memr_len_refines {W : Nat} (m : MemR W) : m.len = (absR m).arr.length := by simp [MemR.len, absR]

theorem memr_read_inside {W : Nat} (m : MemR W) (h : m.pos < m.data.length) :
    m.readWord = .ok (m.data[m.pos], { m with pos := m.pos + 1 }) := by
  unfold MemR.readWord
  rw [List.getElem?_eq_getElem h]

/-- a read beyond the end on the strict reader fails (`UnexpectedEof`), and so says the
    specification (a failed operation returns no new state) -/
theorem memr_strict_read_eof {W : Nat} (m : MemR W) (hs : m.strict = true) (h : m.data.length ≤ m.pos) :
    m.readWord = .err .eof ∧ (absR m).read = .err .eof ∧ (absR m).cur = m.pos := by
  have h1 : m.readWord = .err .eof := by
    unfold MemR.readWord
    rw [List.getElem?_eq_none h]; simp [hs]
  refine ⟨h1, ?_, rfl⟩
  rw [← memr_read_refines, h1]; rfl

/-- the strict reader fails exactly beyond the end -/
theorem memr_strict_read_err_iff {W : Nat} (m : MemR W) (hs : m.strict = true) :
    (∃ e, m.readWord = .err e) ↔ m.data.length ≤ m.pos := by
  constructor
  · rintro ⟨e, he⟩
    by_cases h : m.pos < m.data.length
    · rw [memr_read_inside m h] at he; cases he
    · omega
  · intro h; exact ⟨.eof, (memr_strict_read_eof m hs h).1⟩

theorem memr_zeroext_read_beyond {W : Nat} (m : MemR W) (hs : m.strict = false) (h : m.data.length ≤ m.pos) :
    m.readWord = .ok (0, { m with pos := m.pos + 1 }) := by
  unfold MemR.readWord
  rw [List.getElem?_eq_none h]; simp [hs]

/-- the zero-extended reader never fails -/
theorem memr_zeroext_read_ok {W : Nat} (m : MemR W) (hs : m.strict = false) :
    ∃ w, m.readWord = .ok (w, { m with pos := m.pos + 1 }) := by
  by_cases h : m.pos < m.data.length
  · exact ⟨_, memr_read_inside m h⟩
  · exact ⟨0, memr_zeroext_read_beyond m hs (by omega)⟩

/-- `set_word_pos` is rejected iff the reader is strict and the position is beyond the end;
    otherwise it sets the position -/
theorem memr_seek_rejected {W : Nat} (m : MemR W) (p : Nat) :
    (m.setWordPos p = .err .eof ↔ (m.strict = true ∧ p > m.data.length)) ∧
    (m.setWordPos p ≠ .err .eof → m.setWordPos p = .ok { m with pos := p }) := by
  unfold MemR.setWordPos
  split <;> simp_all

theorem memw_read_refines {W : Nat} (m : MemW W) :
    (m.readWord).map (fun (w, m') => (w.toNat, absW m')) = (absW m).read := by
  unfold MemW.readWord ArrCur.read ArrCur.under absW
  simp only [map_toNat_getElem?]
  cases m.data[m.pos]? with
  | some w => rfl
  | none => cases m.growable <;> rfl

theorem memw_write_refines {W : Nat} (m : MemW W) (w : BitVec W) :
    (m.writeWord w).map absW = (absW m).write w.toNat := by
  unfold MemW.writeWord ArrCur.write absW
  by_cases hp : m.pos < m.data.length
  · simp [hp, List.map_set]
  · cases m.growable <;> simp [hp]

theorem memw_seek_refines {W : Nat} (m : MemW W) (p : Nat) :
    (m.setWordPos p).map absW = (absW m).seek p := by
  unfold MemW.setWordPos ArrCur.seek absW
  by_cases hp : p ≤ m.data.length
  · cases m.growable <;> simp [hp, Nat.not_lt.2 hp]
  · cases m.growable <;> simp [hp, Nat.not_le.1 hp]

theorem memw_pos_refines {W : Nat} (m : MemW W) : m.wordPos = (absW m).cur := rfl
theorem memw_len_refines {W : Nat} (m : MemW W) : m.len = (absW m).arr.length := by simp [MemW.len, absW]

theorem memw_read_eof {W : Nat} (m : MemW W) (h : m.data.length ≤ m.pos) :
    m.readWord = .err .eof ∧ (absW m).read = .err .eof ∧ (absW m).cur = m.pos := by
  have h1 : m.readWord = .err .eof := by
    unfold MemW.readWord
    rw [List.getElem?_eq_none h]
  refine ⟨h1, ?_, rfl⟩
  rw [← memw_read_refines, h1]; rfl

theorem memw_read_inside {W : Nat} (m : MemW W) (h : m.pos < m.data.length) :
    m.readWord = .ok (m.data[m.pos], { m with pos := m.pos + 1 }) := by
  unfold MemW.readWord
  rw [List.getElem?_eq_getElem h]

/-- the effect of a successful write on either writer: the word is stored at the cursor, the cursor
    advances, the length becomes `max len (pos + 1)` (growth happens only on the vector), the old
    cells are kept and the new cells between the old end and the cursor are zero -/
theorem memw_write_ok {W : Nat} (m m' : MemW W) (w : BitVec W) (h : m.writeWord w = .ok m') :
    m'.data.length = max m.data.length (m.pos + 1) ∧
    m'.pos = m.pos + 1 ∧ m'.growable = m.growable ∧
    m'.data[m.pos]? = some w ∧
    (∀ i, i < m.data.length → i ≠ m.pos → m'.data[i]? = m.data[i]?) ∧
    (∀ i, m.data.length ≤ i → i < m.pos → m'.data[i]? = some 0) := by
  obtain ⟨data, pos, growable⟩ := m
  unfold MemW.writeWord at h
  simp only at h ⊢
  by_cases hp : pos < data.length
  · rw [if_pos hp] at h
    cases h
    exact ⟨by rw [List.length_set, Nat.max_eq_left hp], rfl, rfl, List.getElem?_set_self hp,
      fun i _ hne => List.getElem?_set_ne (Ne.symm hne), fun i h1 h2 => absurd hp (by omega)⟩
  · rw [if_neg hp] at h
    cases growable with
    | false => cases h
    | true =>
      cases h
      -- the zero fill ends exactly at the cursor
      have hl : (data ++ List.replicate (pos - data.length) (0 : BitVec W)).length = pos := by
        rw [List.length_append, List.length_replicate]; omega
      refine ⟨?_, rfl, rfl, ?_, fun i hi _ => ?_, fun i h1 h2 => ?_⟩
      · rw [List.length_append, hl, Nat.max_eq_right (by omega)]; rfl
      · rw [List.getElem?_append_right (Nat.le_of_eq hl), hl, Nat.sub_self]; rfl
      · rw [List.append_assoc, List.getElem?_append_left hi]
      · rw [List.getElem?_append_left (hl.symm ▸ h2 : i < _), List.getElem?_append_right h1,
          List.getElem?_replicate, if_pos (by omega)]

theorem memw_vec_write_ok {W : Nat} (m : MemW W) (w : BitVec W) (hg : m.growable = true) :
    ∃ m', m.writeWord w = .ok m' := by
  unfold MemW.writeWord
  by_cases hp : m.pos < m.data.length
  · rw [if_pos hp]; exact ⟨_, rfl⟩
  · rw [if_neg hp, if_pos hg]; exact ⟨_, rfl⟩

/-- the slice refuses (with an error) exactly the writes beyond its end; inside, it stores the word
    and advances -/
theorem memw_slice_write_err_iff {W : Nat} (m : MemW W) (w : BitVec W) (hg : m.growable = false) :
    (m.writeWord w = .err .eof ↔ m.data.length ≤ m.pos) ∧
    (m.pos < m.data.length → m.writeWord w = .ok { m with data := m.data.set m.pos w, pos := m.pos + 1 }) := by
  unfold MemW.writeWord
  split <;> simp_all

theorem memw_seek_rejected {W : Nat} (m : MemW W) (p : Nat) :
    (m.setWordPos p = .err .eof ↔ p > m.data.length) ∧
    (m.setWordPos p ≠ .err .eof → m.setWordPos p = .ok { m with pos := p }) := by
  unfold MemW.setWordPos
  split <;> simp_all

/-! ### sequences of operations

  `MemOp` are the operations of the streams; `stepR`/`stepW` apply one to a concrete stream and
  `ArrCur.step` to the specification.  As in the Rust (and in the driver), a failed operation
  returns the error and leaves the stream as it was, ready for the next operation. -/

inductive MemOp (W : Nat) where
  | read
  | write (w : BitVec W)
  | seek (p : Nat)
  | pos
  | len

/-- what an operation answers: a word or number, or nothing, or an error -/
abbrev MemAns := Res (Option Nat)

def ArrCur.step {W : Nat} (a : ArrCur) : MemOp W → MemAns × ArrCur
  | .read => match a.read with
    | .ok (v, a') => (.ok (some v), a')
    | .err e => (.err e, a) | .panic => (.panic, a) | .dpanic => (.dpanic, a)
  | .write w => match a.write w.toNat with
    | .ok a' => (.ok none, a')
    | .err e => (.err e, a) | .panic => (.panic, a) | .dpanic => (.dpanic, a)
  | .seek p => match a.seek p with
    | .ok a' => (.ok none, a')
    | .err e => (.err e, a) | .panic => (.panic, a) | .dpanic => (.dpanic, a)
  | .pos => (.ok (some a.cur), a)
  | .len => (.ok (some a.arr.length), a)

def MemW.step {W : Nat} (m : MemW W) : MemOp W → MemAns × MemW W
  | .read => match m.readWord with
    | .ok (v, m') => (.ok (some v.toNat), m')
    | .err e => (.err e, m) | .panic => (.panic, m) | .dpanic => (.dpanic, m)
  | .write w => match m.writeWord w with
    | .ok m' => (.ok none, m')
    | .err e => (.err e, m) | .panic => (.panic, m) | .dpanic => (.dpanic, m)
  | .seek p => match m.setWordPos p with
    | .ok m' => (.ok none, m')
    | .err e => (.err e, m) | .panic => (.panic, m) | .dpanic => (.dpanic, m)
  | .pos => (.ok (some m.wordPos), m)
  | .len => (.ok (some m.len), m)

/-- the operation sequences considered for the readers: no `write` (the readers have none) and no
    `len` -/
def MemOp.forReader {W : Nat} : MemOp W → Bool
  | .read | .seek _ | .pos => true
  | _ => false

def MemR.step {W : Nat} (m : MemR W) : MemOp W → MemAns × MemR W
  | .read => match m.readWord with
    | .ok (v, m') => (.ok (some v.toNat), m')
    | .err e => (.err e, m) | .panic => (.panic, m) | .dpanic => (.dpanic, m)
  | .seek p => match m.setWordPos p with
    | .ok m' => (.ok none, m')
    | .err e => (.err e, m) | .panic => (.panic, m) | .dpanic => (.dpanic, m)
  | .pos => (.ok (some m.wordPos), m)
  | .len => (.ok (some m.len), m)
  | .write _ => (.panic, m)       -- not an operation of a reader

def runMem {σ ο : Type} (step : σ → ο → MemAns × σ) : σ → List ο → List MemAns × σ
  | s, [] => ([], s)
  | s, op :: ops =>
    let (a, s') := step s op
    let (as, s'') := runMem step s' ops
    (a :: as, s'')

/- One operation: the specification's outcome is the image of the concrete one under the abstraction
   (`*_refines`), and both `step`s branch on the outcome in the same way. -/

theorem memw_step_refines {W : Nat} (m : MemW W) (op : MemOp W) :
    (m.step op).1 = ((absW m).step op).1 ∧ absW (m.step op).2 = ((absW m).step op).2 := by
  cases op with
  | read =>
    simp only [MemW.step, ArrCur.step]
    rw [← memw_read_refines m]
    cases m.readWord <;> exact ⟨rfl, rfl⟩
  | write w =>
    simp only [MemW.step, ArrCur.step]
    rw [← memw_write_refines m w]
    cases m.writeWord w <;> exact ⟨rfl, rfl⟩
  | seek p =>
    simp only [MemW.step, ArrCur.step]
    rw [← memw_seek_refines m p]
    cases m.setWordPos p <;> exact ⟨rfl, rfl⟩
  | pos => exact ⟨rfl, rfl⟩
  | len => exact ⟨congrArg (fun n => Res.ok (some n)) (memw_len_refines m), rfl⟩

theorem memr_step_refines {W : Nat} (m : MemR W) (op : MemOp W) (hop : op.forReader = true) :
    (m.step op).1 = ((absR m).step op).1 ∧ absR (m.step op).2 = ((absR m).step op).2 := by
  cases op with
  | read =>
    simp only [MemR.step, ArrCur.step]
    rw [← memr_read_refines m]
    cases m.readWord <;> exact ⟨rfl, rfl⟩
  | seek p =>
    simp only [MemR.step, ArrCur.step]
    rw [← memr_seek_refines m p]
    cases m.setWordPos p <;> exact ⟨rfl, rfl⟩
  | pos => exact ⟨rfl, rfl⟩
  | write w => cases hop
  | len => cases hop

theorem SmallL.runMem_refines {σ τ ο : Type} (abs : σ → τ) (step : σ → ο → MemAns × σ)
    (step' : τ → ο → MemAns × τ) (P : ο → Prop)
    (h : ∀ s op, P op → (step s op).1 = (step' (abs s) op).1 ∧ abs (step s op).2 = (step' (abs s) op).2)
    (s : σ) (ops : List ο) (hops : ∀ op ∈ ops, P op) :
    (runMem step s ops).1 = (runMem step' (abs s) ops).1 ∧
    abs (runMem step s ops).2 = (runMem step' (abs s) ops).2 := by
  induction ops generalizing s with
  | nil => exact ⟨rfl, rfl⟩
  | cons op ops ih =>
    obtain ⟨h1, h2⟩ := h s op (hops op List.mem_cons_self)
    obtain ⟨i1, i2⟩ := ih (step s op).2 fun o ho => hops o (List.mem_cons_of_mem _ ho)
    simp only [runMem]
    rw [← h2, ← h1, ← i1, ← i2]
    exact ⟨rfl, rfl⟩

/-- any sequence of operations on a writer (slice or vector) gives the answers of the
    specification, and ends in a stream whose abstraction is the specification's final state -/
theorem memw_ops_refine {W : Nat} (m : MemW W) (ops : List (MemOp W)) :
    (runMem MemW.step m ops).1 = (runMem ArrCur.step (absW m) ops).1 ∧
    absW (runMem MemW.step m ops).2 = (runMem ArrCur.step (absW m) ops).2 :=
  runMem_refines absW MemW.step ArrCur.step (fun _ => True) (fun m op _ => memw_step_refines m op) m ops
    fun _ _ => trivial

/-- the same for the two readers -/
theorem memr_ops_refine {W : Nat} (m : MemR W) (ops : List (MemOp W)) (hops : ∀ op ∈ ops, op.forReader = true) :
    (runMem MemR.step m ops).1 = (runMem ArrCur.step (absR m) ops).1 ∧
    absR (runMem MemR.step m ops).2 = (runMem ArrCur.step (absR m) ops).2 :=
  runMem_refines absR MemR.step ArrCur.step (·.forReader = true) memr_step_refines m ops hops

/-- the initial states the driver builds (`handleMW`) are related by the abstraction -/
theorem abs_init {W : Nat} (init : List Nat) (strict growable : Bool) :
    absR ({ data := init.map (BitVec.ofNat W), strict := strict } : MemR W) =
      { kind := if strict then .readerStrict else .readerZeroExt, arr := init.map (· % 2 ^ W) } ∧
    absW ({ data := init.map (BitVec.ofNat W), growable := growable } : MemW W) =
      { kind := if growable then .writerVec else .writerSlice, arr := init.map (· % 2 ^ W) } := by
  simp [absR, absW, Function.comp_def]

/-- vector writer: writing at the end grows by one; writing beyond the end is not reachable
    (`set_word_pos` refuses positions beyond the end) but would zero-fill -/
example : (MemW.writeWord { data := [1#8, 2#8], pos := 2, growable := true } 7#8) =
    .ok { data := [1#8, 2#8, 7#8], pos := 3, growable := true } := rfl

example : (MemW.writeWord { data := [1#8], pos := 3, growable := true } 7#8) =
    .ok { data := [1#8, 0#8, 0#8, 7#8], pos := 4, growable := true } := rfl

example :
    (runMem MemW.step ({ data := [1#8, 2#8], pos := 1, growable := false } : MemW 8)
      [.read, .write 9#8, .seek 5, .pos, .seek 0, .read, .len]).1 =
      [.ok (some 2), .err .eof, .err .eof, .ok (some 2), .ok none, .ok (some 1), .ok (some 2)] := rfl

example :
    (runMem MemR.step ({ data := [5#8], pos := 0, strict := false } : MemR 8) [.read, .read, .pos]).1 =
      [.ok (some 5), .ok (some 0), .ok (some 2)] ∧
    (runMem ArrCur.step (absR ({ data := [5#8], pos := 0, strict := false } : MemR 8))
      [MemOp.read (W := 8), .read, .pos]).1 = [.ok (some 5), .ok (some 0), .ok (some 2)] := ⟨rfl, rfl⟩

example :
    let m : MemR 8 := { data := [5#8], pos := 1, strict := true }
    m.readWord = .err .eof ∧ (absR m).cur = 1 :=
  ⟨(memr_strict_read_eof _ rfl (by decide)).1, rfl⟩

example (ops : List (MemOp 64)) :
    (runMem MemW.step ({ data := [1#64, 2#64], growable := true } : MemW 64) ops).1 =
    (runMem ArrCur.step { kind := .writerVec, arr := [1, 2] } ops).1 :=
  (memw_ops_refine _ ops).1

end Dsi
