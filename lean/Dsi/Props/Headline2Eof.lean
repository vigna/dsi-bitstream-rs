/-
  Headline theorems for C09 (end of stream: data is never fabricated and the tail is never lost),
  stated over the generated `BufBitReader` / `BitReader` (`genRImpl e`, `genBitRImpl e`: the bodies
  regenerated from src/impls/buf_bit_reader.rs, bit_reader.rs on this run) over a memory backend
  `⟨data, 0, strict⟩` (`strict = true`: `MemWordReaderStrict`, errors beyond the end;
  `strict = false`: `MemWordReader`, zero-extended).

  `gen_eof_exact`: the buffered reader.  `gen_bitr_eof_exact` gives `EofExact`, without `skip_bits`, for the unbuffered
  reader at the state reached by a program whose run on the reference reader succeeds.  Codes lying
  entirely within the data decode correctly on a strict backend, through the tables too:
  `Headline.gen_code_roundtrip` with `strict := true`.

  Hypotheses: those of C07 (`PeekBounded`, `e = .be → W ≤ 64`, `hfit`), see Props/Headline2Seek.lean.
-/
import Dsi.Lemmas.Headline2Reader
namespace Dsi
namespace Headline2
open Headline
variable {W : Nat}

/-- the operations of a bit reader `I` at state `s` behave as a cursor at bit `pos` of `bits`,
    strict or zero-extended; `peekMax`: the look-ahead capacity -/
structure EofExact {σ : Type} (I : RImpl σ) (e : Endian) (bits : List Bool) (strict : Bool)
    (peekMax : Nat) (s : σ) (pos : Nat) : Prop where
  readBits : ∀ n, n ≤ 64 →
    (strict = true ∧ bits.length < pos + n ∧ I.readBits s n = .err .eof) ∨
    (¬ (strict = true ∧ bits.length < pos + n) ∧
      ∃ s2, I.readBits s n = .ok (bitsVal e (takeZ n (bits.drop pos)), s2))
  peekBits : ∀ n, 1 ≤ n → n ≤ peekMax →
    (strict = true ∧ bits.length < pos + n ∧ I.peekBits s n = .err .eof) ∨
    (¬ (strict = true ∧ bits.length < pos + n) ∧
      ∃ s2, I.peekBits s n = .ok (bitsVal e (takeZ n (bits.drop pos)), s2))
  readUnary :
    (∀ z, RefR.firstOne (bits.drop pos) = some z → ∃ s2, I.readUnary s = .ok (z, s2)) ∧
    (RefR.firstOne (bits.drop pos) = none → strict = true → I.readUnary s = .err .eof)

theorem not_avail_iff (r : RefR) (n : Nat) :
    ¬ r.avail n = true ↔ r.strict = true ∧ r.stream.length < r.pos + n := by
  cases hs : r.strict <;> simp [RefR.avail, hs]

theorem ref_readBits_cases (r : RefR) {n : Nat} (hn : n ≤ 64) :
    (r.strict = true ∧ r.stream.length < r.pos + n ∧ RefR.readBits r n = .err .eof) ∨
    (¬ (r.strict = true ∧ r.stream.length < r.pos + n) ∧
      RefR.readBits r n = .ok (bitsVal r.e (takeZ n (r.stream.drop r.pos)), { r with pos := r.pos + n })) := by
  unfold RefR.readBits
  rw [if_neg (Nat.not_lt.2 hn)]
  by_cases hav : r.avail n = true
  · rw [if_pos hav]; exact .inr ⟨fun h => (not_avail_iff r n).2 h hav, rfl⟩
  · rw [if_neg hav]; exact .inl ⟨((not_avail_iff r n).1 hav).1, ((not_avail_iff r n).1 hav).2, rfl⟩

theorem ref_peekBits_cases (r : RefR) {n : Nat} (h1 : 1 ≤ n) (hn : n ≤ r.peekMax) :
    (r.strict = true ∧ r.stream.length < r.pos + n ∧ RefR.peekBits r n = .err .eof) ∨
    (¬ (r.strict = true ∧ r.stream.length < r.pos + n) ∧
      RefR.peekBits r n = .ok (bitsVal r.e (takeZ n (r.stream.drop r.pos)), r)) := by
  unfold RefR.peekBits
  rw [if_neg (by omega)]
  by_cases hav : r.avail n = true
  · rw [if_pos hav]; exact .inr ⟨fun h => (not_avail_iff r n).2 h hav, rfl⟩
  · rw [if_neg hav]; exact .inl ⟨((not_avail_iff r n).1 hav).1, ((not_avail_iff r n).1 hav).2, rfl⟩

theorem eofExact_of_sim {σ : Type} {I : RImpl σ} {Q : σ → RefR → Prop} {s : σ} {r : RefR}
    (hrb : ∀ n, n ≤ 64 → ResRel (fun (x : Nat × σ) (y : Nat × RefR) => x.1 = y.1 ∧ Q x.2 y.2)
      (I.readBits s n) (RefR.readBits r n))
    (hpk : ∀ n, 1 ≤ n → n ≤ r.peekMax →
      ResRel (fun (x : Nat × σ) (y : Nat × RefR) => x.1 = y.1 ∧ Q x.2 y.2)
        (I.peekBits s n) (RefR.peekBits r n))
    (hun : ResRel (fun (x : Nat × σ) (y : Nat × RefR) => x.1 = y.1 ∧ Q x.2 y.2)
      (I.readUnary s) (RefR.readUnary r)) :
    EofExact I r.e r.stream r.strict r.peekMax s r.pos := by
  refine ⟨?_, ?_, ?_, ?_⟩
  · intro n hn
    have h := hrb n hn
    rcases ref_readBits_cases r hn with ⟨h1, h2, h3⟩ | ⟨h1, h3⟩
    · rw [h3] at h; exact Or.inl ⟨h1, h2, h.of_err_right⟩
    · rw [h3] at h
      obtain ⟨⟨v, s2⟩, hx, hv, _⟩ := h.of_ok_right
      exact Or.inr ⟨h1, s2, by rw [hx]; exact congrArg (fun t => Res.ok (t, s2)) hv⟩
  · intro n h1 hn
    have h := hpk n h1 hn
    rcases ref_peekBits_cases r h1 hn with ⟨h1, h2, h3⟩ | ⟨h1, h3⟩
    · rw [h3] at h; exact Or.inl ⟨h1, h2, h.of_err_right⟩
    · rw [h3] at h
      obtain ⟨⟨v, s2⟩, hx, hv, _⟩ := h.of_ok_right
      exact Or.inr ⟨h1, s2, by rw [hx]; exact congrArg (fun t => Res.ok (t, s2)) hv⟩
  · intro z hz
    have h := hun
    unfold RefR.readUnary RefR.rest at h
    rw [hz] at h
    obtain ⟨⟨v, s2⟩, hx, hv, _⟩ := h.of_ok_right
    exact ⟨s2, by rw [hx]; exact congrArg (fun t => Res.ok (t, s2)) hv⟩
  · intro hz hs
    have h := hun
    unfold RefR.readUnary RefR.rest at h
    rw [hz] at h
    simp only [hs, if_true] at h
    exact h.of_err_right

def SkipExact {σ : Type} (I : RImpl σ) (L : Nat) (strict : Bool) (s : σ) (pos : Nat) : Prop :=
  ∀ n, (strict = true ∧ L < pos + n ∧ I.skipBits s n = .err .eof) ∨
    (¬ (strict = true ∧ L < pos + n) ∧ ∃ s2, I.skipBits s n = .ok s2)

theorem eof_of_ginv {e : Endian} (hW64 : e = .be → W ≤ 64) {s : BufR W} {r : RefR} (hi : GInv e s r) :
    EofExact (genRImpl e) r.e r.stream r.strict r.peekMax s r.pos ∧
    SkipExact (genRImpl e) r.stream.length r.strict s r.pos := by
  constructor
  · apply eofExact_of_sim (Q := BufR.Rel e)
    · intro n _
      rw [genR_readBits e s hi.2]
      exact (readBits_sim hW64 hi.1 n).mono (fun _ _ h => h)
    · intro n _ hn
      rw [genR_peekBits e s hi.2]
      exact (peekBits_sim hi.1 (by rw [← hi.1.2.2.2.2.1]; exact hn)).mono (fun _ _ h => h)
    · rw [genR_readUnary e s hi.2]
      exact (readUnary_sim hi.1).mono (fun _ _ h => h)
  · intro n
    have h := skipBits_sim hi.1 n
    rw [← genR_skipBits e s hi.2] at h
    unfold RefR.skipBits at h
    by_cases hav : r.avail n = true
    · rw [if_pos hav] at h
      obtain ⟨s2, hx, _⟩ := h.of_ok_right
      exact .inr ⟨fun hn => (not_avail_iff r n).2 hn hav, s2, hx⟩
    · rw [if_neg hav] at h
      exact .inl ⟨((not_avail_iff r n).1 hav).1, ((not_avail_iff r n).1 hav).2, h.of_err_right⟩

/-- **C09, generated `BufBitReader`.**  After any generated program from a fresh reader over the
    memory backend `⟨data, 0, strict⟩`: with `pos` the number of bits consumed (what the generated
    `bit_pos` answers), every `read_bits` / `peek_bits` / `skip_bits` request returns
    `Err(UnexpectedEof)` exactly when the backend is strict and the request crosses the end of the
    data, and otherwise the next bits of the stream (zeros beyond the end of a zero-extended
    backend, which therefore never fails); `read_unary` finds the next one, or fails on a strict
    stream without one. -/
theorem gen_eof_exact {α : Type} (e : Endian) (hW : 0 < W) (hW64 : e = .be → W ≤ 64)
    (data : List (BitVec W)) (strict : Bool) (hfit : data.length * W + 4 * W < 2 ^ 64)
    (p : RProg α) (hp : PeekBounded W 0 p) {a : α} {s1 : BufR W}
    (hrun : p.run (genRImpl e) (BufR.new ⟨data, 0, strict⟩) = .ok (a, s1)) :
    ∃ pos, (∃ r', p.run RefR.impl (refAt e data strict W 0) = .ok (a, r') ∧ r'.pos = pos) ∧
      (strict = true → pos ≤ data.length * W) ∧
      ((strict = true ∨ pos + 2 * W ≤ 2 ^ 64) → GenBufR.genBitPos e s1 = .ok (pos, s1)) ∧
      EofExact (genRImpl e) e (data.flatMap (wordBits e)) strict W s1 pos ∧
      SkipExact (genRImpl e) (data.length * W) strict s1 pos := by
  obtain ⟨r1, hr1, hi1⟩ := gen_run_ok hW64 p hp (ginv_new e hW data strict hfit) hrun
  have hr1' := ref_run_refAt hr1
  obtain ⟨h1, h2⟩ := eof_of_ginv hW64 hi1
  rw [hr1'] at h1 h2
  refine ⟨r1.pos, ⟨r1, hr1, rfl⟩, ?_, ?_, h1, ?_⟩
  · intro hs
    have := rel_pos_le hi1.1 (by rw [hr1']; exact hs)
    rwa [hr1', refAt_length] at this
  · exact fun hf => gen_bitPos_ginv hi1 (hf.imp_left fun h => by rw [hr1']; exact h)
  · rwa [refAt_length] at h2

/-- **C09, generated unbuffered `BitReader`** (its `skip_bits` never fails; a read after a skip
    beyond the end of a strict stream is not covered here: the reference reader is not defined
    there, see `bitr_skipBits_beyond`). -/
theorem gen_bitr_eof_exact {α : Type} (e : Endian) (data : List (BitVec 64)) (strict : Bool)
    (p : RProg α) (hok : BitROK strict p) {a : α} {r1 : RefR}
    (href : p.run RefR.impl (refAt e data strict 32 0) = .ok (a, r1))
    (hfit : r1.pos + (data.length + 3) * 64 < 2 ^ 64) :
    ∃ s1, p.run (genBitRImpl e) { data := ⟨data, 0, strict⟩ } = .ok (a, s1) ∧
      genBitRBitPos e s1 = .ok (r1.pos, s1) ∧
      EofExact (genBitRImpl e) e (data.flatMap (wordBits e)) strict 32 s1 r1.pos := by
  obtain ⟨s1, hs1, hi1, hd1⟩ := gen_bitr_run_of_ref_ok p (bitr_new_rel e data 0 strict) hok href hfit
  have hr1' := ref_run_refAt href
  have hd1' : s1.data.data.length = data.length := by rw [hd1]
  have hix := bitr_rel_pos hi1.1
  refine ⟨s1, hs1, genBitRBitPos_rel hi1.1 (by omega), ?_⟩
  have := eofExact_of_sim (I := genBitRImpl e) (Q := BitR.Rel' e) (s := s1) (r := r1)
    (by
      intro n hn
      rw [genBitRImpl_eq]
      exact (GenBitR.gen_bitr_readBits_sim hi1 hn (by omega)).mono (fun _ _ h => h))
    (by
      intro n h1 hn
      rw [genBitRImpl_eq]
      have hpm : r1.peekMax = 32 := by rw [hr1']; rfl
      exact (GenBitR.gen_bitr_peekBits_sim hi1 h1 (by omega) (by omega)).mono (fun _ _ h => h))
    (by
      rw [genBitRImpl_eq]
      exact (GenBitR.gen_bitr_readUnary_sim hi1 (by omega)).mono (fun _ _ h => h))
  rw [hr1'] at this
  exact this

/-- strict 3-byte stream, 17 bits consumed by the mixed program of Props/Reader.lean: a 7-bit read
    fits, an 8-bit read crosses the end -/
example : ∃ s1 : BufR 8,
    readerExProg.run (genRImpl .be) (BufR.new ⟨[0xA5#8, 0x3C#8, 0xF0#8], 0, true⟩) = .ok (309, s1) ∧
    GenBufR.genBitPos .be s1 = .ok (17, s1) ∧
    (∃ s2, (genRImpl .be).readBits s1 7 = .ok (0x70, s2)) ∧
    (genRImpl .be).readBits s1 8 = .err .eof ∧
    (genRImpl .be).peekBits s1 8 = .err .eof ∧
    (genRImpl .be).skipBits s1 8 = .err .eof :=
  ⟨_, rfl, rfl, ⟨_, rfl⟩, rfl, rfl, rfl⟩

example : ∃ s1 : BufR 8,
    readerExProg.run (genRImpl .be) (BufR.new ⟨[0xA5#8, 0x3C#8, 0xF0#8], 0, false⟩) = .ok (309, s1) ∧
    (∃ s2, (genRImpl .be).readBits s1 8 = .ok (0xE0, s2)) ∧
    (∃ s2, (genRImpl .be).skipBits s1 100 = .ok s2) :=
  ⟨_, rfl, ⟨_, rfl⟩, ⟨_, rfl⟩⟩

example (e : Endian) {s1 : BufR 8} {a : Nat}
    (hrun : readerExProg.run (genRImpl e) (BufR.new ⟨[0xA5#8, 0x3C#8, 0xF0#8], 0, true⟩) = .ok (a, s1)) :
    ∃ pos, pos ≤ 24 ∧ GenBufR.genBitPos e s1 = .ok (pos, s1) ∧
      EofExact (genRImpl e) e ([0xA5#8, 0x3C#8, 0xF0#8].flatMap (wordBits e)) true 8 s1 pos := by
  obtain ⟨pos, _, h1, h2, h3, _⟩ := gen_eof_exact e (by decide) (fun _ => by decide) _ true (by decide)
    readerExProg readerExProg_bounded hrun
  exact ⟨pos, h1 rfl, h2 (Or.inl rfl), h3⟩

example (e : Endian) {a : Nat} {r1 : RefR}
    (href : (RProg.rbits 61).run RefR.impl (refAt e bitrExData true 32 0) = .ok (a, r1))
    (hfit : r1.pos + (bitrExData.length + 3) * 64 < 2 ^ 64) :
    ∃ s1, (RProg.rbits 61).run (genBitRImpl e) { data := ⟨bitrExData, 0, true⟩ } = .ok (a, s1) ∧
      genBitRBitPos e s1 = .ok (r1.pos, s1) ∧
      EofExact (genBitRImpl e) e (bitrExData.flatMap (wordBits e)) true 32 s1 r1.pos := by
  refine gen_bitr_eof_exact e bitrExData true _ ?_ href hfit
  exact ⟨⟨by decide, fun _ => trivial⟩, Or.inl (fun _ => trivial)⟩

end Headline2
end Dsi
