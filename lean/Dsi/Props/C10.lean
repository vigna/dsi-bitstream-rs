/-
  C10 — every dispatch mechanism performs the code it names.

  The theorems are about the generated arm lists (`Dsi.Gen.Dispatch`, regenerated from the Rust
  source on every run): the arm selected for an identifier / a `Codes` value performs
  (`semCall`) the code that the identifier's name / the variant denotes, up to the documented
  coincidences (`CodeId.equiv`; `lenEquiv` for lengths).  One wrong arm makes them false.
-/
import Dsi.Props.DispatchCommon
namespace Dsi
open Gen.Dispatch

def semOk (k : Kind) (call : Call) (bound : Option Nat) (want : CodeId) : Bool :=
  match semCall k call bound with
  | some got => equivK k got want
  | none => false

theorem semOk_elim {k : Kind} {call : Call} {bound : Option Nat} {want : CodeId}
    (h : semOk k call bound want = true) :
    ∃ got, semCall k call bound = some got ∧ equivK k got want = true := by
  unfold semOk at h
  cases hs : semCall k call bound with
  | none => rw [hs] at h; cases h
  | some got => rw [hs] at h; exact ⟨got, rfl, h⟩

/-! ### `ConstCode<ID>` -/

/-- the arm selected for the value `v` of the constant `name` performs the code `name` denotes -/
def constArmOk (k : Kind) (name : String) (v : Nat) : Bool :=
  match codeOfName name, lookupConst codeConsts (armsConst k) v with
  | some want, some call => semOk k call none want
  | _, _ => false

def kinds : List Kind := [.read, .write, .len]

theorem mem_kinds (k : Kind) : k ∈ kinds := by cases k <;> decide

/-- `dispatch_const_ok` as one closed term: the arm of every constant under every kind; the
    identifiers are at most 50 and every number up to 50 is one; the arms have no literal above 50
    and their wildcard arm panics. -/
def constChk : Bool :=
  (kinds.all fun k => codeConsts.all fun nv => constArmOk k nv.1 nv.2) &&
  codeConsts.all (·.2 ≤ 50) &&
  (List.range 51).all (fun id => codeConsts.any (·.2 == id)) &&
  kinds.all fun k =>
    (armsConst k).all (·.1.all (CPat.below 50)) && lookupWild (armsConst k) == some Call.unsupported

theorem constChk_ok : constChk = true := by decide +kernel

theorem dispatch_const_ok :
    -- every constant (every name, aliases included), each of read / write / len
    (∀ (k : Kind), ∀ nv ∈ codeConsts, constArmOk k nv.1 nv.2 = true) ∧
    -- the identifiers are exactly 0..=50 …
    (∀ nv ∈ codeConsts, nv.2 ≤ 50) ∧ (∀ id, id ≤ 50 → ∃ nv ∈ codeConsts, nv.2 = id) ∧
    -- … and any other identifier selects the panic arm
    (∀ (k : Kind) (id : Nat), id > 50 → lookupConst codeConsts (armsConst k) id = some Call.unsupported) := by
  have h := constChk_ok
  simp only [constChk, Bool.and_eq_true, List.all_eq_true, List.any_eq_true, decide_eq_true_eq,
    beq_iff_eq] at h
  obtain ⟨⟨⟨harm, hle⟩, hsurj⟩, hwild⟩ := h
  refine ⟨fun k => harm k (mem_kinds k), hle, fun id hid => ?_, fun k id hid => ?_⟩
  · exact hsurj id (List.mem_range.mpr (Nat.lt_succ_of_le hid))
  · rw [lookupConst_gt hle (hwild k (mem_kinds k)).1 id hid, (hwild k (mem_kinds k)).2]

/-! ### `Codes` -/

def codesP (k : Kind) (fam : Family) (n : Nat) (r : Option Call) : Bool :=
  match r with
  | some call => semOk k call (some n) ⟨fam, n⟩
  | none => false

/-- the arm selected for `c` performs the code `c` names, with `c`'s parameter -/
def codesArmOk (k : Kind) (c : Codes) : Bool :=
  codesP k c.fam c.param (lookupCodes (armsCodes k) c.variant c.param)

def genP (k : Kind) (fam : Family) (r : Option Call) : Bool :=
  match r with
  | some call => decide (semCallSym k call = some (fam, some Arg.param))
  | none => false

theorem codesP_of_genP (k : Kind) (fam : Family) (n : Nat) (r : Option Call)
    (h : genP k fam r = true) : codesP k fam n r = true := by
  cases r with
  | none => exact h
  | some call => simp [codesP, semOk, semCall, of_decide_eq_true h, instSym, equivK_refl]

theorem codesChk_ok :
    (kinds.all fun k => codesChk (armsCodes k) (codesP k ·.fam) (genP k ·.fam)) = true := by
  decide +kernel

theorem dispatch_codes_ok : ∀ (k : Kind) (c : Codes), codesArmOk k c = true := fun k c =>
  forall_codes (List.all_eq_true.mp codesChk_ok k (mem_kinds k))
    (fun d => codesP_of_genP k d.fam) c

/-! ### `FuncCodeReader` / `FuncCodeWriter` / `FuncCodeLen` / `FactoryFuncCodeReader` -/

def funcP (k : Kind) (want : CodeId) (r : Option Call) : Bool :=
  match r with
  | some .unsupported => true
  | some call => semOk k call none want
  | none => false

/-- `new(c)` either refuses or selects a closure whose body performs the code `c` names -/
def funcArmOk (k : Kind) (arms : List (List Pat × Call)) (c : Codes) : Bool :=
  funcP k c.id (lookupCodes arms c.variant c.param)

/-- the codes the documentation promises a function pointer for: the parameterless ones and the
    parametric ones with parameter up to 10 (from 1 for ζ and Golomb) -/
def documentedCodes : List Codes :=
  [.unary, .gamma, .delta, .omega, .vbyteLe, .vbyteBe]
  ++ (List.range 10).map (fun i => .zeta (i + 1)) ++ (List.range 11).map .pi
  ++ (List.range 10).map (fun i => .golomb (i + 1)) ++ (List.range 11).map .expGolomb
  ++ (List.range 11).map .rice

/-- Both halves of `dispatch_func_ok` / `dispatch_factory_ok` for one arm list: every literal arm performs its code and a
    parameter that is no literal is refused; no documented code is refused. -/
def funcChk (k : Kind) (arms : List (List Pat × Call)) : Bool :=
  codesChk arms (fun d n => funcP k ⟨d.fam, n⟩) (fun _ r => r == some Call.unsupported) &&
  documentedCodes.all fun c => lookupCodes arms c.variant c.param != some Call.unsupported

theorem funcChk_sound {k : Kind} {arms : List (List Pat × Call)} (h : funcChk k arms = true) :
    (∀ c : Codes, funcArmOk k arms c = true) ∧
    (∀ c ∈ documentedCodes, lookupCodes arms c.variant c.param ≠ some Call.unsupported) := by
  simp only [funcChk, Bool.and_eq_true, List.all_eq_true, bne_iff_ne] at h
  refine ⟨forall_codes h.1 (fun d n r hr => ?_), h.2⟩
  rw [eq_of_beq hr]; rfl

theorem funcChk_ok :
    ((kinds.all fun k => funcChk k (armsFunc k)) && funcChk .read armsFactory) = true := by
  decide +kernel

theorem dispatch_func_ok :
    (∀ (k : Kind) (c : Codes), funcArmOk k (armsFunc k) c = true) ∧
    (∀ (k : Kind), ∀ c ∈ documentedCodes, lookupCodes (armsFunc k) c.variant c.param ≠ some Call.unsupported) := by
  have h := fun k => funcChk_sound (List.all_eq_true.mp (Bool.and_eq_true_iff.mp funcChk_ok).1 k (mem_kinds k))
  exact ⟨fun k => (h k).1, fun k => (h k).2⟩

theorem dispatch_factory_ok :
    (∀ c : Codes, funcArmOk .read armsFactory c = true) ∧
    (∀ c ∈ documentedCodes, lookupCodes armsFactory c.variant c.param ≠ some Call.unsupported) :=
  funcChk_sound (Bool.and_eq_true_iff.mp funcChk_ok).2

/-! ### `CodesStatsWrapper` -/

/-- The wrapper returns what the wrapped dispatcher returns (value, bits, reader/writer state)
    and counts exactly the calls that returned. -/
theorem stats_wrapper_transparent {σ α : Type} (wrapped : σ → Res (α × σ)) (s : σ) (total : Nat) :
    (statsWrap wrapped s total).1 = wrapped s ∧
    (statsWrap wrapped s total).2 = (if (wrapped s).isOk then total + 1 else total) := by
  unfold statsWrap
  cases h : wrapped s <;> simp [Res.isOk]

/-- A read call that means code `id` runs `id`'s own program — except `read_zeta3`, which runs
    the table-assisted ζ₃ reader (its agreement with `read_zeta(3)` is an L2 theorem). -/
theorem callRead_sem (e : Endian) (call : Call) (bound : Option Nat) (id : CodeId)
    (h : semCall .read call bound = some id) :
    callRead e call bound = some (if isZeta3Call call then readZeta3D e else ownRead e id) := by
  simp [callRead, h]

theorem callWrite_sem (e : Endian) (checks : Bool) (call : Call) (bound : Option Nat) (id : CodeId) (v : Nat)
    (h : semCall .write call bound = some id) :
    callWrite e checks call bound v =
      some (if isZeta3Call call then writeZeta3D e v else ownWrite e checks id v) := by
  simp [callWrite, h]

theorem callLen_sem (call : Call) (bound : Option Nat) (id : CodeId)
    (h : semCall .len call bound = some id) : callLen call bound = some (ownLen id) := by
  simp [callLen, h]

theorem zeta3_call_sem (k : Kind) (call : Call) (bound : Option Nat) (id : CodeId)
    (hz : isZeta3Call call = true) (h : semCall k call bound = some id) : id = ⟨.zeta, 3⟩ := by
  cases call with
  | read m args =>
    simp only [isZeta3Call, beq_iff_eq] at hz
    subst hz
    cases k <;> simp only [semCall, semCallSym, Option.bind] at h <;> try exact absurd h (by simp)
    cases args with
    | nil => simp [readMethod, applySem, instSym] at h; exact h.symm
    | cons a as => simp [readMethod, applySem] at h
  | write m args =>
    simp only [isZeta3Call, beq_iff_eq] at hz
    subst hz
    cases k <;> simp only [semCall, semCallSym, Option.bind] at h <;> try exact absurd h (by simp)
    cases args with
    | nil => simp [writeMethod, applySem, instSym] at h; exact h.symm
    | cons a as => simp [writeMethod, applySem] at h
  | len f args => simp [isZeta3Call] at hz
  | unaryLen => simp [isZeta3Call] at hz
  | unsupported => simp [isZeta3Call] at hz

theorem callRead_cases {e : Endian} {call : Call} {bound : Option Nat} {got : CodeId} {p : RProg Nat}
    (hs : semCall .read call bound = some got) (hp : callRead e call bound = some p) :
    p = ownRead e got ∨ (p = readZeta3D e ∧ got = ⟨.zeta, 3⟩) := by
  rw [callRead_sem e call bound got hs] at hp
  cases hp
  by_cases hz : isZeta3Call call = true
  · exact Or.inr ⟨if_pos hz, zeta3_call_sem .read call bound got hz hs⟩
  · exact Or.inl (if_neg hz)

theorem callWrite_cases {e : Endian} {checks : Bool} {call : Call} {bound : Option Nat} {got : CodeId}
    {v : Nat} {p : WProg Nat} (hs : semCall .write call bound = some got)
    (hp : callWrite e checks call bound v = some p) :
    p = ownWrite e checks got v ∨ (p = writeZeta3D e v ∧ got = ⟨.zeta, 3⟩) := by
  rw [callWrite_sem e checks call bound got v hs] at hp
  cases hp
  by_cases hz : isZeta3Call call = true
  · exact Or.inr ⟨if_pos hz, zeta3_call_sem .write call bound got hz hs⟩
  · exact Or.inl (if_neg hz)

end Dsi
