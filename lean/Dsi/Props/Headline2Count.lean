/-
  Headline theorems for C14 (counting and tracing wrappers are transparent and count exactly),
  stated over generated definitions only: the wrappers `genCountWImpl wi PRINT` /
  `genCountRImpl ri PRINT` assembled from the bodies regenerated from src/utils/count.rs
  (lean/Dsi/Gen/CountBodies.lean) and `Gen.DbgW.impl` / `Gen.DbgR.impl` (src/utils/dbg_codes.rs,
  lean/Dsi/Gen/DbgBodies.lean), wrapped around the generated `BufBitWriter` / `BufBitReader`
  (`genWImpl e`, `genRImpl e`).  Specification: the reference writer / reader (`RefW`, `RefR`);
  `WProg.dataBits` is the number of bits the `write_bits` / `write_unary` operations of a program
  append (flush padding excluded).  Not generated: `BufW.new`, `BufR.new`, the struct literals
  `⟨inner, 0⟩` (`CountBitWriter::new` / `CountBitReader::new`: counter zero).

  Hypotheses: those of C01 / C07 (`Ww < 2^64`; `PeekBounded`, `e = .be → W ≤ 64`, `hfit`).
-/
import Dsi.Lemmas.Headline2Count
import Dsi.Lemmas.HeadlineRunW
import Dsi.Lemmas.Headline2Reader
import Dsi.Props.DbgGen
import Dsi.Props.Glue2
namespace Dsi
namespace Headline2
open Headline SmallL
variable {W : Nat}

/-- **C14, `CountBitWriter`.**  `pw` is any writer program (its run on the reference writer says
    which bits it writes).  Through the generated counting wrapper over a fresh generated
    `BufBitWriter` it returns the same value and leaves the inner writer in the same state as
    without the wrapper, and `bits_written` is exactly the number of bits its `write_bits` /
    `write_unary` operations wrote — without a `flush`, the length of the stream. -/
theorem gen_countw_exact {α : Type} (e : Endian) {Ww : Nat} (hWw : 0 < Ww) (hWw64 : Ww < 2 ^ 64)
    (checks P : Bool) (pw : WProg α) {a : α} {w' : RefW}
    (href : pw.run RefW.impl { e := e, W := Ww, checks := checks, cap := none, bits := [] } = .ok (a, w')) :
    ∃ (sw : BufW Ww) (c' : Nat),
      pw.run (genCountWImpl (genWImpl e) P) ⟨BufW.new Ww checks none, 0⟩ = .ok (a, ⟨sw, c'⟩) ∧
      pw.run (genWImpl e) (BufW.new Ww checks none) = .ok (a, sw) ∧
      c' = pw.dataBits { e := e, W := Ww, checks := checks, cap := none, bits := [] } ∧
      (pw.flushFree → c' = w'.bits.length) := by
  have hrel := rel_new e hWw checks none
  have hinv := BufW.inv_new hWw checks none
  obtain ⟨htr, hsim, hex⟩ := countw_concrete e pw hrel 0
  -- the counted reference run succeeds
  have hcr := countw_transparent RefW.impl pw { e := e, W := Ww, checks := checks, cap := none, bits := [] } 0
  rw [href] at hcr
  obtain ⟨⟨b, ⟨w1, c1⟩⟩, hy, hproj⟩ := Res.map_eq_ok.1 hcr
  rw [hy] at hsim
  obtain ⟨⟨a2, ⟨sw, c'⟩⟩, hx, hab, _, _⟩ := hsim.of_ok_right
  have ha2 : a2 = a := Eq.trans hab (Prod.mk.inj hproj).1
  rw [ha2] at hx
  obtain ⟨w2, hw2, hrel2, hc, hff⟩ := hex a sw c' hx
  have hinner : pw.run (BufW.impl e) (BufW.new Ww checks none) = .ok (a, sw) :=
    countw_inner_run _ pw _ sw 0 c' a hx
  refine ⟨sw, c', ?_, gen_wrun_of_ok e hWw64 pw hinv hinner, by omega, fun hf => ?_⟩
  · rw [genCountWImpl_eq]
    exact wrun_of_ok (wagree_gen e hWw64).count pw (s := ⟨BufW.new Ww checks none, 0⟩) hinv hx
  · -- both ends represent the reference writer: nothing written before, `w'.bits` after
    have := hff hf
    rw [href] at hw2
    cases hw2
    rw [← hrel.1.2.2.2.2.2, ← hrel2.1.2.2.2.2.2] at this
    simpa using this

/-- **C14, `CountBitReader`.**  Any reader program (reads, peeks, skips after peek, skips, unary
    reads — hence every code reader, table-driven or not) through the generated counting wrapper
    over a fresh generated `BufBitReader`: the outcome and the inner reader's state are those of
    the run without the wrapper, and when it succeeds `bits_read` is exactly what the generated
    `bit_pos` of the inner reader answers: the number of bits consumed. -/
theorem gen_countr_exact {α : Type} (e : Endian) (hW : 0 < W) (hW64 : e = .be → W ≤ 64)
    (data : List (BitVec W)) (strict P : Bool) (hfit : data.length * W + 4 * W < 2 ^ 64)
    (p : RProg α) (hp : PeekBounded W 0 p) :
    (p.run (genCountRImpl (genRImpl e) P) ⟨BufR.new ⟨data, 0, strict⟩, 0⟩).map (fun (a, x) => (a, x.inner))
      = p.run (genRImpl e) (BufR.new ⟨data, 0, strict⟩) ∧
    ∀ (a : α) (s' : BufR W) (c' : Nat),
      p.run (genCountRImpl (genRImpl e) P) ⟨BufR.new ⟨data, 0, strict⟩, 0⟩ = .ok (a, ⟨s', c'⟩) →
      (strict = true ∨ c' + 2 * W ≤ 2 ^ 64) →
      GenBufR.genBitPos e s' = .ok (c', s') := by
  have hi0 := ginv_new e hW data strict hfit
  rw [genCountRImpl_eq]
  refine ⟨countr_transparent _ p _ 0, ?_⟩
  intro a s' c' hrun hf
  have hinner := countr_inner_run _ p _ s' 0 c' a hrun
  obtain ⟨r', hr', hi'⟩ := gen_run_ok hW64 p hp hi0 hinner
  have hr'' := ref_run_refAt hr'
  -- the counter, through the hand-written reader
  have hple := PeekLe.of_peekBounded p 0 hp
  have hcong := rrun_congr (ragree_gen (W := W) e).count p (⟨BufR.new ⟨data, 0, strict⟩, 0⟩ : CountR (BufR W))
    hi0.2 hple
  rw [hcong] at hrun
  obtain ⟨hc, _, _, r2, _, hrel2⟩ := (countr_concrete hW64 p hp hi0.1 0).2.2 a s' c' hrun
  have h0 : (BufR.new ⟨data, 0, strict⟩ : BufR W).bitPos = 0 := by
    rw [bitPos_eq hi0.1]; rfl
  have hc' : c' = r'.pos := by
    rw [h0, bitPos_eq hi'.1] at hc
    omega
  rw [hc']
  exact gen_bitPos_ginv hi' (hf.imp (fun h => by rw [hr'']; exact h) fun h => by omega)

/-- **C14, `DbgBitReader` / `DbgBitWriter`.**  The generated tracing wrappers around the generated
    reader / writer run every program exactly as the bare generated reader / writer (same values,
    same states, same errors), alone and under the generated counting wrappers. -/
theorem gen_dbg_transparent {α : Type} (e : Endian) (P : Bool) :
    (∀ (p : RProg α) (s : BufR W), p.run (Gen.DbgR.impl (genRImpl e)) s = p.run (genRImpl e) s) ∧
    (∀ (p : WProg α) (s : BufW W), p.run (Gen.DbgW.impl (genWImpl e)) s = p.run (genWImpl e) s) ∧
    (∀ (p : RProg α) (x : CountR (BufR W)),
      p.run (genCountRImpl (Gen.DbgR.impl (genRImpl e)) P) x = p.run (genCountRImpl (genRImpl e) P) x) ∧
    (∀ (p : WProg α) (x : CountW (BufW W)),
      p.run (genCountWImpl (Gen.DbgW.impl (genWImpl e)) P) x = p.run (genCountWImpl (genWImpl e) P) x) ∧
    (∀ (p : RProg α) (x : CountR (BufR W)),
      p.run (Gen.DbgR.impl (genCountRImpl (genRImpl e) P)) x = p.run (genCountRImpl (genRImpl e) P) x) ∧
    (∀ (p : WProg α) (x : CountW (BufW W)),
      p.run (Gen.DbgW.impl (genCountWImpl (genWImpl e) P)) x = p.run (genCountWImpl (genWImpl e) P) x) :=
  ⟨fun p s => DbgGen.rprog_transparent _ p s, fun p s => DbgGen.wprog_transparent _ p s,
   fun p x => by rw [DbgGen.reader_impl_eq], fun p x => by rw [DbgGen.writer_impl_eq],
   fun p x => DbgGen.rprog_transparent _ p x, fun p x => DbgGen.wprog_transparent _ p x⟩

/-- the writer program of Props/Glue2.lean (`write_bits(5, 3)`, `write_unary(9)`, `flush`) counted
    on a fresh generated 8-bit writer: 13 bits counted, the flush adds none, two bytes delivered -/
example : ∃ sw : BufW 8,
    g2ExProg.run (genCountWImpl (genWImpl .be) true) ⟨BufW.new 8 false none, 0⟩ = .ok (13, ⟨sw, 13⟩) ∧
    sw.outBytes .be = [0xA0, 0x08] := ⟨_, rfl, rfl⟩

example (e : Endian) {a : Nat} {w' : RefW}
    (href : g2ExProg.run RefW.impl { e := e, W := 8, checks := false, cap := none, bits := [] } = .ok (a, w')) :
    ∃ (sw : BufW 8) (c' : Nat),
      g2ExProg.run (genCountWImpl (genWImpl e) true) ⟨BufW.new 8 false none, 0⟩ = .ok (a, ⟨sw, c'⟩) ∧
      g2ExProg.run (genWImpl e) (BufW.new 8 false none) = .ok (a, sw) ∧
      c' = g2ExProg.dataBits { e := e, W := 8, checks := false, cap := none, bits := [] } :=
  have ⟨sw, c', h1, h2, h3, _⟩ := gen_countw_exact e (by decide) (by decide) false true g2ExProg href
  ⟨sw, c', h1, h2, h3⟩

/-- the mixed reader program (peek, skip after peek, read, skip, unary) counted on a fresh generated
    reader: the counter is the position -/
example : ∃ s' : BufR 8,
    readerExProg.run (genCountRImpl (genRImpl .be) false) ⟨BufR.new ⟨[0xA5#8, 0x3C#8, 0xF0#8], 0, true⟩, 0⟩
      = .ok (309, ⟨s', 17⟩) ∧ GenBufR.genBitPos .be s' = .ok (17, s') := ⟨_, rfl, rfl⟩

example (e : Endian) (a : Nat) (s' : BufR 8) (c' : Nat)
    (h : readerExProg.run (genCountRImpl (genRImpl e) false) ⟨BufR.new ⟨[0xA5#8, 0x3C#8, 0xF0#8], 0, true⟩, 0⟩
      = .ok (a, ⟨s', c'⟩)) : GenBufR.genBitPos e s' = .ok (c', s') :=
  (gen_countr_exact e (by decide) (fun _ => by decide) _ true false (by decide) readerExProg
    readerExProg_bounded).2 a s' c' h (Or.inl rfl)

end Headline2
end Dsi
