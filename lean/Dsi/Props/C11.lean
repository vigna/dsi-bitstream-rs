/-
  C11 — `WordAdapter` over an arbitrary schedule of `std::io` responses: words are transferred
  losslessly (every byte exactly once, in order) or an error is reported; without faults the
  adapter is transparent; word positions are byte positions divided by the word size.
-/
import Dsi.Impl.Adapter
import Dsi.Impl.AdapterSeek
import Dsi.Glue.MiscDriver
import Dsi.Lemmas.DivCeil
namespace Dsi

namespace SmallL

theorem writeAll_spec (fuel : Nat) (s : Sink) (buf : List Nat) (hf : s.sched.length < fuel) :
    (∃ s', Sink.writeAll fuel s buf = .ok s' ∧ s'.bytes = s.bytes ++ buf ∧
      ∃ used, s.sched = used ++ s'.sched) ∨
    ∃ e, Sink.writeAll fuel s buf = .err e := by
  fun_induction Sink.writeAll fuel s buf with
  | case1 => omega
  | case2 fuel s buf hb =>
    have : buf = [] := by simpa using hb
    exact .inl ⟨s, rfl, by simp [this], [], rfl⟩
  | case3 fuel s buf hb hs => exact .inl ⟨_, rfl, rfl, [], by simp [hs]⟩
  | case4 => exact .inr ⟨_, rfl⟩
  | case5 fuel s buf hb k rest hs hk ih =>  -- `accept k`: the first `k` bytes go, the rest is retried
    rw [hs] at hf
    exact (ih (by simpa using hf)).imp (fun ⟨s', h, hb', used, hu⟩ =>
      ⟨s', h, by rw [hb', List.append_assoc, List.take_append_drop], .accept k :: used,
        by rw [hs]; exact congrArg (_ :: ·) hu⟩) id
  | case6 fuel s buf hb rest hs ih =>  -- `interrupted`: retried
    rw [hs] at hf
    exact (ih (by simpa using hf)).imp (fun ⟨s', h, hb', used, hu⟩ =>
      ⟨s', h, hb', .interrupted :: used, by rw [hs]; exact congrArg (_ :: ·) hu⟩) id
  | case7 => exact .inr ⟨_, rfl⟩

end SmallL
open SmallL

/-- `write_word` never panics and never runs out of the fuel the definition gives it:
    it returns `ok` or an error. -/
theorem adapter_write_total (s : Sink) (wb : List Nat) :
    (∃ s', s.writeWord wb = .ok s') ∨ (∃ e, s.writeWord wb = .err e) :=
  -- `write_word` gives `write_all` more fuel than the schedule has responses
  (writeAll_spec _ s wb (by omega)).imp (fun ⟨s', h, _⟩ => ⟨s', h⟩) id

/-- Lossless: for every schedule, a successful `write_word` has transferred every byte of the word
    exactly once and in order (and consumed a prefix of the schedule); otherwise an error is
    returned — never a silent loss. -/
theorem adapter_write_lossless (s : Sink) (wb : List Nat) :
    (∀ s', s.writeWord wb = .ok s' → s'.bytes = s.bytes ++ wb ∧ ∃ used, s.sched = used ++ s'.sched) ∧
    ((∃ s', s.writeWord wb = .ok s') ∨ (∃ e, s.writeWord wb = .err e)) := by
  refine ⟨fun s' h => ?_, adapter_write_total s wb⟩
  rcases writeAll_spec (s.sched.length + wb.length + 2) s wb (by omega) with ⟨s1, h1, hs1⟩ | ⟨e, he⟩
  · cases h1.symm.trans h; exact hs1
  · cases he.symm.trans h

/-- writing a list of words in sequence, stopping at the first error (as `adWrite` does) -/
def Sink.writeWords : Sink → List (List Nat) → Res Sink
  | s, [] => .ok s
  | s, w :: ws =>
    match s.writeWord w with
    | .ok s' => Sink.writeWords s' ws
    | .err e => .err e
    | .panic => .panic
    | .dpanic => .dpanic

theorem adapter_write_words_lossless (s : Sink) (ws : List (List Nat)) :
    (∀ s', s.writeWords ws = .ok s' → s'.bytes = s.bytes ++ ws.flatten) ∧
    ((∃ s', s.writeWords ws = .ok s') ∨ (∃ e, s.writeWords ws = .err e)) := by
  induction ws generalizing s with
  | nil => exact ⟨fun s' h => (by cases h; simp), .inl ⟨s, rfl⟩⟩
  | cons w ws ih =>
    unfold Sink.writeWords
    rcases adapter_write_total s w with ⟨s1, h1⟩ | ⟨e, h1⟩
    · rw [h1]
      have hb := ((adapter_write_lossless s w).1 s1 h1).1
      obtain ⟨ih1, ih2⟩ := ih s1
      refine ⟨fun s' h => ?_, ih2⟩
      rw [ih1 s' h, hb]; simp
    · rw [h1]
      exact ⟨fun s' h => (by cases h), .inr ⟨e, rfl⟩⟩

/-- Transparent: without faults `write_word` always succeeds and appends the word. -/
theorem adapter_write_transparent (s : Sink) (wb : List Nat) (h : s.sched = []) :
    s.writeWord wb = .ok { s with bytes := s.bytes ++ wb } := by
  obtain ⟨bytes, sched⟩ := s
  cases h
  cases wb <;> simp [Sink.writeWord, Sink.writeAll]

theorem adapter_write_fail (s : Sink) (wb : List Nat) (rest : List IoResp) (hw : wb ≠ [])
    (h : s.sched = .fail :: rest) : s.writeWord wb = .err .io := by
  cases wb with
  | nil => exact absurd rfl hw
  | cons b bs => simp [Sink.writeWord, Sink.writeAll, h]

/-- `Ok(0)` from the wrapped object is `WriteZero` -/
theorem adapter_write_zero (s : Sink) (wb : List Nat) (rest : List IoResp) (hw : wb ≠ [])
    (h : s.sched = .accept 0 :: rest) : s.writeWord wb = .err .writeZero := by
  cases wb with
  | nil => exact absurd rfl hw
  | cons b bs => simp [Sink.writeWord, Sink.writeAll, h]

namespace SmallL

theorem readExact_spec (fuel : Nat) (s : Source) (n : Nat) (acc : List Nat) (hf : s.sched.length < fuel) :
    (∃ out s', Source.readExact fuel s n acc = .ok (out, s') ∧ out = acc ++ s.bytes.take n ∧
      n ≤ s.bytes.length ∧ s'.bytes = s.bytes.drop n) ∨
    ∃ e, Source.readExact fuel s n acc = .err e := by
  fun_induction Source.readExact fuel s n acc with
  | case1 => omega
  | case2 => exact .inl ⟨_, _, rfl, by simp, Nat.zero_le _, rfl⟩
  | case3 => exact .inr ⟨_, rfl⟩
  | case4 => exact .inr ⟨_, rfl⟩
  | case5 fuel s n acc hn hb hs hl => exact .inl ⟨_, _, rfl, rfl, by omega, rfl⟩
  | case6 => exact .inr ⟨_, rfl⟩
  | case7 fuel s n acc hn hb k rest hs hk m got ih =>  -- `accept k`: `min k n` bytes arrive
    rw [hs] at hf
    refine (ih (by simpa using hf)).imp (fun ⟨out, s', h, h1, h2, h3⟩ => ?_) id
    simp only [got, m, List.length_take, List.length_drop] at h1 h2 h3
    have hmn : min k n ≤ n := Nat.min_le_right _ _
    -- the chunk taken is entirely inside the data (otherwise the rest could not be served)
    have hml : min k n ≤ s.bytes.length := by omega
    rw [Nat.min_eq_left hml] at h1 h2 h3
    refine ⟨out, s', h, ?_, by omega, ?_⟩
    · rw [h1, List.append_assoc, ← List.take_add, Nat.add_sub_cancel' hmn]
    · rw [h3, List.drop_drop, Nat.add_sub_cancel' hmn]
  | case8 fuel s n acc hn hb rest hs ih =>  -- `interrupted`: retried
    rw [hs] at hf
    exact ih (by simpa using hf)
  | case9 => exact .inr ⟨_, rfl⟩

theorem readWord_no_faults (src : Source) (n : Nat) (h : src.sched = []) :
    src.readWord n = if src.bytes.length < n then .err .eof
      else .ok (src.bytes.take n, { src with bytes := src.bytes.drop n }) := by
  obtain ⟨bytes, sched⟩ := src
  cases h
  by_cases hn : n = 0
  · subst hn; simp [Source.readWord, Source.readExact]
  · cases bytes <;> simp [Source.readWord, Source.readExact, hn, Nat.pos_of_ne_zero hn]

end SmallL

/-- `read_word` never panics and never runs out of fuel: it returns `ok` or an error -/
theorem adapter_read_total (src : Source) (n : Nat) :
    (∃ x, src.readWord n = .ok x) ∨ (∃ e, src.readWord n = .err e) :=
  -- `read_word` gives `read_exact` more fuel than the schedule has responses
  (readExact_spec _ src n [] (by omega)).imp (fun ⟨out, src', h, _⟩ => ⟨(out, src'), h⟩) id

/-- Exact: for every schedule a successful `read_word` returns exactly the next `n` bytes, in
    order, and leaves exactly the bytes after them. -/
theorem adapter_read_exact (src src' : Source) (n : Nat) (bytes : List Nat)
    (h : src.readWord n = .ok (bytes, src')) :
    bytes = src.bytes.take n ∧ bytes.length = n ∧ src'.bytes = src.bytes.drop n := by
  rcases readExact_spec (src.sched.length + n + 2) src n [] (by omega) with ⟨o, s1, h1, ho, hn, hb⟩ | ⟨e, he⟩
  · cases h1.symm.trans h
    exact ⟨ho, by rw [ho, List.nil_append, List.length_take, Nat.min_eq_left hn], hb⟩
  · cases he.symm.trans h

/-- Transparent: without faults `read_word` succeeds iff enough bytes are left (and then returns
    them), and fails with `UnexpectedEof` otherwise. -/
theorem adapter_read_transparent (src : Source) (n : Nat) (h : src.sched = []) :
    (n ≤ src.bytes.length → src.readWord n = .ok (src.bytes.take n, { src with bytes := src.bytes.drop n })) ∧
    (src.bytes.length < n → src.readWord n = .err .eof) ∧
    ((∃ x, src.readWord n = .ok x) ↔ n ≤ src.bytes.length) := by
  rw [readWord_no_faults src n h]
  refine ⟨fun hle => if_neg (Nat.not_lt.2 hle), fun hlt => if_pos hlt, ?_⟩
  split
  · exact ⟨fun ⟨_, hx⟩ => (by cases hx), fun hle => absurd hle (Nat.not_le.2 ‹_›)⟩
  · exact ⟨fun _ => Nat.not_lt.1 ‹_›, fun _ => ⟨_, rfl⟩⟩

/-- reading `count` words in sequence, stopping at the first error (as `adRead` does) -/
def Source.readWords (nbytes : Nat) : Source → Nat → Res (List (List Nat) × Source)
  | s, 0 => .ok ([], s)
  | s, k + 1 =>
    match s.readWord nbytes with
    | .ok (w, s') =>
      match Source.readWords nbytes s' k with
      | .ok (ws, s'') => .ok (w :: ws, s'')
      | .err e => .err e
      | .panic => .panic
      | .dpanic => .dpanic
    | .err e => .err e
    | .panic => .panic
    | .dpanic => .dpanic

theorem SmallL.readWords_succ_ok {nbytes k : Nat} {src src' : Source} {ws : List (List Nat)}
    (h : src.readWords nbytes (k + 1) = .ok (ws, src')) :
    ∃ w s1 ws1, src.readWord nbytes = .ok (w, s1) ∧ s1.readWords nbytes k = .ok (ws1, src') ∧
      ws = w :: ws1 := by
  unfold Source.readWords at h
  split at h
  · split at h
    · cases h; exact ⟨_, _, _, ‹_›, ‹_›, rfl⟩
    all_goals cases h
  all_goals cases h

/-- `k` words read in sequence are the consecutive `nbytes`-byte chunks of the data:
    word `i` is bytes `[i*nbytes, (i+1)*nbytes)` -/
theorem adapter_read_words_exact (nbytes : Nat) (src src' : Source) (k : Nat) (ws : List (List Nat))
    (h : src.readWords nbytes k = .ok (ws, src')) :
    ws.length = k ∧ src'.bytes = src.bytes.drop (k * nbytes) ∧ k * nbytes ≤ src.bytes.length ∧
    ∀ i, (hi : i < ws.length) → ws[i] = (src.bytes.drop (i * nbytes)).take nbytes := by
  induction k generalizing src ws with
  | zero =>
    cases h
    simp
  | succ k ih =>
    obtain ⟨w, s1, ws1, h1, h2, rfl⟩ := readWords_succ_ok h
    obtain ⟨e1, e2, e3⟩ := adapter_read_exact src s1 nbytes w h1
    have hlen : nbytes ≤ src.bytes.length := by rw [e1, List.length_take] at e2; omega
    obtain ⟨i1, i2, i3, i4⟩ := ih s1 ws1 h2
    -- word `j` of the rest starts `nbytes` further on in the data
    have hd : ∀ j, (s1.bytes.drop (j * nbytes)) = src.bytes.drop ((j + 1) * nbytes) := fun j => by
      rw [e3, List.drop_drop, Nat.succ_mul, Nat.add_comm]
    rw [e3, List.length_drop] at i3
    refine ⟨by rw [List.length_cons, i1], by rw [i2, hd], by rw [Nat.succ_mul]; omega, fun i hi => ?_⟩
    cases i with
    | zero => rw [Nat.zero_mul]; exact e1
    | succ j => rw [List.getElem_cons_succ, i4 j (Nat.lt_of_succ_lt_succ hi), hd]

/-! ### word positions (the `WordSeek` arithmetic of the driver, `adSeekStep`) -/

theorem ad_rw (nbytes : Nat) (c : AdCursor) (h : c.pos + nbytes ≤ c.data.length) :
    adSeekStep nbytes c ["rw"] =
      (bytesHex ((c.data.drop c.pos).take nbytes), some { c with pos := c.pos + nbytes }) := by
  simp [adSeekStep, AdCursor.readWord, h]

theorem ad_rw_eof (nbytes : Nat) (c : AdCursor) (h : c.data.length < c.pos + nbytes) :
    adSeekStep nbytes c ["rw"] = ("E:eof", some c.afterFailedRead) := by
  have : ¬ c.pos + nbytes ≤ c.data.length := by omega
  simp [adSeekStep, AdCursor.readWord, this, showRes]

theorem ad_wp (nbytes : Nat) (c : AdCursor) :
    adSeekStep nbytes c ["wp"] = (toString ((c.pos + nbytes - 1) / nbytes), some c) := by
  simp [adSeekStep, AdCursor.wordPos]

theorem ad_sp (nbytes : Nat) (c : AdCursor) (ks : String) (k : Nat) (hk : num? ks = some k) :
    adSeekStep nbytes c ["sp", ks] = ("ok", some { c with pos := k * nbytes }) := by
  simp [adSeekStep, AdCursor.setWordPos, hk]

def adRwN (nbytes : Nat) : AdCursor → Nat → Option AdCursor
  | c, 0 => some c
  | c, k + 1 =>
    if c.pos + nbytes ≤ c.data.length then
      match (adSeekStep nbytes c ["rw"]).2 with
      | some c' => adRwN nbytes c' k
      | none => none
    else none

theorem ad_rwN_pos (nbytes : Nat) (c c' : AdCursor) (k : Nat) (h : adRwN nbytes c k = some c') :
    c'.pos = c.pos + k * nbytes ∧ c'.data = c.data := by
  induction k generalizing c with
  | zero => simp only [adRwN, Option.some.injEq] at h; subst h; simp
  | succ k ih =>
    unfold adRwN at h
    by_cases hle : c.pos + nbytes ≤ c.data.length
    · rw [if_pos hle, ad_rw nbytes c hle] at h
      obtain ⟨h1, h2⟩ := ih _ h
      simp only at h1 h2
      refine ⟨?_, h2⟩
      rw [h1, Nat.succ_mul]; omega
    · rw [if_neg hle] at h
      cases h

/-- after `k` successful `read_word` from position 0, `word_pos` answers `k` -/
theorem ad_wp_after_rw (nbytes : Nat) (hn : 0 < nbytes) (data : List Nat) (c' : AdCursor) (k : Nat)
    (h : adRwN nbytes { data := data, pos := 0 } k = some c') :
    adSeekStep nbytes c' ["wp"] = (toString k, some c') := by
  obtain ⟨h1, _⟩ := ad_rwN_pos nbytes _ c' k h
  simp only [Nat.zero_add] at h1
  rw [ad_wp, h1, mul_add_sub_one_div k hn]

/-- after `set_word_pos(k)`, `read_word` returns bytes `[k*nbytes, (k+1)*nbytes)` and
    `word_pos` then answers `k + 1` -/
theorem ad_sp_then_rw (nbytes : Nat) (hn : 0 < nbytes) (c : AdCursor) (ks : String) (k : Nat)
    (hk : num? ks = some k) (hin : (k + 1) * nbytes ≤ c.data.length) :
    ∃ c1 c2, adSeekStep nbytes c ["sp", ks] = ("ok", some c1) ∧
      adSeekStep nbytes c1 ["rw"] = (bytesHex ((c.data.drop (k * nbytes)).take nbytes), some c2) ∧
      c2.pos = (k + 1) * nbytes ∧
      adSeekStep nbytes c2 ["wp"] = (toString (k + 1), some c2) := by
  rw [Nat.succ_mul] at hin
  refine ⟨{ c with pos := k * nbytes }, { c with pos := k * nbytes + nbytes }, ad_sp nbytes c ks k hk,
    ad_rw nbytes _ hin, (Nat.succ_mul k nbytes).symm, ?_⟩
  rw [ad_wp]
  simp only
  rw [← Nat.succ_mul, mul_add_sub_one_div _ hn]

/-- a `read_word` that failed (possibly leaving the byte position inside a partial trailing word)
    does not disturb later seeks: `set_word_pos(k)` still addresses word `k` -/
theorem ad_sp_after_failed_read (nbytes : Nat) (hn : 0 < nbytes) (c : AdCursor) (ks : String) (k : Nat)
    (hf : c.data.length < c.pos + nbytes) (hk : num? ks = some k) (hin : (k + 1) * nbytes ≤ c.data.length) :
    ∃ c0 c1 c2, adSeekStep nbytes c ["rw"] = ("E:eof", some c0) ∧
      adSeekStep nbytes c0 ["sp", ks] = ("ok", some c1) ∧
      adSeekStep nbytes c1 ["rw"] = (bytesHex ((c.data.drop (k * nbytes)).take nbytes), some c2) ∧
      adSeekStep nbytes c2 ["wp"] = (toString (k + 1), some c2) := by
  obtain ⟨c1, c2, h1, h2, _, h4⟩ := ad_sp_then_rw nbytes hn c.afterFailedRead ks k hk hin
  exact ⟨c.afterFailedRead, c1, c2, ad_rw_eof nbytes c hf, h1, h2, h4⟩

/-- the same over the storage-less source (positions beyond any real buffer): after
    `set_word_pos(k)` the next `read_word` returns bytes `[k*nbytes, (k+1)*nbytes)` and `word_pos`
    then answers `k + 1`, for every `k` whose word ends below `2^64` -/
theorem advirt_sp_then_rw (nbytes : Nat) (hn : 0 < nbytes) (c : AdVirt) (k : Nat)
    (hin : (k + 1) * nbytes < 2 ^ 64) :
    ((c.setWordPos nbytes k).readWord nbytes).1 = (List.range nbytes).map (fun i => virtByte (k * nbytes + i)) ∧
    ((c.setWordPos nbytes k).readWord nbytes).2.wordPos nbytes = k + 1 := by
  rw [Nat.succ_mul] at hin
  have hk : k * nbytes < 2 ^ 64 := by omega
  refine ⟨?_, ?_⟩
  · simp only [AdVirt.setWordPos, AdVirt.readWord, Nat.mod_eq_of_lt hk]
  · simp only [AdVirt.setWordPos, AdVirt.readWord, AdVirt.wordPos, Nat.mod_eq_of_lt hk, Nat.mod_eq_of_lt hin]
    rw [← Nat.succ_mul, mul_add_sub_one_div _ hn]

/-- the bytes `rw` shows are the bytes the adapter reads from a fault-free source positioned at
    the same byte -/
theorem ad_rw_is_readWord (nbytes : Nat) (c : AdCursor) (h : c.pos + nbytes ≤ c.data.length) :
    ({ bytes := c.data.drop c.pos } : Source).readWord nbytes =
      .ok ((c.data.drop c.pos).take nbytes, { bytes := c.data.drop (c.pos + nbytes) }) := by
  rw [readWord_no_faults _ _ rfl, if_neg (by simp only [List.length_drop]; omega)]
  simp [List.drop_drop, Nat.add_comm]

/-- a short write, an interruption, then the rest: nothing lost, nothing duplicated -/
example :
    (({ bytes := [9], sched := [.accept 3, .interrupted, .accept 100] } : Sink).writeWord
        [1, 2, 3, 4, 5, 6, 7, 8]).map (fun s => (s.bytes, s.sched.length)) =
      .ok ([9, 1, 2, 3, 4, 5, 6, 7, 8], 0) := by rfl

/-- `Ok(0)` after a partial transfer is an error, not a loss -/
example :
    (({ sched := [.accept 3, .accept 0] } : Sink).writeWord [1, 2, 3, 4]).map (fun s => s.bytes) =
      .err .writeZero := by rfl

example :
    (({ bytes := [1, 2, 3, 4, 5, 6], sched := [.accept 1, .interrupted, .accept 2] } : Source).readWord 4).map
        (fun (w, s) => (w, s.bytes)) = .ok ([1, 2, 3, 4], [5, 6]) := by rfl

example (sched : List IoResp) (s' : Sink) (h : ({ sched := sched } : Sink).writeWords [[1, 2], [3, 4]] = .ok s') :
    s'.bytes = [1, 2, 3, 4] := by
  have := (adapter_write_words_lossless { sched := sched } [[1, 2], [3, 4]]).1 s' h
  simpa using this

example : (adSeekStep 4 { data := List.range 16, pos := 8 } ["wp"]).1 = "2" := by
  rw [ad_wp]; rfl

end Dsi
