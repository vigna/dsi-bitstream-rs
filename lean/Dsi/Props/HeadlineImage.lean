/-
  Headline, C01: the byte image of the generated `BufBitWriter`.  Depends on the translated writer
  bodies only.  See Props/Headline.lean.
-/
import Dsi.Lemmas.HeadlineRunW
import Dsi.Props.EndToEnd
import Dsi.Props.IOView
namespace Dsi
namespace Headline

theorem ref_run_then {α : Type} {e : Endian} {Ww : Nat} {checks : Bool} {pre : WProg α} {a : α}
    {bits₀ : List Bool}
    (hpre : pre.run RefW.impl { e := e, W := Ww, checks := checks, cap := none, bits := [] }
      = .ok (a, { e := e, W := Ww, checks := checks, cap := none, bits := bits₀ }))
    {gw : WProg Nat} {cw : List Bool} (hwr : Writes gw e checks cw) :
    (pre.bind fun _ => gw).run RefW.impl { e := e, W := Ww, checks := checks, cap := none, bits := [] }
      = .ok (cw.length, { e := e, W := Ww, checks := checks, cap := none, bits := bits₀ ++ cw }) := by
  rw [WProg.run_bind, hpre]
  exact hwr _ rfl rfl rfl

/-- **Byte image, any generated writer program.**  `pre` is an arbitrary writer program that (by
    the reference semantics) writes the bits `bits₀`; `gw` is a generated writer program equal to
    a program that appends `cw`.  Run `pre` then `gw` on the *generated* `BufBitWriter` from a fresh
    writer of word width `Ww`, then the generated `flush`: the writer returns the length of `cw`
    and the bytes delivered are exactly the canonical byte layout of `bits₀ ++ cw` zero-padded to
    a whole word. -/
theorem gen_write_image {α : Type} (e : Endian) {Ww : Nat} (hWw : 0 < Ww) (h8w : 8 ∣ Ww)
    (hWw64 : Ww < 2 ^ 64) (checks : Bool) (pre : WProg α) {a : α} {bits₀ : List Bool}
    (hpre : pre.run RefW.impl { e := e, W := Ww, checks := checks, cap := none, bits := [] }
      = .ok (a, { e := e, W := Ww, checks := checks, cap := none, bits := bits₀ }))
    {gw hw : WProg Nat} (heq : gw = hw) {cw : List Bool} (hwr : Writes hw e checks cw) :
    ∃ (sw : BufW Ww) (k : Nat) (sw' : BufW Ww),
      (pre.bind fun _ => gw).run (genWImpl e) (BufW.new Ww checks none) = .ok (cw.length, sw) ∧
      (genWImpl e).flush sw = .ok (k, sw') ∧
      sw'.outBytes e
        = layout e (bits₀ ++ cw ++ List.replicate ((Ww - (bits₀ ++ cw).length % Ww) % Ww) false) := by
  subst heq
  obtain ⟨sw, k, sw', h1, h2, h3, h4, _⟩ := e2e_writer_image e hWw h8w checks _ (ref_run_then hpre hwr)
  refine ⟨sw, k, sw', gen_wrun_of_ok e hWw64 _ (BufW.inv_new hWw checks none) h1, ?_, ?_⟩
  · rw [genW_flush]; exact h2
  · rw [← io_aligned_image e _ h4, h3]

end Headline
end Dsi
