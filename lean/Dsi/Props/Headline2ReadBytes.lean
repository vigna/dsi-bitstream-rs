/-
  Headline theorem shared by C09 / C14 / C18: a generated `BufBitReader` (`genRImpl e`) built on ANY
  byte image (not necessarily produced by the library's writer) whose bits are
  `pre ++ cw ++ post`, `cw` the published codeword of `v` in a code `c` of the `Codes` enum: after
  the generated `skip_bits(pre.len())`, the generated reader of `c` (`genOwnRead e c`: the trait
  method with the default table options of the generated `Params`) returns `v`, and the generated
  `bit_pos` is the end of the codeword.  With `strict := true` and `post := []` this is C09's
  "the last codes of the stream decode correctly through look-ahead tables that would peek past
  the end": the table reader's failed peek falls back to the bit-by-bit reader.
-/
import Dsi.Props.Headline
namespace Dsi
namespace Headline2
open Headline E2E TrL EqvL CodeBodiesGen Gen

/-- the general form: `rpG` is a generated reader program, `rpH` a program it agrees with off
    (debug-)panic points (`Guarded`) and that decodes `cw` to `v` on the reference reader with a
    look-ahead of at most `K` bits. -/
theorem gen_read_bytes {β : Type} (e : Endian) {Wr : Nat} (hWr : 0 < Wr) (h8r : 8 ∣ Wr)
    (hW64 : e = .be → Wr ≤ 64) (strict : Bool) (bytes : List Nat)
    (hbytes : ∀ b ∈ bytes, b < 256) (pre cw post : List Bool)
    {rpH rpG : RProg β} {v : β} {K : Nat} (hr : ReadsPM K rpH e cw v) (hK : K ≤ Wr)
    (hpb : PeekBounded Wr 0 rpH) (hg : Guarded rpH rpG) (hple : PeekLe Wr rpG)
    (hbits : bitsOfBytes e bytes = pre ++ cw ++ post)
    (hfit : (pre ++ cw ++ post).length + 5 * Wr < 2 ^ 64) :
    ∃ (s1 s2 : BufR Wr),
      (genRImpl e).skipBits (BufR.new ⟨wordsOfBytes e Wr (padTo (Wr / 8) bytes), 0, strict⟩) pre.length
        = .ok s1 ∧
      rpG.run (genRImpl e) s1 = .ok (v, s2) ∧
      GenBufR.genBitPos e s2 = .ok (pre.length + cw.length, s2) := by
  obtain ⟨zeros, s1, h1, hi1⟩ := gen_image_start e hWr h8r strict hbytes hbits hfit
  obtain ⟨s2, h2, hi2⟩ := gen_buf_step hW64 hi1 (.intro hr hK hpb hg hple)
  simp only [List.length_append] at hfit
  exact ⟨s1, s2, h1, h2, gen_bitPos_after hi2 (by omega)⟩

/-- **a generated `BufBitReader` on any byte image** (bytes `< 256`) whose bits are
    `pre ++ cw ++ post`, `cw` the codeword of `v` in the code `c`: after `skip_bits(pre.len())` the
    generated reader of `c` returns `v` and the generated `bit_pos` is the end of the codeword.
    Any word width `≥ 12` (`≤ 64` for BE), strict or zero-extended backend. -/
theorem gen_code_read_bytes (e : Endian) {Wr : Nat} (hWr : 0 < Wr) (h8r : 8 ∣ Wr)
    (hW64 : e = .be → Wr ≤ 64) (hW12 : tablePeek ≤ Wr) (strict : Bool) (bytes : List Nat)
    (hbytes : ∀ b ∈ bytes, b < 256) (pre post : List Bool) (c : CodeId) (v : Nat) (hd : c.Dom v)
    {cw : List Bool} (hcw : c.codeword e v = some cw)
    (hbits : bitsOfBytes e bytes = pre ++ cw ++ post)
    (hfit : (pre ++ cw ++ post).length + 5 * Wr < 2 ^ 64) :
    ∃ (s1 s2 : BufR Wr),
      (genRImpl e).skipBits (BufR.new ⟨wordsOfBytes e Wr (padTo (Wr / 8) bytes), 0, strict⟩) pre.length
        = .ok s1 ∧
      (genOwnRead e c).run (genRImpl e) s1 = .ok (v, s2) ∧
      GenBufR.genBitPos e s2 = .ok (pre.length + cw.length, s2) := by
  have hrd := ownRead_reads_of hd hcw
  exact gen_read_bytes e hWr h8r hW64 strict bytes hbytes pre cw post hrd hW12
    ((rside_ownRead e c hd).pb Wr hW12) (genOwnRead_guarded e c) (genOwnRead_peekLe e c hW12) hbits hfit

/-- the same for `read_zeta3_param::<t>` (the only table-capable ζ reader) -/
theorem gen_zeta3_read_bytes (e : Endian) {Wr : Nat} (hWr : 0 < Wr) (h8r : 8 ∣ Wr)
    (hW64 : e = .be → Wr ≤ 64) (t : Bool) (hWt : t = true → Zeta.READ_BITS ≤ Wr) (strict : Bool)
    (bytes : List Nat) (hbytes : ∀ b ∈ bytes, b < 256) (pre post : List Bool) (n : Nat)
    (hn : n < 2 ^ 64 - 1)
    (hbits : bitsOfBytes e bytes = pre ++ Spec.zetaWrapped e 3 n ++ post)
    (hfit : (pre ++ Spec.zetaWrapped e 3 n ++ post).length + 5 * Wr < 2 ^ 64) :
    ∃ (s1 s2 : BufR Wr),
      (genRImpl e).skipBits (BufR.new ⟨wordsOfBytes e Wr (padTo (Wr / 8) bytes), 0, strict⟩) pre.length
        = .ok s1 ∧
      (TableFnsGen.readZeta3Param e t).run (genRImpl e) s1 = .ok (n, s2) ∧
      GenBufR.genBitPos e s2 = .ok (pre.length + (Spec.zetaWrapped e 3 n).length, s2) := by
  have hK : need t Zeta.READ_BITS ≤ Wr := TrL.need_le hWt
  exact gen_read_bytes e hWr h8r hW64 strict bytes hbytes pre _ post (readZeta3P_reads e t n hn) hK
    ((rside_zeta3P e t).pb Wr hK) (TableFnsGen.read_zeta3_param_guarded e t)
    (peekLe_readZeta3Param e t hWt) hbits hfit

/-- the generated machines compute: unary 12 after three bits, ending on the very last bit of a
    strict 16-bit-word stream -/
example : ∃ (s1 s2 : BufR 16),
    (genRImpl .be).skipBits (BufR.new ⟨wordsOfBytes .be 16 (padTo (16 / 8) [0xA0, 0x01]), 0, true⟩) 3 = .ok s1 ∧
    (genOwnRead .be ⟨.unary, 0⟩).run (genRImpl .be) s1 = .ok (12, s2) ∧
    GenBufR.genBitPos .be s2 = .ok (16, s2) := ⟨_, _, rfl, rfl, rfl⟩

/-- δ(1000) (the generated γ read table is on) as the LAST code of a strict 16-bit-word LE stream:
    the image `[21, 149, 30]` of Props/EndToEnd.lean, no byte after the codeword -/
example : ∃ (s1 s2 : BufR 16),
    (genRImpl .le).skipBits (BufR.new ⟨wordsOfBytes .le 16 (padTo (16 / 8) [21, 149, 30]), 0, true⟩)
      (fieldBits .le 21 5).length = .ok s1 ∧
    (genOwnRead .le ⟨.delta, 0⟩).run (genRImpl .le) s1 = .ok (1000, s2) ∧
    GenBufR.genBitPos .le s2 = .ok ((fieldBits .le 21 5).length + (Spec.delta .le 1000).length, s2) :=
  gen_code_read_bytes .le (by decide) (by decide) (fun h => by cases h) (by decide) true [21, 149, 30]
    (by decide) (fieldBits .le 21 5) [false, false, false] ⟨.delta, 0⟩ 1000 (by decide) rfl (by decide)
    (by decide)

end Headline2
end Dsi
