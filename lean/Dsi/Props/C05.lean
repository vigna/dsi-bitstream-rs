/-
  C05 — table-driven coding is observationally identical to bit-by-bit coding.

  For γ, δ and ζ₃, decoding / encoding / measuring through the precomputed tables gives the same
  value, the same bits, the same length and the same final stream position as without tables:
  * readers: on *every* state of the reference reader `RefR` (any position hence any alignment,
    strict or zero-extended stream, any number of bits left — in particular fewer than the
    table's index width before the end of a strict stream, where the look-ahead fails and the
    reader falls back) whose look-ahead capacity `peekMax` is at least the index width;
  * writers: on *every* state of the reference writer `RefW` (growable or fixed capacity) whose
    `checks` flag is the one the program was built with;
  * lengths: for every argument.

  The table facts (`*_ok`) are kernel evaluations over the generated tables
  (`Dsi.Lemmas.TablesOkGamma`, `TablesOkDelta`, `TablesOkZeta`); the lifting is generic
  (`readTable_eq`, `writeTable_eq`, `lenTable_eq`).  The concrete readers refine `RefR` for look-aheads up to their word size
  (`peekBits_sim`, `table_sim` in `Dsi.Props.Reader`), which is where `peekMax` comes from.
-/
import Dsi.Defaults
import Dsi.Glue.CheckTables
import Dsi.Lemmas.TablesSound
import Dsi.Lemmas.TablesWrite
import Dsi.Lemmas.TablesOkGamma
import Dsi.Lemmas.TablesOkDelta
import Dsi.Lemmas.TablesOkZeta
import Dsi.Props.CodesA
import Dsi.Props.CodesB
namespace Dsi
open Gen

namespace Tables

theorem gamma_READ_BE : Gamma.READ_BE = Gamma.READ_BE_chunks.flatten.toArray := by
  simp [Gamma.READ_BE, Gamma.READ_BE_l, Gamma.READ_BE_chunks]
theorem gamma_READ_LEN_BE : Gamma.READ_LEN_BE = Gamma.READ_LEN_BE_chunks.flatten.toArray := by
  simp [Gamma.READ_LEN_BE, Gamma.READ_LEN_BE_l, Gamma.READ_LEN_BE_chunks]
theorem gamma_READ_LE : Gamma.READ_LE = Gamma.READ_LE_chunks.flatten.toArray := by
  simp [Gamma.READ_LE, Gamma.READ_LE_l, Gamma.READ_LE_chunks]
theorem gamma_READ_LEN_LE : Gamma.READ_LEN_LE = Gamma.READ_LEN_LE_chunks.flatten.toArray := by
  simp [Gamma.READ_LEN_LE, Gamma.READ_LEN_LE_l, Gamma.READ_LEN_LE_chunks]
theorem gamma_WRITE_BE : Gamma.WRITE_BE = Gamma.WRITE_BE_chunks.flatten.toArray := by
  simp [Gamma.WRITE_BE, Gamma.WRITE_BE_l, Gamma.WRITE_BE_chunks]
theorem gamma_WRITE_LEN_BE : Gamma.WRITE_LEN_BE = Gamma.WRITE_LEN_BE_chunks.flatten.toArray := by
  simp [Gamma.WRITE_LEN_BE, Gamma.WRITE_LEN_BE_l, Gamma.WRITE_LEN_BE_chunks]
theorem gamma_WRITE_LE : Gamma.WRITE_LE = Gamma.WRITE_LE_chunks.flatten.toArray := by
  simp [Gamma.WRITE_LE, Gamma.WRITE_LE_l, Gamma.WRITE_LE_chunks]
theorem gamma_WRITE_LEN_LE : Gamma.WRITE_LEN_LE = Gamma.WRITE_LEN_LE_chunks.flatten.toArray := by
  simp [Gamma.WRITE_LEN_LE, Gamma.WRITE_LEN_LE_l, Gamma.WRITE_LEN_LE_chunks]
theorem gamma_LEN : Gamma.LEN = Gamma.LEN_chunks.flatten.toArray := by
  simp [Gamma.LEN, Gamma.LEN_l, Gamma.LEN_chunks]

theorem delta_READ_BE : Delta.READ_BE = Delta.READ_BE_chunks.flatten.toArray := by
  simp [Delta.READ_BE, Delta.READ_BE_l, Delta.READ_BE_chunks]
theorem delta_READ_LEN_BE : Delta.READ_LEN_BE = Delta.READ_LEN_BE_chunks.flatten.toArray := by
  simp [Delta.READ_LEN_BE, Delta.READ_LEN_BE_l, Delta.READ_LEN_BE_chunks]
theorem delta_READ_LE : Delta.READ_LE = Delta.READ_LE_chunks.flatten.toArray := by
  simp [Delta.READ_LE, Delta.READ_LE_l, Delta.READ_LE_chunks]
theorem delta_READ_LEN_LE : Delta.READ_LEN_LE = Delta.READ_LEN_LE_chunks.flatten.toArray := by
  simp [Delta.READ_LEN_LE, Delta.READ_LEN_LE_l, Delta.READ_LEN_LE_chunks]
theorem delta_WRITE_BE : Delta.WRITE_BE = Delta.WRITE_BE_chunks.flatten.toArray := by
  simp [Delta.WRITE_BE, Delta.WRITE_BE_l, Delta.WRITE_BE_chunks]
theorem delta_WRITE_LEN_BE : Delta.WRITE_LEN_BE = Delta.WRITE_LEN_BE_chunks.flatten.toArray := by
  simp [Delta.WRITE_LEN_BE, Delta.WRITE_LEN_BE_l, Delta.WRITE_LEN_BE_chunks]
theorem delta_WRITE_LE : Delta.WRITE_LE = Delta.WRITE_LE_chunks.flatten.toArray := by
  simp [Delta.WRITE_LE, Delta.WRITE_LE_l, Delta.WRITE_LE_chunks]
theorem delta_WRITE_LEN_LE : Delta.WRITE_LEN_LE = Delta.WRITE_LEN_LE_chunks.flatten.toArray := by
  simp [Delta.WRITE_LEN_LE, Delta.WRITE_LEN_LE_l, Delta.WRITE_LEN_LE_chunks]
theorem delta_LEN : Delta.LEN = Delta.LEN_chunks.flatten.toArray := by
  simp [Delta.LEN, Delta.LEN_l, Delta.LEN_chunks]

theorem zeta_READ_BE : Zeta.READ_BE = Zeta.READ_BE_chunks.flatten.toArray := by
  simp [Zeta.READ_BE, Zeta.READ_BE_l, Zeta.READ_BE_chunks]
theorem zeta_READ_LEN_BE : Zeta.READ_LEN_BE = Zeta.READ_LEN_BE_chunks.flatten.toArray := by
  simp [Zeta.READ_LEN_BE, Zeta.READ_LEN_BE_l, Zeta.READ_LEN_BE_chunks]
theorem zeta_READ_LE : Zeta.READ_LE = Zeta.READ_LE_chunks.flatten.toArray := by
  simp [Zeta.READ_LE, Zeta.READ_LE_l, Zeta.READ_LE_chunks]
theorem zeta_READ_LEN_LE : Zeta.READ_LEN_LE = Zeta.READ_LEN_LE_chunks.flatten.toArray := by
  simp [Zeta.READ_LEN_LE, Zeta.READ_LEN_LE_l, Zeta.READ_LEN_LE_chunks]
theorem zeta_WRITE_BE : Zeta.WRITE_BE = Zeta.WRITE_BE_chunks.flatten.toArray := by
  simp [Zeta.WRITE_BE, Zeta.WRITE_BE_l, Zeta.WRITE_BE_chunks]
theorem zeta_WRITE_LEN_BE : Zeta.WRITE_LEN_BE = Zeta.WRITE_LEN_BE_chunks.flatten.toArray := by
  simp [Zeta.WRITE_LEN_BE, Zeta.WRITE_LEN_BE_l, Zeta.WRITE_LEN_BE_chunks]
theorem zeta_WRITE_LE : Zeta.WRITE_LE = Zeta.WRITE_LE_chunks.flatten.toArray := by
  simp [Zeta.WRITE_LE, Zeta.WRITE_LE_l, Zeta.WRITE_LE_chunks]
theorem zeta_WRITE_LEN_LE : Zeta.WRITE_LEN_LE = Zeta.WRITE_LEN_LE_chunks.flatten.toArray := by
  simp [Zeta.WRITE_LEN_LE, Zeta.WRITE_LEN_LE_l, Zeta.WRITE_LEN_LE_chunks]
theorem zeta_LEN : Zeta.LEN = Zeta.LEN_chunks.flatten.toArray := by
  simp [Zeta.LEN, Zeta.LEN_l, Zeta.LEN_chunks]

theorem readOK_of_eq {e : Endian} {dflt : RProg Nat} {t : RTab} {vcs lcs : List (List Nat)}
    (hv : t.vals = vcs.flatten.toArray) (hl : t.lens = lcs.flatten.toArray)
    (h : chkReadTable e dflt t.readBits t.missing vcs lcs = true) : ReadOK e dflt t := by
  have := readOK_of_chk h
  rwa [← hv, ← hl] at this

theorem writeOK_of_eq {e : Endian} {dflt : Nat → WProg Nat} {t : WTab} {wmax : Nat}
    {vcs lcs : List (List Nat)} (hv : t.vals = vcs.flatten.toArray)
    (hl : t.lens = lcs.flatten.toArray) (h : chkWriteTable e dflt wmax vcs lcs = true) :
    WriteOK e dflt t := by
  have := writeOK_of_chk h
  rwa [← hv, ← hl] at this

theorem gammaReadOK (e : Endian) : ReadOK e readGammaDefault (gammaRTab e) := by
  cases e
  · exact readOK_of_eq gamma_READ_BE gamma_READ_LEN_BE gamma_read_be_ok
  · exact readOK_of_eq gamma_READ_LE gamma_READ_LEN_LE gamma_read_le_ok

theorem deltaReadOK (e : Endian) : ReadOK e (readDeltaDefault none) (deltaRTab e) := by
  cases e
  · exact readOK_of_eq delta_READ_BE delta_READ_LEN_BE delta_read_be_ok
  · exact readOK_of_eq delta_READ_LE delta_READ_LEN_LE delta_read_le_ok

theorem zetaReadOK (e : Endian) : ReadOK e (readZetaDefault 3) (zetaRTab e) := by
  cases e
  · exact readOK_of_eq zeta_READ_BE zeta_READ_LEN_BE zeta_read_be_ok
  · exact readOK_of_eq zeta_READ_LE zeta_READ_LEN_LE zeta_read_le_ok

theorem gammaWriteOK (e : Endian) : WriteOK e (writeGammaDefault false) (gammaWTab e) := by
  cases e
  · exact writeOK_of_eq gamma_WRITE_BE gamma_WRITE_LEN_BE gamma_write_be_ok
  · exact writeOK_of_eq gamma_WRITE_LE gamma_WRITE_LEN_LE gamma_write_le_ok

theorem deltaWriteOK (e : Endian) : WriteOK e (writeDeltaDefault false none) (deltaWTab e) := by
  cases e
  · exact writeOK_of_eq delta_WRITE_BE delta_WRITE_LEN_BE delta_write_be_ok
  · exact writeOK_of_eq delta_WRITE_LE delta_WRITE_LEN_LE delta_write_le_ok

theorem zetaWriteOK (e : Endian) : WriteOK e (writeZetaDefault · 3) (zetaWTab e) := by
  cases e
  · exact writeOK_of_eq zeta_WRITE_BE zeta_WRITE_LEN_BE zeta_write_be_ok
  · exact writeOK_of_eq zeta_WRITE_LE zeta_WRITE_LEN_LE zeta_write_le_ok

theorem gammaRTab_readBits (e : Endian) : (gammaRTab e).readBits = Gamma.READ_BITS := by cases e <;> rfl
theorem deltaRTab_readBits (e : Endian) : (deltaRTab e).readBits = Delta.READ_BITS := by cases e <;> rfl
theorem zetaRTab_readBits (e : Endian) : (zetaRTab e).readBits = Zeta.READ_BITS := by cases e <;> rfl

theorem flushFree_gamma (c : Bool) (n : Nat) : FlushFree (writeGammaDefault c n) :=
  FlushFree.ite trivial fun _ _ => trivial

theorem flushFree_delta (c : Bool) (n : Nat) : FlushFree (writeDeltaDefault c none n) := by
  unfold writeDeltaDefault
  exact FlushFree.ite trivial (FlushFree.bind (flushFree_gamma c _) fun _ _ => trivial)

theorem flushFree_minbin (n max : Nat) : FlushFree (writeMinimalBinary n max) :=
  FlushFree.ite trivial (FlushFree.ite (fun _ => trivial) (FlushFree.ite trivial fun _ _ => trivial))

theorem flushFree_zeta (n k : Nat) : FlushFree (writeZetaDefault n k) := by
  unfold writeZetaDefault
  refine FlushFree.ite trivial (FlushFree.ite trivial (FlushFree.ite trivial ?_))
  refine (FlushFree.writeUnary_iff _ _).2 fun a => ?_
  exact FlushFree.bind (flushFree_minbin _ _) fun _ => trivial

end Tables

theorem RProg.run_bind_congr {σ α β : Type} {I : RImpl σ} {p q : RProg α} {s : σ}
    (h : p.run I s = q.run I s) (f : α → RProg β) : (p.bind f).run I s = (q.bind f).run I s := by
  rw [RProg.run_bind, RProg.run_bind, h]

theorem WProg.run_bind_congr {σ α β : Type} {I : WImpl σ} {p q : WProg α} {s : σ}
    (h : p.run I s = q.run I s) (f : α → WProg β) : (p.bind f).run I s = (q.bind f).run I s := by
  rw [WProg.run_bind, WProg.run_bind, h]

/-- γ through the table = γ bit by bit, on every reader state with enough look-ahead. -/
theorem readGamma_table_eq (e : Endian) (r : RefR) (he : r.e = e)
    (hpm : Gamma.READ_BITS ≤ r.peekMax) :
    (readGamma (some (gammaRTab e))).run RefR.impl r = readGammaDefault.run RefR.impl r :=
  readTable_eq Tables.peekFree_gamma (Tables.gammaReadOK e) r he
    (Tables.gammaRTab_readBits e ▸ hpm)

/-- the same with the table switched on or off by a flag (`read_gamma_param::<USE_TABLE>`) -/
theorem readGammaP_eq (e : Endian) (t : Bool) (r : RefR) (he : r.e = e)
    (hpm : t = true → Gamma.READ_BITS ≤ r.peekMax) :
    (readGammaP e t).run RefR.impl r = readGammaDefault.run RefR.impl r := by
  cases t with
  | false => rfl
  | true => exact readGamma_table_eq e r he (hpm rfl)

theorem readDeltaDefault_gamma_eq (e : Endian) (tg : Bool) (r : RefR) (he : r.e = e)
    (hg : tg = true → Gamma.READ_BITS ≤ r.peekMax) :
    (readDeltaDefault (opt tg (gammaRTab e))).run RefR.impl r
      = (readDeltaDefault none).run RefR.impl r :=
  RProg.run_bind_congr (readGammaP_eq e tg r he hg) _

/-- δ with any of the four table selections (`read_delta_param::<USE_DELTA_TABLE, USE_GAMMA_TABLE>`)
    = δ without tables. -/
theorem readDeltaP_eq (e : Endian) (td tg : Bool) (r : RefR) (he : r.e = e)
    (hd : td = true → Delta.READ_BITS ≤ r.peekMax)
    (hg : tg = true → Gamma.READ_BITS ≤ r.peekMax) :
    (readDeltaP e td tg).run RefR.impl r = (readDelta none none).run RefR.impl r := by
  have hfb := readDeltaDefault_gamma_eq e tg r he hg
  cases td with
  | false => exact hfb
  | true =>
    show (readTable (deltaRTab e) (readDeltaDefault (opt tg (gammaRTab e)))).run RefR.impl r = _
    rw [readTable_congr _ _ _ r hfb]
    exact readTable_eq Tables.peekFree_delta (Tables.deltaReadOK e) r he
      (Tables.deltaRTab_readBits e ▸ hd rfl)

/-- δ with both tables (the δ table, and the γ table inside the fallback) -/
theorem readDelta_table_eq (e : Endian) (r : RefR) (he : r.e = e)
    (hd : Delta.READ_BITS ≤ r.peekMax) (hg : Gamma.READ_BITS ≤ r.peekMax) :
    (readDelta (some (deltaRTab e)) (some (gammaRTab e))).run RefR.impl r
      = (readDelta none none).run RefR.impl r :=
  readDeltaP_eq e true true r he (fun _ => hd) (fun _ => hg)

theorem readDelta_table_only_eq (e : Endian) (r : RefR) (he : r.e = e)
    (hd : Delta.READ_BITS ≤ r.peekMax) :
    (readDelta (some (deltaRTab e)) none).run RefR.impl r = (readDelta none none).run RefR.impl r :=
  readDeltaP_eq e true false r he (fun _ => hd) (fun h => by cases h)

theorem readDelta_gamma_table_eq (e : Endian) (r : RefR) (he : r.e = e)
    (hg : Gamma.READ_BITS ≤ r.peekMax) :
    (readDelta none (some (gammaRTab e))).run RefR.impl r = (readDelta none none).run RefR.impl r :=
  readDeltaP_eq e false true r he (fun h => by cases h) (fun _ => hg)

/-- ζ₃ through the table = ζ₃ bit by bit. -/
theorem readZeta3_table_eq (e : Endian) (r : RefR) (he : r.e = e)
    (hpm : Zeta.READ_BITS ≤ r.peekMax) :
    (readZeta3 (some (zetaRTab e))).run RefR.impl r = (readZetaDefault 3).run RefR.impl r :=
  readTable_eq (Tables.peekFree_zeta 3) (Tables.zetaReadOK e) r he
    (Tables.zetaRTab_readBits e ▸ hpm)

theorem readZeta3P_eq (e : Endian) (t : Bool) (r : RefR) (he : r.e = e)
    (hpm : t = true → Zeta.READ_BITS ≤ r.peekMax) :
    (readZeta3P e t).run RefR.impl r = (readZetaDefault 3).run RefR.impl r := by
  cases t with
  | false => rfl
  | true => exact readZeta3_table_eq e r he (hpm rfl)

/-! ### the parameterless default methods (flags from the generated `Params`) -/

theorem readGammaD_eq (e : Endian) (r : RefR) (he : r.e = e)
    (hpm : Params.readGammaTable = true → Gamma.READ_BITS ≤ r.peekMax) :
    (readGammaD e).run RefR.impl r = readGammaDefault.run RefR.impl r :=
  readGammaP_eq e _ r he hpm

theorem readDeltaD_eq (e : Endian) (r : RefR) (he : r.e = e)
    (hd : Params.readDeltaTable = true → Delta.READ_BITS ≤ r.peekMax)
    (hg : Params.readDeltaGammaTable = true → Gamma.READ_BITS ≤ r.peekMax) :
    (readDeltaD e).run RefR.impl r = (readDelta none none).run RefR.impl r :=
  readDeltaP_eq e _ _ r he hd hg

theorem readZeta3D_eq (e : Endian) (r : RefR) (he : r.e = e)
    (hpm : Params.readZeta3Table = true → Zeta.READ_BITS ≤ r.peekMax) :
    (readZeta3D e).run RefR.impl r = (readZetaDefault 3).run RefR.impl r :=
  readZeta3P_eq e _ r he hpm

/-- γ through the table = γ bit by bit, on every writer state, for every `n`. -/
theorem writeGamma_table_eq (e : Endian) (checks : Bool) (n : Nat) (w : RefW) (he : w.e = e)
    (hc : w.checks = checks) :
    (writeGamma checks (some (gammaWTab e)) n).run RefW.impl w
      = (writeGammaDefault checks n).run RefW.impl w :=
  writeTable_eq (Tables.gammaWriteOK e) checks _ n (Tables.flushFree_gamma false n)
    (Tables.flushFree_gamma checks n)
    (fun hn => ⟨Spec.gamma e n, gamma_writes e false n hn, gamma_writes e checks n hn⟩) w he hc

theorem writeGammaP_eq (e : Endian) (checks t : Bool) (n : Nat) (w : RefW) (he : w.e = e)
    (hc : w.checks = checks) :
    (writeGammaP e checks t n).run RefW.impl w = (writeGammaDefault checks n).run RefW.impl w := by
  cases t with
  | false => rfl
  | true => exact writeGamma_table_eq e checks n w he hc

theorem writeDeltaDefault_gamma_eq (e : Endian) (checks tg : Bool) (n : Nat) (w : RefW)
    (he : w.e = e) (hc : w.checks = checks) :
    (writeDeltaDefault checks (opt tg (gammaWTab e)) n).run RefW.impl w
      = (writeDeltaDefault checks none n).run RefW.impl w := by
  unfold writeDeltaDefault
  split
  · rfl
  · exact WProg.run_bind_congr (writeGammaP_eq e checks tg _ w he hc) _

/-- δ with any of the four table selections = δ without tables, on every writer state. -/
theorem writeDeltaP_eq (e : Endian) (checks td tg : Bool) (n : Nat) (w : RefW) (he : w.e = e)
    (hc : w.checks = checks) :
    (writeDeltaP e checks td tg n).run RefW.impl w
      = (writeDelta checks none none n).run RefW.impl w := by
  have hfb := writeDeltaDefault_gamma_eq e checks tg n w he hc
  cases td with
  | false => exact hfb
  | true =>
    show (writeTable (deltaWTab e) n (writeDeltaDefault checks (opt tg (gammaWTab e)) n)).run
      RefW.impl w = _
    rw [writeTable_congr _ _ _ _ w hfb]
    exact writeTable_eq (Tables.deltaWriteOK e) checks _ n (Tables.flushFree_delta false n)
      (Tables.flushFree_delta checks n)
      (fun hn => ⟨Spec.delta e n, delta_writes e false n hn, delta_writes e checks n hn⟩) w he hc

theorem writeDelta_table_eq (e : Endian) (checks : Bool) (n : Nat) (w : RefW) (he : w.e = e)
    (hc : w.checks = checks) :
    (writeDelta checks (some (deltaWTab e)) (some (gammaWTab e)) n).run RefW.impl w
      = (writeDelta checks none none n).run RefW.impl w :=
  writeDeltaP_eq e checks true true n w he hc

theorem writeDelta_table_only_eq (e : Endian) (checks : Bool) (n : Nat) (w : RefW) (he : w.e = e)
    (hc : w.checks = checks) :
    (writeDelta checks (some (deltaWTab e)) none n).run RefW.impl w
      = (writeDelta checks none none n).run RefW.impl w :=
  writeDeltaP_eq e checks true false n w he hc

theorem writeDelta_gamma_table_eq (e : Endian) (checks : Bool) (n : Nat) (w : RefW) (he : w.e = e)
    (hc : w.checks = checks) :
    (writeDelta checks none (some (gammaWTab e)) n).run RefW.impl w
      = (writeDelta checks none none n).run RefW.impl w :=
  writeDeltaP_eq e checks false true n w he hc

/-- ζ₃ through the table = ζ₃ bit by bit, on every writer state (either `checks` value). -/
theorem writeZeta3_table_eq (e : Endian) (n : Nat) (w : RefW) (he : w.e = e) :
    (writeZeta3 (some (zetaWTab e)) n).run RefW.impl w = (writeZetaDefault n 3).run RefW.impl w :=
  writeTable_eq (dflt0 := (writeZetaDefault · 3)) (Tables.zetaWriteOK e) w.checks _ n
    (Tables.flushFree_zeta n 3) (Tables.flushFree_zeta n 3)
    (fun hn => ⟨Spec.zetaWrapped e 3 n, zeta_writes e false 3 n (by decide) (by decide) hn,
      zeta_writes e w.checks 3 n (by decide) (by decide) hn⟩) w he rfl

theorem writeZeta3P_eq (e : Endian) (t : Bool) (n : Nat) (w : RefW) (he : w.e = e) :
    (writeZeta3P e t n).run RefW.impl w = (writeZetaDefault n 3).run RefW.impl w := by
  cases t with
  | false => rfl
  | true => exact writeZeta3_table_eq e n w he

theorem writeGammaD_eq (e : Endian) (checks : Bool) (n : Nat) (w : RefW) (he : w.e = e)
    (hc : w.checks = checks) :
    (writeGammaD e checks n).run RefW.impl w = (writeGammaDefault checks n).run RefW.impl w :=
  writeGammaP_eq e checks _ n w he hc

theorem writeDeltaD_eq (e : Endian) (checks : Bool) (n : Nat) (w : RefW) (he : w.e = e)
    (hc : w.checks = checks) :
    (writeDeltaD e checks n).run RefW.impl w = (writeDelta checks none none n).run RefW.impl w :=
  writeDeltaP_eq e checks _ _ n w he hc

theorem writeZeta3D_eq (e : Endian) (n : Nat) (w : RefW) (he : w.e = e) :
    (writeZeta3D e n).run RefW.impl w = (writeZetaDefault n 3).run RefW.impl w :=
  writeZeta3P_eq e _ n w he

theorem lenGamma_table_eq (n : Nat) : lenGamma (some Gamma.LEN) n = lenGammaDefault n := by
  unfold lenGamma
  simp only
  split
  · rename_i l hl
    rw [Tables.gamma_LEN] at hl
    exact lenTable_eq gamma_len_ok n l hl
  · rfl

theorem lenGammaP_eq (t : Bool) (n : Nat) : lenGammaP t n = lenGammaDefault n := by
  cases t with
  | false => rfl
  | true => exact lenGamma_table_eq n

/-- δ length with any of the four table selections = δ length without tables -/
theorem lenDeltaP_eq (td tg : Bool) (n : Nat) : lenDeltaP td tg n = lenDelta none none n := by
  have hg : lenGamma (opt tg Gamma.LEN) (n + 1).log2 = lenGammaDefault (n + 1).log2 :=
    lenGammaP_eq tg _
  have hfb : (n + 1).log2 + lenGamma (opt tg Gamma.LEN) (n + 1).log2 = lenDelta none none n := by
    rw [hg]; rfl
  cases td with
  | false => exact hfb
  | true =>
    show lenDelta (some Delta.LEN) (opt tg Gamma.LEN) n = _
    unfold lenDelta
    simp only
    split
    · rename_i l hl
      rw [Tables.delta_LEN] at hl
      exact lenTable_eq delta_len_ok n l hl
    · rw [hg]; rfl

theorem lenDelta_table_eq (n : Nat) :
    lenDelta (some Delta.LEN) (some Gamma.LEN) n = lenDelta none none n := lenDeltaP_eq true true n
theorem lenDelta_table_only_eq (n : Nat) :
    lenDelta (some Delta.LEN) none n = lenDelta none none n := lenDeltaP_eq true false n
theorem lenDelta_gamma_table_eq (n : Nat) :
    lenDelta none (some Gamma.LEN) n = lenDelta none none n := lenDeltaP_eq false true n

/-- ζ length through the table (used only when `k` is the table's `K`) = ζ length function,
    for every `n` and every `k`. -/
theorem lenZeta_table_eq (n k : Nat) :
    lenZeta (some (Zeta.LEN, Zeta.K)) n k = lenZetaDefault n k := by
  unfold lenZeta
  simp only
  split
  · rename_i hk
    split
    · rename_i l hl
      rw [Tables.zeta_LEN] at hl
      rw [hk]
      exact lenTable_eq zeta_len_ok n l hl
    · rfl
  · rfl

theorem lenZetaP_eq (t : Bool) (n k : Nat) : lenZetaP t n k = lenZetaDefault n k := by
  cases t with
  | false => rfl
  | true => exact lenZeta_table_eq n k

theorem lenGammaD_eq (n : Nat) : lenGammaD n = lenGammaDefault n := lenGammaP_eq _ n
theorem lenDeltaD_eq (n : Nat) : lenDeltaD n = lenDelta none none n := lenDeltaP_eq _ _ n
theorem lenZetaD_eq (n k : Nat) : lenZetaD n k = lenZetaDefault n k := lenZetaP_eq _ n k

theorem gamma_table_sizes :
    (Gamma.READ_BE.size = 2 ^ Gamma.READ_BITS ∧ Gamma.READ_LEN_BE.size = 2 ^ Gamma.READ_BITS) ∧
    (Gamma.READ_LE.size = 2 ^ Gamma.READ_BITS ∧ Gamma.READ_LEN_LE.size = 2 ^ Gamma.READ_BITS) ∧
    (Gamma.WRITE_BE.size = Gamma.WRITE_MAX + 1 ∧ Gamma.WRITE_LEN_BE.size = Gamma.WRITE_MAX + 1) ∧
    (Gamma.WRITE_LE.size = Gamma.WRITE_MAX + 1 ∧ Gamma.WRITE_LEN_LE.size = Gamma.WRITE_MAX + 1) ∧
    Gamma.LEN.size = Gamma.WRITE_MAX + 1 := by
  rw [Tables.gamma_READ_BE, Tables.gamma_READ_LEN_BE, Tables.gamma_READ_LE, Tables.gamma_READ_LEN_LE,
    Tables.gamma_WRITE_BE, Tables.gamma_WRITE_LEN_BE, Tables.gamma_WRITE_LE, Tables.gamma_WRITE_LEN_LE,
    Tables.gamma_LEN]
  exact ⟨Tables.chkReadTable_sizes gamma_read_be_ok, Tables.chkReadTable_sizes gamma_read_le_ok,
    Tables.chkWriteTable_sizes gamma_write_be_ok, Tables.chkWriteTable_sizes gamma_write_le_ok,
    lenTable_size gamma_len_ok⟩

theorem delta_table_sizes :
    (Delta.READ_BE.size = 2 ^ Delta.READ_BITS ∧ Delta.READ_LEN_BE.size = 2 ^ Delta.READ_BITS) ∧
    (Delta.READ_LE.size = 2 ^ Delta.READ_BITS ∧ Delta.READ_LEN_LE.size = 2 ^ Delta.READ_BITS) ∧
    (Delta.WRITE_BE.size = Delta.WRITE_MAX + 1 ∧ Delta.WRITE_LEN_BE.size = Delta.WRITE_MAX + 1) ∧
    (Delta.WRITE_LE.size = Delta.WRITE_MAX + 1 ∧ Delta.WRITE_LEN_LE.size = Delta.WRITE_MAX + 1) ∧
    Delta.LEN.size = Delta.WRITE_MAX + 1 := by
  rw [Tables.delta_READ_BE, Tables.delta_READ_LEN_BE, Tables.delta_READ_LE, Tables.delta_READ_LEN_LE,
    Tables.delta_WRITE_BE, Tables.delta_WRITE_LEN_BE, Tables.delta_WRITE_LE, Tables.delta_WRITE_LEN_LE,
    Tables.delta_LEN]
  exact ⟨Tables.chkReadTable_sizes delta_read_be_ok, Tables.chkReadTable_sizes delta_read_le_ok,
    Tables.chkWriteTable_sizes delta_write_be_ok, Tables.chkWriteTable_sizes delta_write_le_ok,
    lenTable_size delta_len_ok⟩

theorem zeta_table_sizes :
    (Zeta.READ_BE.size = 2 ^ Zeta.READ_BITS ∧ Zeta.READ_LEN_BE.size = 2 ^ Zeta.READ_BITS) ∧
    (Zeta.READ_LE.size = 2 ^ Zeta.READ_BITS ∧ Zeta.READ_LEN_LE.size = 2 ^ Zeta.READ_BITS) ∧
    (Zeta.WRITE_BE.size = Zeta.WRITE_MAX + 1 ∧ Zeta.WRITE_LEN_BE.size = Zeta.WRITE_MAX + 1) ∧
    (Zeta.WRITE_LE.size = Zeta.WRITE_MAX + 1 ∧ Zeta.WRITE_LEN_LE.size = Zeta.WRITE_MAX + 1) ∧
    Zeta.LEN.size = Zeta.WRITE_MAX + 1 ∧ Zeta.K = 3 := by
  rw [Tables.zeta_READ_BE, Tables.zeta_READ_LEN_BE, Tables.zeta_READ_LE, Tables.zeta_READ_LEN_LE,
    Tables.zeta_WRITE_BE, Tables.zeta_WRITE_LEN_BE, Tables.zeta_WRITE_LE, Tables.zeta_WRITE_LEN_LE,
    Tables.zeta_LEN]
  exact ⟨Tables.chkReadTable_sizes zeta_read_be_ok, Tables.chkReadTable_sizes zeta_read_le_ok,
    Tables.chkWriteTable_sizes zeta_write_be_ok, Tables.chkWriteTable_sizes zeta_write_le_ok,
    lenTable_size zeta_len_ok, zeta_k_ok⟩

theorem gammaRTab_sizes (e : Endian) : (gammaRTab e).vals.size = 2 ^ (gammaRTab e).readBits ∧
    (gammaRTab e).lens.size = 2 ^ (gammaRTab e).readBits := by
  cases e
  · exact gamma_table_sizes.1
  · exact gamma_table_sizes.2.1

theorem deltaRTab_sizes (e : Endian) : (deltaRTab e).vals.size = 2 ^ (deltaRTab e).readBits ∧
    (deltaRTab e).lens.size = 2 ^ (deltaRTab e).readBits := by
  cases e
  · exact delta_table_sizes.1
  · exact delta_table_sizes.2.1

theorem zetaRTab_sizes (e : Endian) : (zetaRTab e).vals.size = 2 ^ (zetaRTab e).readBits ∧
    (zetaRTab e).lens.size = 2 ^ (zetaRTab e).readBits := by
  cases e
  · exact zeta_table_sizes.1
  · exact zeta_table_sizes.2.1

/-- The diagnostic the reader constructors print is `check_tables` at the look-ahead their
    `peek_bits` guarantees (which tables that names: `checkTables_mem`). -/
theorem diag_sound : (∀ W, bufReaderDiag W = checkTables (bufReaderCapacity W)) ∧
    bitReaderDiag = checkTables bitReaderCapacity :=
  ⟨fun _ => rfl, rfl⟩

theorem checkTables_mem (c : Nat) :
    ("gamma" ∈ checkTables c ↔ c < Gamma.READ_BITS) ∧
    ("delta" ∈ checkTables c ↔ c < Delta.READ_BITS) ∧
    ("zeta3" ∈ checkTables c ↔ c < Zeta.READ_BITS) := by
  simp [checkTables]

/-- no diagnostic ⇒ the capacity hypothesis of every decoding theorem above holds -/
theorem checkTables_nil (c : Nat) (h : checkTables c = []) :
    Gamma.READ_BITS ≤ c ∧ Delta.READ_BITS ≤ c ∧ Zeta.READ_BITS ≤ c := by
  have ⟨h1, h2, h3⟩ := checkTables_mem c
  rw [h] at h1 h2 h3
  simp only [List.not_mem_nil, false_iff, Nat.not_lt] at h1 h2 h3
  exact ⟨h1, h2, h3⟩

/-- a reader constructed without diagnostic decodes γ, δ, ζ₃ by default exactly as bit by bit -/
theorem defaults_eq_of_no_diag (e : Endian) (r : RefR) (he : r.e = e)
    (h : checkTables r.peekMax = []) :
    (readGammaD e).run RefR.impl r = readGammaDefault.run RefR.impl r ∧
    (readDeltaD e).run RefR.impl r = (readDelta none none).run RefR.impl r ∧
    (readZeta3D e).run RefR.impl r = (readZetaDefault 3).run RefR.impl r := by
  have ⟨hg, hd, hz⟩ := checkTables_nil _ h
  exact ⟨readGammaD_eq e r he (fun _ => hg), readDeltaD_eq e r he (fun _ => hd) (fun _ => hg),
    readZeta3D_eq e r he (fun _ => hz)⟩

/-- a strict 13-bit stream read from position 5: only 8 bits are left, fewer than any index width,
    so every table look-ahead fails and falls back -/
def c05ExShort (e : Endian) : RefR :=
  { e := e, stream := [true, false, true, true, false, false, true, false, true, true, false, true, true],
    pos := 5, strict := true, peekMax := 32 }

def c05ExLong (e : Endian) : RefR :=
  { e := e, stream := [false, true, true, false, false, false, true, false, true, true, false, true,
      true, false, false, true, false, true, false, false, false, false, true, true, true], pos := 3,
    strict := false, peekMax := 64 }

def c05ExW (e : Endian) (checks : Bool) : RefW :=
  { e := e, W := 16, checks := checks, cap := some 2, bits := [true, false, true] }

example (e : Endian) : (readGamma (some (gammaRTab e))).run RefR.impl (c05ExShort e)
    = readGammaDefault.run RefR.impl (c05ExShort e) :=
  readGamma_table_eq e _ rfl (by cases e <;> decide)
example (e : Endian) : (readGamma (some (gammaRTab e))).run RefR.impl (c05ExLong e)
    = readGammaDefault.run RefR.impl (c05ExLong e) :=
  readGamma_table_eq e _ rfl (by cases e <;> decide)
example (e : Endian) :
    (readDelta (some (deltaRTab e)) (some (gammaRTab e))).run RefR.impl (c05ExShort e)
      = (readDelta none none).run RefR.impl (c05ExShort e) :=
  readDelta_table_eq e _ rfl (by cases e <;> decide) (by cases e <;> decide)
example (e : Endian) :
    (readDelta (some (deltaRTab e)) (some (gammaRTab e))).run RefR.impl (c05ExLong e)
      = (readDelta none none).run RefR.impl (c05ExLong e) :=
  readDelta_table_eq e _ rfl (by cases e <;> decide) (by cases e <;> decide)
example (e : Endian) : (readZeta3 (some (zetaRTab e))).run RefR.impl (c05ExShort e)
    = (readZetaDefault 3).run RefR.impl (c05ExShort e) :=
  readZeta3_table_eq e _ rfl (by cases e <;> decide)
example (e : Endian) : (readZeta3D e).run RefR.impl (c05ExLong e)
    = (readZetaDefault 3).run RefR.impl (c05ExLong e) :=
  readZeta3D_eq e _ rfl (fun _ => by cases e <;> decide)

-- a fixed-capacity writer (2 words of 16 bits, 3 bits used), `checks` on and off
example (e : Endian) : (writeGamma true (some (gammaWTab e)) 37).run RefW.impl (c05ExW e true)
    = (writeGammaDefault true 37).run RefW.impl (c05ExW e true) :=
  writeGamma_table_eq e true 37 _ rfl rfl
example (e : Endian) :
    (writeDelta false (some (deltaWTab e)) (some (gammaWTab e)) 1000).run RefW.impl (c05ExW e false)
      = (writeDelta false none none 1000).run RefW.impl (c05ExW e false) :=
  writeDelta_table_eq e false 1000 _ rfl rfl
example (e : Endian) : (writeZeta3 (some (zetaWTab e)) 500).run RefW.impl (c05ExW e true)
    = (writeZetaDefault 500 3).run RefW.impl (c05ExW e true) :=
  writeZeta3_table_eq e 500 _ rfl

example : lenGamma (some Gamma.LEN) 40 = lenGammaDefault 40 := lenGamma_table_eq 40
example : lenDelta (some Delta.LEN) (some Gamma.LEN) 700 = lenDelta none none 700 := lenDelta_table_eq 700
example : lenZeta (some (Zeta.LEN, Zeta.K)) 900 3 = lenZetaDefault 900 3 := lenZeta_table_eq 900 3
example : lenZeta (some (Zeta.LEN, Zeta.K)) 900 5 = lenZetaDefault 900 5 := lenZeta_table_eq 900 5

end Dsi
