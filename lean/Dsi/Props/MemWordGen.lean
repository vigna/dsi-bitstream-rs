/-
  The method bodies of the in-memory word streams as TRANSLATED from src/impls/mem_word_reader.rs
  and src/impls/mem_word_writer.rs on every run (lean/Dsi/Gen/MemWordBodies.lean, emitted by
  tools/translate_mem.py) are EQUAL to the hand-written model (lean/Dsi/Impl/MemWord.lean), which
  the theorems of C13 (lean/Dsi/Props/C13.lean) relate to the array-plus-cursor specification.

  The hand model has one structure per side with a flag (`MemR.strict`, `MemW.growable`); the Rust
  has one impl per kind.  Where the model looks at the flag (`read_word` and `set_word_pos` of the
  readers, `write_word`) the equality is stated for the states of that kind; the others hold for
  every state.

  Hypotheses, and why they are there:
  * `m.pos < 2 ^ 64` (word_pos): `self.word_index as u64`; a `usize` always fits.
  * `m.data.length < 2 ^ 64` (set_word_pos of the strict reader and of both writers):
    `self.data.as_ref().len() as u64`.
  * the requested position is a `u64` (`p : BitVec 64`, i.e. `p.toNat < 2 ^ 64`): the zero-extended
    reader clamps it to `usize::MAX = 2^64 - 1`, which changes nothing on a 64-bit `usize`.
-/
import Dsi.Gen.MemWordBodies
import Dsi.Impl.MemWord
import Dsi.Lemmas.U64
namespace Dsi
namespace GenMem
variable {W : Nat}

/-- the translated functions return `u64`; the hand model returns `Nat` -/
def natOut {w : Nat} {σ : Type} (x : Res (BitVec w × σ)) : Res (Nat × σ) :=
  x.map fun p => (p.1.toNat, p.2)

theorem ofNat64_toNat (x : Nat) (h : x < 2 ^ 64) : (BitVec.ofNat 64 x).toNat = x := u64_ofNat h

theorem read_word_inf_eq (m : MemR W) (h : m.strict = false) :
    Gen.MemR.read_word_inf m = m.readWord := by
  unfold Gen.MemR.read_word_inf MemR.readWord
  cases m.data[m.pos]? <;> simp [h]

theorem read_word_strict_eq (m : MemR W) (h : m.strict = true) :
    Gen.MemR.read_word_strict m = m.readWord := by
  unfold Gen.MemR.read_word_strict MemR.readWord
  cases m.data[m.pos]? <;> simp [h, optOkOr, Res.bind]

theorem word_pos_inf_eq (m : MemR W) (h : m.pos < 2 ^ 64) :
    natOut (Gen.MemR.word_pos_inf m) = .ok (m.wordPos, m) := by
  simp only [natOut, Gen.MemR.word_pos_inf, Res.map, ofNat64_toNat _ h, MemR.wordPos]

theorem word_pos_strict_eq (m : MemR W) (h : m.pos < 2 ^ 64) :
    natOut (Gen.MemR.word_pos_strict m) = .ok (m.wordPos, m) := by
  simp only [natOut, Gen.MemR.word_pos_strict, Res.map, ofNat64_toNat _ h, MemR.wordPos]

/-- the zero-extended reader accepts every position; the clamp to `usize::MAX` is the identity on
    a `u64` -/
theorem set_word_pos_inf_eq (m : MemR W) (p : BitVec 64) (h : m.strict = false) :
    Gen.MemR.set_word_pos_inf m p = m.setWordPos p.toNat := by
  have hle : p ≤ BitVec.ofNat 64 18446744073709551615 := by
    rw [BitVec.le_def, ofNat64_toNat _ (by omega)]; have := p.isLt; omega
  simp only [Gen.MemR.set_word_pos_inf, MemR.setWordPos, h, hle, if_true, Bool.false_and, Bool.false_eq_true,
    if_false]

theorem gt_len_iff (p : BitVec 64) (n : Nat) (h : n < 2 ^ 64) :
    (p > BitVec.ofNat 64 n) ↔ p.toNat > n := by
  rw [gt_iff_lt, BitVec.lt_def, ofNat64_toNat n h]

/-- the strict reader rejects a position beyond the end -/
theorem set_word_pos_strict_eq (m : MemR W) (p : BitVec 64) (h : m.strict = true)
    (hl : m.data.length < 2 ^ 64) :
    Gen.MemR.set_word_pos_strict m p = m.setWordPos p.toNat := by
  simp only [Gen.MemR.set_word_pos_strict, MemR.setWordPos, h, gt_len_iff p _ hl, Bool.true_and,
    decide_eq_true_eq]

theorem read_word_slice_eq (m : MemW W) : Gen.MemW.read_word_slice m = m.readWord := by
  unfold Gen.MemW.read_word_slice MemW.readWord
  cases m.data[m.pos]? <;> rfl

theorem read_word_vec_eq (m : MemW W) : Gen.MemW.read_word_vec m = m.readWord := by
  unfold Gen.MemW.read_word_vec MemW.readWord
  cases m.data[m.pos]? <;> rfl

theorem word_pos_slice_eq (m : MemW W) (h : m.pos < 2 ^ 64) :
    natOut (Gen.MemW.word_pos_slice m) = .ok (m.wordPos, m) := by
  simp only [natOut, Gen.MemW.word_pos_slice, Res.map, ofNat64_toNat _ h, MemW.wordPos]

theorem word_pos_vec_eq (m : MemW W) (h : m.pos < 2 ^ 64) :
    natOut (Gen.MemW.word_pos_vec m) = .ok (m.wordPos, m) := by
  simp only [natOut, Gen.MemW.word_pos_vec, Res.map, ofNat64_toNat _ h, MemW.wordPos]

theorem set_word_pos_slice_eq (m : MemW W) (p : BitVec 64) (hl : m.data.length < 2 ^ 64) :
    Gen.MemW.set_word_pos_slice m p = m.setWordPos p.toNat := by
  unfold Gen.MemW.set_word_pos_slice MemW.setWordPos
  simp only [gt_len_iff p _ hl]

theorem set_word_pos_vec_eq (m : MemW W) (p : BitVec 64) (hl : m.data.length < 2 ^ 64) :
    Gen.MemW.set_word_pos_vec m p = m.setWordPos p.toNat := by
  unfold Gen.MemW.set_word_pos_vec MemW.setWordPos
  simp only [gt_len_iff p _ hl]

theorem len_slice_eq (m : MemW W) : Gen.MemW.len_slice m = m.len := rfl
theorem len_vec_eq (m : MemW W) : Gen.MemW.len_vec m = m.len := rfl

/-- a slice writer stores inside the slice and reports an error at its end -/
theorem write_word_slice_eq (m : MemW W) (w : BitVec W) (h : m.growable = false) :
    Gen.MemW.write_word_slice m w = m.writeWord w := by
  unfold Gen.MemW.write_word_slice MemW.writeWord
  by_cases hp : m.pos < m.data.length <;> simp [hp, h]

/-- `resize(pos + 1, 0)` followed by the store at `pos` is "pad with zeros, then append" -/
theorem resize_set (data : List (BitVec W)) (pos : Nat) (w : BitVec W) (hp : data.length ≤ pos) :
    (vecResize data (pos + 1) 0).set pos w = data ++ List.replicate (pos - data.length) 0 ++ [w] := by
  unfold vecResize
  rw [List.take_of_length_le (Nat.le_succ_of_le hp), Nat.succ_sub hp, List.replicate_succ', ← List.append_assoc]
  have hl : (data ++ List.replicate (pos - data.length) (0 : BitVec W)).length = pos := by
    rw [List.length_append, List.length_replicate, Nat.add_sub_cancel' hp]
  rw [List.set_append_right _ _ (Nat.le_of_eq hl), hl, Nat.sub_self]
  rfl

/-- a vector writer stores inside the vector and grows it (zero filled) beyond its end -/
theorem write_word_vec_eq (m : MemW W) (w : BitVec W) (h : m.growable = true) :
    Gen.MemW.write_word_vec m w = m.writeWord w := by
  unfold Gen.MemW.write_word_vec MemW.writeWord
  by_cases hp : m.pos < m.data.length
  · simp only [ge_iff_le, Nat.not_le.2 hp, if_false, Res.bind, idxSet, hp, if_true]
  · have hge : m.pos ≥ m.data.length := Nat.not_lt.1 hp
    have hlen : (vecResize m.data (m.pos + 1) (0 : BitVec W)).length = m.pos + 1 := by
      simp only [vecResize, List.length_append, List.length_replicate, List.length_take]; omega
    simp only [hge, if_true, Res.bind, idxSet, hlen, Nat.lt_succ_self, hp, if_false, h,
      resize_set m.data m.pos w hge]

end GenMem
end Dsi
