/-
  The bulk-copy bodies as TRANSLATED from the Rust source on every run
  (lean/Dsi/Gen/CopyBodies.lean, emitted by tools/translate_copy.py) are EQUAL to the hand-written
  models of lean/Dsi/Impl/Copy.lean:

  * `Gen.BufR.copy_to_be/le`  (`BufBitReader::copy_to`)            = `BufR.copyTo`
  * `Gen.Traits.copy_to_default`, `copy_from_default`
    (the default methods of `trait BitRead` / `trait BitWrite`)   = `copyGeneric` with any fuel
                                                                    `≥ n / 64 + 1`

  Hypotheses, and why they are there:
  * `0 < W`, `s.bib < 2 * W`: those of `read_bits_XX_eq` (lean/Dsi/Props/BufReaderGen.lean), which the
    buffered loop calls (the struct invariant of `BufBitReader`).
  * `W < 2 ^ 63`: `self.bits_in_buffer as u64` and `WR::Word::BITS as u64` agree with the `Nat`
    values of the hand model only when they fit.
  * the bit count is a `u64` (`n : BitVec 64`); the hand model counts in `Nat`, and is applied to
    `n.toNat`.
  * default methods: the reader interface returns `u64` values (`hri`): the hand model passes the
    `Nat` the reader returned straight to the writer, the Rust passes a `u64`.
-/
import Dsi.Gen.CopyBodies
import Dsi.Props.BufReaderGen
import Dsi.Impl.Copy
import Dsi.Props.Copy
import Dsi.Lemmas.U64
namespace Dsi
namespace GenCopy
variable {W : Nat}
open GenBufR (natOut)

theorem ofNat64_toNat (x : Nat) (h : x < 2 ^ 64) : (BitVec.ofNat 64 x).toNat = x := u64_ofNat h

theorem toNat_zero64 : (0 : BitVec 64).toNat = 0 := rfl
theorem toNat_64 : (64 : BitVec 64).toNat = 64 := rfl

theorem gt_zero_iff (x : BitVec 64) : (x > 0) ↔ x.toNat ≠ 0 := by
  rw [gt_iff_lt, BitVec.lt_def, toNat_zero64]; exact Nat.pos_iff_ne_zero

theorem min64_toNat (x : BitVec 64) : (if x ≤ 64 then x else 64).toNat = min x.toNat 64 := by
  split
  · rename_i h; exact (Nat.min_eq_left (BitVec.le_def.1 h)).symm
  · rename_i h; exact (Nat.min_eq_right (Nat.le_of_lt (Nat.not_le.1 fun h' => h (BitVec.le_def.2 h')))).symm

theorem sub_toNat (x : BitVec 64) (k : Nat) (h : k ≤ x.toNat) :
    (x - BitVec.ofNat 64 k).toNat = x.toNat - k := u64_sub h

theorem eq_zero_iff (x : BitVec 64) : x = 0 ↔ x.toNat = 0 :=
  ⟨fun h => h ▸ rfl, fun h => BitVec.eq_of_toNat_eq h⟩

theorem readBits_in_buffer (e : Endian) (s : BufR W) (k : Nat) (v : Nat) (s' : BufR W)
    (h : (BufR.impl e).readBits s k = .ok (v, s')) (hk : k ≤ s.bib) : s'.bib = s.bib - k :=
  (CopyL.readBits_buffered e hk h).2

/-- The translated `while n > 0 { k = min(n, 64); write_bits(read_bits(k)?, k)?; n -= k }`, reading
    through a method `rd` that returns `u64`s and agrees with the interface `ri` as long as an
    invariant `I` of the reader and the number of bits left holds, is the generic loop. -/
theorem whileN_chunks {ρ ω : Type} (ri : RImpl ρ) (wi : WImpl ω)
    (rd : ρ → Nat → Res (BitVec 64 × ρ)) (I : ρ → Nat → Prop)
    (hrd : ∀ r m k, I r m → natOut (rd r k) = ri.readBits r k)
    (hI : ∀ r m k v r', I r m → k ≤ m → ri.readBits r k = .ok (v, r') → I r' (m - k))
    (c : BitVec 64 × ρ × ω → Bool) (f : BitVec 64 × ρ × ω → Res (BitVec 64 × ρ × ω))
    (hc : ∀ st, c st = decide (st.1 > 0))
    (hf : ∀ st, f st = Res.bind (rd st.2.1 (if st.1 ≤ 64 then st.1 else 64).toNat) fun rb =>
      Res.bind (wi.writeBits st.2.2 rb.1.toNat (if st.1 ≤ 64 then st.1 else 64).toNat) fun ww =>
      .ok (st.1 - BitVec.ofNat 64 (if st.1 ≤ 64 then st.1 else 64).toNat, rb.2, ww.2)) :
    ∀ k k' (n : BitVec 64) (r : ρ) (w : ω), n.toNat ≤ 64 * k → n.toNat ≤ 64 * k' → I r n.toNat →
      whileN k (n, r, w) c f = (copyGeneric ri wi k' r w n.toNat).map fun p => (0, p.1, p.2) := by
  intro k
  induction k with
  | zero =>
    intro k' n r w h1 _ _
    obtain rfl : n = 0 := (eq_zero_iff n).2 (Nat.le_zero.1 h1)
    cases k' <;> rfl
  | succ k ih =>
    intro k' n r w h1 h2 hI0
    by_cases h0 : n.toNat = 0
    · obtain rfl : n = 0 := (eq_zero_iff n).2 h0
      rw [whileN, hc, if_neg (show ¬ decide ((0 : BitVec 64) > 0) = true by decide)]
      cases k' <;> rfl
    · obtain ⟨k', rfl⟩ := Nat.exists_eq_succ_of_ne_zero fun h : k' = 0 => by
        subst h; exact h0 (Nat.le_zero.1 h2)
      have hK : min n.toNat 64 ≤ n.toNat := Nat.min_le_left _ _
      rw [whileN, hc, if_pos (decide_eq_true ((gt_zero_iff n).2 h0)), hf, min64_toNat,
        copyGeneric_succ, if_neg h0, copyStep_bind, ← hrd r _ _ hI0]
      dsimp only
      cases hr : rd r (min n.toNat 64) with
      | ok p =>
        have hI1 := hI r _ _ p.1.toNat p.2 hI0 hK (by rw [← hrd r _ _ hI0, hr]; rfl)
        show Res.bind (Res.bind (wi.writeBits w p.1.toNat _) _) _ =
          (Res.bind (Res.bind (wi.writeBits w p.1.toNat _) _) _).map _
        cases wi.writeBits w p.1.toNat (min n.toNat 64) with
        | ok q =>
          have hsub := sub_toNat n _ hK
          exact (ih k' _ p.2 q.2 (hsub ▸ CopyL.chunk_fuel h1) (hsub ▸ CopyL.chunk_fuel h2) (hsub ▸ hI1)).trans
            (by rw [hsub]; rfl)
        | _ => rfl
      | _ => rfl

theorem whileN_copyBuffered {ω : Type} (e : Endian) (wi : WImpl ω)
    (rd : BufR W → Nat → Res (BitVec 64 × BufR W))
    (hrd : ∀ s k, s.bib < 2 * W → natOut (rd s k) = (BufR.impl e).readBits s k)
    (c : BitVec 64 × BufR W × ω → Bool) (f : BitVec 64 × BufR W × ω → Res (BitVec 64 × BufR W × ω))
    (hc : ∀ st, c st = decide (st.1 > 0))
    (hf : ∀ st, f st = Res.bind (rd st.2.1 (if st.1 ≤ 64 then st.1 else 64).toNat) fun rb =>
      Res.bind (wi.writeBits st.2.2 rb.1.toNat (if st.1 ≤ 64 then st.1 else 64).toNat) fun ww =>
      .ok (st.1 - BitVec.ofNat 64 (if st.1 ≤ 64 then st.1 else 64).toNat, rb.2, ww.2)) :
    ∀ k (fb : BitVec 64) (s : BufR W) (w : ω), fb.toNat ≤ k → fb.toNat ≤ s.bib → s.bib < 2 * W →
      whileN k (fb, s, w) c f = (BufR.copyBuffered e wi k s w fb.toNat).map fun p => (0, p.1, p.2) := by
  intro k fb s w h1 h2 h3
  rw [CopyL.copyBuffered_eq]
  -- a read of `k ≤ m ≤ bib` bits stays in the buffer and leaves `bib - k ≥ m - k` bits there
  refine whileN_chunks (BufR.impl e) wi rd (fun s m => m ≤ s.bib ∧ s.bib < 2 * W)
    (fun s m k hI => hrd s k hI.2) (fun s m k v s' hI hk hr => ?_) c f hc hf k k fb s w
    (Nat.le_trans h1 (Nat.le_mul_of_pos_left k (by decide)))
    (Nat.le_trans h1 (Nat.le_mul_of_pos_left k (by decide))) ⟨h2, h3⟩
  have := readBits_in_buffer e s k v s' hr (Nat.le_trans hk hI.1)
  exact ⟨this ▸ Nat.sub_le_sub_right hI.1 k, this ▸ Nat.lt_of_le_of_lt (Nat.sub_le _ _) hI.2⟩

theorem whileN_copyWords {ω : Type} (wi : WImpl ω) (hW : W < 2 ^ 64) (buf : BitVec (2 * W)) (bib : Nat)
    (c : BitVec 64 × BufR W × ω → Bool) (f : BitVec 64 × BufR W × ω → Res (BitVec 64 × BufR W × ω))
    (hc : ∀ st, c st = decide (st.1 > BitVec.ofNat 64 W))
    (hf : ∀ st, f st = Res.bind st.2.1.back.readWord fun rw =>
      Res.bind (wi.writeBits st.2.2 (rw.1.setWidth 64).toNat W) fun ww =>
      .ok (st.1 - BitVec.ofNat 64 W, { st.2.1 with back := rw.2 }, ww.2)) :
    ∀ k (n : BitVec 64) (bk : MemR W) (w : ω),
      whileN k (n, (⟨buf, bib, bk⟩ : BufR W), w) c f =
        (BufR.copyWords wi k bk w n.toNat).map fun p => (BitVec.ofNat 64 p.2.2, ⟨buf, bib, p.1⟩, p.2.1)
  | 0, n, bk, w => by
    rw [whileN, BufR.copyWords, Res.map_ok, BitVec.ofNat_toNat, BitVec.setWidth_eq]
  | k + 1, n, bk, w => by
    have hlt : (n > BitVec.ofNat 64 W) ↔ n.toNat > W := by
      rw [gt_iff_lt, BitVec.lt_def, ofNat64_toNat W hW]
    rw [whileN, hc, CopyL.copyWords_succ]
    by_cases h : n.toNat > W
    · rw [if_pos (decide_eq_true (hlt.2 h)), if_pos h, hf]
      cases bk.readWord with
      | ok p =>
        show Res.bind (Res.bind (wi.writeBits w _ W) _) _ = (Res.bind (wi.writeBits w _ W) _).map _
        cases wi.writeBits w (p.1.setWidth 64).toNat W with
        | ok q =>
          exact (whileN_copyWords wi hW buf bib c f hc hf k _ p.2 q.2).trans
            (by rw [sub_toNat n W (Nat.le_of_lt h)]; rfl)
        | _ => rfl
      | _ => rfl
    · rw [if_neg (fun hd => h (hlt.1 (of_decide_eq_true hd))), if_neg h, Res.map_ok, BitVec.ofNat_toNat,
        BitVec.setWidth_eq]

theorem copyWords_bound {ω : Type} (wi : WImpl ω) : ∀ k (bk : MemR W) (w : ω) n bk' w' n',
    BufR.copyWords wi k bk w n = .ok (bk', w', n') → 0 < n → 0 < n' ∧ n' ≤ n
  | 0, bk, w, n, bk', w', n', h, h0 => by
    cases h; exact ⟨h0, Nat.le_refl _⟩
  | k + 1, bk, w, n, bk', w', n', h, h0 => by
    rw [CopyL.copyWords_succ] at h
    split at h
    · obtain ⟨p, _, h⟩ := Res.bind_eq_ok.1 h
      obtain ⟨q, _, h⟩ := Res.bind_eq_ok.1 h
      have := copyWords_bound wi k p.2 q.2 (n - W) bk' w' n' h (by omega)
      omega
    · cases h; exact ⟨h0, Nat.le_refl _⟩

theorem min_bib_toNat (n : BitVec 64) (bib : Nat) (hb : bib < 2 ^ 64) :
    (if n ≤ BitVec.ofNat 64 bib then n else BitVec.ofNat 64 bib).toNat = min n.toNat bib := by
  have hle : n ≤ BitVec.ofNat 64 bib ↔ n.toNat ≤ bib := by rw [BitVec.le_def, u64_ofNat hb]
  split
  · rename_i h; exact (Nat.min_eq_left (hle.1 h)).symm
  · rename_i h
    rw [u64_ofNat hb]
    exact (Nat.min_eq_right (Nat.le_of_lt (Nat.not_le.1 fun h' => h (hle.2 h')))).symm

/-- The two translated `copy_to` bodies differ from each other, as `BufR.copyTo .be` from
    `BufR.copyTo .le`, in the reader they call and in what they do with the split word (`tailG`);
    the rest is the buffered loop, the word loop, and `assert!(n > 0)`, which holds. -/
theorem copy_to_eq_aux {ω : Type} (e : Endian) (checks : Bool) (wi : WImpl ω) (s : BufR W) (w : ω)
    (n : BitVec 64) (hW : W < 2 ^ 63) (hb : s.bib < 2 * W)
    (rd : BufR W → Nat → Res (BitVec 64 × BufR W))
    (hrd : ∀ s k, s.bib < 2 * W → natOut (rd s k) = (BufR.impl e).readBits s k)
    (c1 : BitVec 64 × BufR W × ω → Bool) (f1 : BitVec 64 × BufR W × ω → Res (BitVec 64 × BufR W × ω))
    (hc1 : ∀ st, c1 st = decide (st.1 > 0))
    (hf1 : ∀ st, f1 st = Res.bind (rd st.2.1 (if st.1 ≤ 64 then st.1 else 64).toNat) fun rb =>
      Res.bind (wi.writeBits st.2.2 rb.1.toNat (if st.1 ≤ 64 then st.1 else 64).toNat) fun ww =>
      .ok (st.1 - BitVec.ofNat 64 (if st.1 ≤ 64 then st.1 else 64).toNat, rb.2, ww.2))
    (c2 : BitVec 64 × BufR W × ω → Bool) (f2 : BitVec 64 × BufR W × ω → Res (BitVec 64 × BufR W × ω))
    (hc2 : ∀ st, c2 st = decide (st.1 > BitVec.ofNat 64 W))
    (hf2 : ∀ st, f2 st = Res.bind st.2.1.back.readWord fun rw =>
      Res.bind (wi.writeBits st.2.2 (rw.1.setWidth 64).toNat W) fun ww =>
      .ok (st.1 - BitVec.ofNat 64 W, { st.2.1 with back := rw.2 }, ww.2))
    (tailG : BitVec 64 × BufR W × ω → Res (BufR W × ω))
    (hG : ∀ (n' : Nat) (s' : BufR W) (w2 : ω), 0 < n' → n' < 2 ^ 64 →
      tailG (BitVec.ofNat 64 n', s', w2) = CopyL.copyTail e checks wi s'.back w2 n') :
    (Res.bind (whileN (if n ≤ BitVec.ofNat 64 s.bib then n else BitVec.ofNat 64 s.bib).toNat
        ((if n ≤ BitVec.ofNat 64 s.bib then n else BitVec.ofNat 64 s.bib), s, w) c1 f1) fun st =>
      if n - (if n ≤ BitVec.ofNat 64 s.bib then n else BitVec.ofNat 64 s.bib) = 0 then
        Res.ok (st.2.1, st.2.2)
      else
        Res.bind (whileN (n - (if n ≤ BitVec.ofNat 64 s.bib then n else BitVec.ofNat 64 s.bib)).toNat
          (n - (if n ≤ BitVec.ofNat 64 s.bib then n else BitVec.ofNat 64 s.bib), st.2.1, st.2.2)
          c2 f2) fun st =>
        if ¬(st.1 > 0) then Res.panic else tailG st) =
      BufR.copyTo e checks wi s w n.toNat := by
  rw [CopyL.copyTo_bind]
  have hfb := min_bib_toNat n s.bib
    (Nat.lt_trans hb (Nat.mul_lt_mul_of_pos_left hW (by decide : 0 < 2)))
  generalize (if n ≤ BitVec.ofNat 64 s.bib then n else BitVec.ofNat 64 s.bib) = fb at hfb ⊢
  have hm : (n - fb).toNat = n.toNat - min n.toNat s.bib := by
    rw [← hfb, ← sub_toNat n fb.toNat (hfb ▸ Nat.min_le_left _ _), BitVec.ofNat_toNat,
      BitVec.setWidth_eq]
  generalize n - fb = m at hm ⊢
  rw [whileN_copyBuffered e wi rd hrd c1 f1 hc1 hf1 fb.toNat fb s w (Nat.le_refl _)
    (hfb ▸ Nat.min_le_right _ _) hb,
    hfb]
  simp only [eq_zero_iff m, hm]
  by_cases hm0 : n.toNat - min n.toNat s.bib = 0
  · simp only [hm0, if_true]
    cases BufR.copyBuffered e wi (min n.toNat s.bib) s w (min n.toNat s.bib) <;> rfl
  simp only [hm0, if_false]
  cases BufR.copyBuffered e wi (min n.toNat s.bib) s w (min n.toNat s.bib) with
  | ok p =>
    obtain ⟨⟨buf1, bib1, bk1⟩, w1⟩ := p
    rw [Res.map, Res.bind_ok, Res.bind_ok, whileN_copyWords wi (Nat.lt_trans hW (by decide)) buf1 bib1 c2 f2 hc2 hf2 _ m bk1 w1, hm]
    cases hcw : BufR.copyWords wi (n.toNat - min n.toNat s.bib) bk1 w1
        (n.toNat - min n.toNat s.bib) with
    | ok q =>
      obtain ⟨bk2, w2, n2⟩ := q
      have hbd := copyWords_bound wi _ bk1 w1 _ bk2 w2 n2 hcw (Nat.pos_of_ne_zero hm0)
      have hlt : n2 < 2 ^ 64 := Nat.lt_of_le_of_lt (Nat.le_trans hbd.2 (Nat.sub_le _ _)) n.isLt
      have hpos : BitVec.ofNat 64 n2 > 0 :=
        (gt_zero_iff _).2 (by rw [ofNat64_toNat n2 hlt]; exact Nat.ne_of_gt hbd.1)
      rw [Res.map, Res.bind_ok, Res.bind_ok]
      dsimp only
      rw [if_neg (not_not_intro hpos)]
      exact hG n2 ⟨buf1, bib1, bk2⟩ w2 hbd.1 hlt
    | _ => rfl
  | _ => rfl

theorem lt64_iff (x : BitVec 64) : (x < 64) ↔ x.toNat < 64 := by
  rw [BitVec.lt_def, toNat_64]

theorem copy_to_be_eq {ω : Type} (checks : Bool) (wi : WImpl ω) (s : BufR W) (w : ω) (n : BitVec 64)
    (hW0 : 0 < W) (hW : W < 2 ^ 63) (hb : s.bib < 2 * W) :
    Gen.BufR.copy_to_be checks wi s w n = BufR.copyTo .be checks wi s w n.toNat := by
  unfold Gen.BufR.copy_to_be
  refine copy_to_eq_aux .be checks wi s w n hW hb Gen.BufR.read_bits_be
    (fun s k hb => GenBufR.read_bits_be_eq s k hW0 hb) _ _ (fun _ => rfl) (fun _ => rfl)
    _ _ (fun _ => rfl) (fun _ => rfl) _ fun n' s' w2 _ hlt => ?_
  rw [CopyL.copyTail]
  dsimp only
  rw [ofNat64_toNat n' hlt]

theorem copy_to_le_eq {ω : Type} (checks : Bool) (wi : WImpl ω) (s : BufR W) (w : ω) (n : BitVec 64)
    (hW0 : 0 < W) (hW : W < 2 ^ 63) (hb : s.bib < 2 * W) :
    Gen.BufR.copy_to_le checks wi s w n = BufR.copyTo .le checks wi s w n.toNat := by
  unfold Gen.BufR.copy_to_le
  refine copy_to_eq_aux .le checks wi s w n hW hb Gen.BufR.read_bits_le
    (fun s k hb => GenBufR.read_bits_le_eq s k hW0 hb) _ _ (fun _ => rfl) (fun _ => rfl)
    _ _ (fun _ => rfl) (fun _ => rfl) _ fun n' s' w2 _ hlt => ?_
  -- the translated `#[cfg(feature = "checks")] if n < 64 { new_word_u64 &= (1 << n) - 1 }` is `tailLE`
  rw [CopyL.copyTail]
  simp only [lt64_iff, ofNat64_toNat n' hlt, CopyL.tailLE]
  cases checks
  · rfl
  · by_cases h : n' < 64
    · simp only [h, if_true, decide_true, Bool.true_and]; rfl
    · simp only [h, if_false, decide_false, Bool.and_false, Bool.false_eq_true]; rfl

theorem whileN_copyGeneric {ρ ω : Type} (ri : RImpl ρ) (wi : WImpl ω)
    (hri : ∀ r k v r', ri.readBits r k = .ok (v, r') → v < 2 ^ 64)
    (c : BitVec 64 × ρ × ω → Bool) (f : BitVec 64 × ρ × ω → Res (BitVec 64 × ρ × ω))
    (hc : ∀ st, c st = decide (st.1 > 0))
    (hf : ∀ st, f st = Res.bind (ri.readBits st.2.1 (if st.1 ≤ 64 then st.1 else 64).toNat) fun rr =>
      Res.bind (wi.writeBits st.2.2 (BitVec.ofNat 64 rr.1).toNat (if st.1 ≤ 64 then st.1 else 64).toNat) fun ww =>
      .ok (st.1 - BitVec.ofNat 64 (if st.1 ≤ 64 then st.1 else 64).toNat, rr.2, ww.2)) :
    ∀ k k' (n : BitVec 64) (r : ρ) (w : ω), n.toNat ≤ 64 * k → n.toNat ≤ 64 * k' →
      whileN k (n, r, w) c f = (copyGeneric ri wi k' r w n.toNat).map fun p => (0, p.1, p.2) := by
  intro k k' n r w h1 h2
  -- the interface read, cast to `u64`, is a read method that agrees with the interface
  refine whileN_chunks ri wi (fun r k => (ri.readBits r k).map fun p => (BitVec.ofNat 64 p.1, p.2))
    (fun _ _ => True) (fun r _ k _ => ?_) (fun _ _ _ _ _ _ _ _ => trivial) c f hc
    (fun st => (hf st).trans ?_) k k' n r w h1 h2 trivial
  · cases hr : ri.readBits r k with
    | ok p => exact congrArg (fun v => Res.ok (v, p.2)) (ofNat64_toNat p.1 (hri r k p.1 p.2 hr))
    | _ => rfl
  · cases ri.readBits st.2.1 (if st.1 ≤ 64 then st.1 else 64).toNat <;> rfl

theorem copy_to_default_eq {ρ ω : Type} (ri : RImpl ρ) (wi : WImpl ω)
    (hri : ∀ r k v r', ri.readBits r k = .ok (v, r') → v < 2 ^ 64) (r : ρ) (w : ω) (n : BitVec 64)
    (fuel : Nat) (hfuel : n.toNat / 64 + 1 ≤ fuel) :
    Gen.Traits.copy_to_default ri wi r w n = copyGeneric ri wi fuel r w n.toNat := by
  unfold Gen.Traits.copy_to_default
  rw [whileN_copyGeneric ri wi hri _ _ ?_ ?_ _ fuel n r w (CopyL.fuel_le (Nat.le_succ _))
    (CopyL.fuel_le hfuel)]
  rotate_left
  · intro st; rfl
  · intro st; rfl
  cases copyGeneric ri wi fuel r w n.toNat with
  | ok p => rfl
  | _ => rfl

theorem copy_from_default_eq {ρ ω : Type} (ri : RImpl ρ) (wi : WImpl ω)
    (hri : ∀ r k v r', ri.readBits r k = .ok (v, r') → v < 2 ^ 64) (r : ρ) (w : ω) (n : BitVec 64)
    (fuel : Nat) (hfuel : n.toNat / 64 + 1 ≤ fuel) :
    Gen.Traits.copy_from_default ri wi r w n = copyGeneric ri wi fuel r w n.toNat := by
  unfold Gen.Traits.copy_from_default
  rw [whileN_copyGeneric ri wi hri _ _ ?_ ?_ _ fuel n r w (CopyL.fuel_le (Nat.le_succ _))
    (CopyL.fuel_le hfuel)]
  rotate_left
  · intro st; rfl
  · intro st; rfl
  cases copyGeneric ri wi fuel r w n.toNat with
  | ok p => rfl
  | _ => rfl

def genCopyTo {ω : Type} (e : Endian) (checks : Bool) (wi : WImpl ω) (s : BufR W) (w : ω) (n : BitVec 64) :
    Res (BufR W × ω) :=
  match e with
  | .be => Gen.BufR.copy_to_be checks wi s w n
  | .le => Gen.BufR.copy_to_le checks wi s w n

theorem genCopyTo_eq {ω : Type} (e : Endian) (checks : Bool) (wi : WImpl ω) (s : BufR W) (w : ω)
    (n : BitVec 64) (hW0 : 0 < W) (hW : W < 2 ^ 63) (hb : s.bib < 2 * W) :
    genCopyTo e checks wi s w n = BufR.copyTo e checks wi s w n.toNat := by
  cases e
  · exact copy_to_be_eq checks wi s w n hW0 hW hb
  · exact copy_to_le_eq checks wi s w n hW0 hW hb

open BufW CopyL in
/-- `Dsi.copyTo_sim` (lean/Dsi/Props/Copy.lean) for the translated body: `BufBitReader::copy_to` into a
    buffered writer copies the next `n` bits of the reference stream -/
theorem gen_copyTo_sim {Wr Ww : Nat} {e : Endian} (checks : Bool) (hW : Wr ≤ 64) {s : BufR Wr} {r : RefR}
    {t : BufW Ww} {w : RefW} (hs : BufR.Rel e s r) (ht : RelC e t w) {n : BitVec 64}
    (hck : e = .le → t.checks = true → checks = true) (hav : r.avail n.toNat = true) :
    ResRel (CopyPost e) (genCopyTo e checks (BufW.impl e) s t n) (refCopy r w n.toNat) := by
  rw [genCopyTo_eq e checks _ s t n (Rel.pos_W hs) (by omega) hs.1]
  exact copyTo_sim checks hW hs ht hck hav

end GenCopy
end Dsi
