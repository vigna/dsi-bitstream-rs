/-
  Headline theorems for C18: the byte-level VByte functions against the bit-stream
  VByte codes, everything generated: `Gen.vbyte_write e' v` (the `std::io` writer,
  lean/Dsi/Gen/VByteIOBodies.lean), `genOwnWrite e checks c v` / `genOwnRead e c` for
  `c = ⟨.vbyteBe, 0⟩ / ⟨.vbyteLe, 0⟩` (the `VByteBeWrite` / `VByteLeRead` … trait methods,
  lean/Dsi/Gen/VByteBodies.lean) on the generated `BufBitWriter` / `BufBitReader` of stream
  endianness `e` (`genWImpl e`, `genRImpl e`).
-/
import Dsi.Props.Headline2ReadBytes
import Dsi.Props.Headline2VByte
namespace Dsi
namespace Headline2
open Headline E2E TrL EqvL CodeBodiesGen Gen CodesB

def vbyteCode (big : Bool) : CodeId := if big then ⟨.vbyteBe, 0⟩ else ⟨.vbyteLe, 0⟩

def endOf (big : Bool) : Endian := if big then .be else .le


/-- **C18, same bytes.**  After any preceding program that leaves the generated `BufBitWriter` (of
    stream endianness `e`) byte aligned, the generated bit-stream VByte writer of the variant `big`
    delivers, after `flush`: the image of the preceding bits, then exactly the bytes `bs` that the
    generated `std::io` function `vbyte_write` of that variant appends, then padding. -/
theorem gen_vbyte_bits_image {α : Type} (e : Endian) (big : Bool) {Ww : Nat} (hWw : 0 < Ww)
    (h8w : 8 ∣ Ww) (hWw64 : Ww < 2 ^ 64) (checks : Bool) (pre : WProg α) {a : α} {bits₀ : List Bool}
    (hpre : pre.run RefW.impl { e := e, W := Ww, checks := checks, cap := none, bits := [] }
      = .ok (a, { e := e, W := Ww, checks := checks, cap := none, bits := bits₀ }))
    (hal : 8 ∣ bits₀.length) (v : Nat) (hv : v < 2 ^ 64) :
    ∃ (bs : List Nat) (sw : BufW Ww) (k : Nat) (sw' : BufW Ww) (tail : List Nat),
      (∀ inp out : List Nat, (Gen.vbyte_write (endOf big) v).run inp out = .ok (bs.length, inp, out ++ bs)) ∧
      (pre.bind fun _ => genOwnWrite e checks (vbyteCode big) v).run (genWImpl e) (BufW.new Ww checks none)
        = .ok (8 * bs.length, sw) ∧
      (genWImpl e).flush sw = .ok (k, sw') ∧
      sw'.outBytes e = layout e bits₀ ++ bs ++ tail := by
  have hd : (vbyteCode big).Dom v := by cases big <;> exact hv
  obtain ⟨cw, sw, k, sw', hcw, h1, h2, h3⟩ :=
    gen_code_write_image e hWw h8w hWw64 checks pre hpre (vbyteCode big) v hd
  have hcw' : cw = bitsOfBytes e (Spec.vbyteBytes big v) := by
    cases big <;> (cases hcw; rfl)
  have hbo : bigOf (endOf big) = big := by cases big <;> rfl
  refine ⟨Spec.vbyteBytes big v, sw, k, sw', layout e (List.replicate ((Ww - (bits₀ ++ cw).length % Ww) % Ww) false),
    ?_, ?_, h2, ?_⟩
  · intro inp out
    rw [gen_vbyteio_write (endOf big) hv, hbo, gen_vbyte_len v hv]
  · rw [h1, hcw', bitsOfBytes_length]
  · rw [h3, layout_append_of_aligned e (bits₀ ++ cw) _
      (by rw [List.length_append, hcw', bitsOfBytes_length]; omega), hcw',
      io_aligned_image_at e bits₀ _ (spec_lt big v) hal]

/-- **C18, same bytes accepted.**  The bytes `bs` the generated `std::io` function `vbyte_write` of a
    variant produces for `v`, embedded at any byte offset of any byte image: the generated
    bit-stream VByte reader of that variant, on a generated `BufBitReader` of EITHER stream
    endianness built on the image, returns `v` and stops right after them. -/
theorem gen_vbyte_bits_accept (e : Endian) (big : Bool) {Wr : Nat} (hWr : 0 < Wr) (h8r : 8 ∣ Wr)
    (hW64 : e = .be → Wr ≤ 64) (hW12 : tablePeek ≤ Wr) (strict : Bool) (v : Nat) (hv : v < 2 ^ 64)
    (before after bs out : List Nat) (hb1 : ∀ b ∈ before, b < 256) (hb2 : ∀ b ∈ after, b < 256)
    (hbs : (Gen.vbyte_write (endOf big) v).run [] out = .ok (bs.length, [], out ++ bs))
    (hfit : 8 * (before ++ bs ++ after).length + 5 * Wr < 2 ^ 64) :
    ∃ (s1 s2 : BufR Wr),
      (genRImpl e).skipBits
        (BufR.new ⟨wordsOfBytes e Wr (padTo (Wr / 8) (before ++ bs ++ after)), 0, strict⟩)
        (8 * before.length) = .ok s1 ∧
      (genOwnRead e (vbyteCode big)).run (genRImpl e) s1 = .ok (v, s2) ∧
      GenBufR.genBitPos e s2 = .ok (8 * before.length + 8 * bs.length, s2) := by
  have hbo : bigOf (endOf big) = big := by cases big <;> rfl
  have hbs' : bs = Spec.vbyteBytes big v := by
    rw [gen_vbyteio_write (endOf big) hv, hbo] at hbs
    have := (Prod.mk.inj (Prod.mk.inj (Res.ok.inj hbs)).2).2
    exact (List.append_cancel_left this).symm
  have hd : (vbyteCode big).Dom v := by cases big <;> exact hv
  have hcw : (vbyteCode big).codeword e v = some (bitsOfBytes e bs) := by
    rw [hbs']; cases big <;> rfl
  have hlt : ∀ b ∈ before ++ bs ++ after, b < 256 := by
    intro b hb
    rcases List.mem_append.1 hb with h | h
    · rcases List.mem_append.1 h with h | h
      · exact hb1 b h
      · rw [hbs'] at h; exact spec_lt big v b h
    · exact hb2 b h
  have := gen_code_read_bytes e hWr h8r hW64 hW12 strict (before ++ bs ++ after) hlt
    (bitsOfBytes e before) (bitsOfBytes e after) (vbyteCode big) v hd hcw
    (by rw [bitsOfBytes_append, bitsOfBytes_append])
    (by simp only [List.length_append, bitsOfBytes_length] at hfit ⊢; omega)
  simpa only [bitsOfBytes_length] using this

/-- BE variant on an LE stream, 16-bit words, after one aligned byte: same bytes as `vbyte_write_be` -/
example : ∃ (sw : BufW 16) (k : Nat) (sw' : BufW 16),
    ((WProg.wbits 0xAB 8).bind fun _ => genOwnWrite .le false ⟨.vbyteBe, 0⟩ 300000).run (genWImpl .le)
      (BufW.new 16 false none) = .ok (24, sw) ∧
    (genWImpl .le).flush sw = .ok (k, sw') ∧ sw'.outBytes .le = [0xAB, 0x91, 0xA6, 0x60] ∧
    (Gen.vbyte_write .be 300000).run [] [0xAB] = .ok (3, [], [0xAB, 0x91, 0xA6, 0x60]) :=
  ⟨_, _, _, rfl, rfl, rfl, rfl⟩

example : ∃ (s1 s2 : BufR 16),
    (genRImpl .le).skipBits (BufR.new ⟨wordsOfBytes .le 16 (padTo (16 / 8) [0xAB, 0x91, 0xA6, 0x60]), 0, true⟩) 8
      = .ok s1 ∧
    (genOwnRead .le ⟨.vbyteBe, 0⟩).run (genRImpl .le) s1 = .ok (300000, s2) ∧
    GenBufR.genBitPos .le s2 = .ok (32, s2) := ⟨_, _, rfl, rfl, rfl⟩

example (e : Endian) (big : Bool) {bs : List Nat}
    (hbs : (Gen.vbyte_write (endOf big) 300000).run [] [] = .ok (bs.length, [], [] ++ bs))
    (hl : bs.length ≤ 10) :
    ∃ (s1 s2 : BufR 32),
      (genRImpl e).skipBits
        (BufR.new ⟨wordsOfBytes e 32 (padTo (32 / 8) ([1, 2, 3] ++ bs ++ [9])), 0, true⟩) (8 * 3) = .ok s1 ∧
      (genOwnRead e (vbyteCode big)).run (genRImpl e) s1 = .ok (300000, s2) ∧
      GenBufR.genBitPos e s2 = .ok (8 * 3 + 8 * bs.length, s2) :=
  gen_vbyte_bits_accept e big (by decide) (by decide) (fun _ => by decide) (by decide) true 300000
    (by decide) [1, 2, 3] [9] bs [] (by decide) (by decide) hbs (by
      simp only [List.length_append, List.length_cons, List.length_nil]; omega)

end Headline2
end Dsi
