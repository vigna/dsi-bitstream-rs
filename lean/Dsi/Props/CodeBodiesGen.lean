/-
  The generated read / write bodies (lean/Dsi/Gen/CodeBodies.lean, produced by
  tools/translate_len.py from the Rust bodies of src/codes/*.rs on every run) against the
  hand-written programs of Dsi/Codes.lean.

  The generated programs are the literal composition of `write_unary` / `write_bits` /
  `read_unary` / `read_bits` calls of the Rust text, with no panic points.

  * Writers: on the parameter domain where the hand-written program has no panic point
    (`n < 2^64 - 1`, `k < 64`, `max ≠ 0`, …) the two programs are *equal* (`*_eq`).
  * Readers: the hand-written program is the generated one with panic points inserted, some of
    which depend on the values read (`Guarded hand gen`, theorems `*_guarded`); `Guarded.sound`
    turns this into: on every implementation and state the hand-written program either panics or
    runs exactly like the generated one.
-/
import Dsi.Defaults
import Dsi.Gen.CodeBodies
import Dsi.Lemmas.CodesBArith
import Dsi.Lemmas.ReaderBits
import Dsi.Ref
namespace Dsi
namespace CodeBodiesGen
open Gen

theorem one_shl (l : Nat) : 1 <<< l = 2 ^ l := by
  simp [Nat.shiftLeft_eq]

theorem pow_lt64 {e : Nat} (h : e < 64) : 2 ^ e < 2 ^ 64 := Nat.pow_lt_pow_right (by decide) h

theorem one_shl_mod {e : Nat} (h : e < 64) : (1 <<< e) % 2 ^ 64 = 2 ^ e := by
  rw [one_shl, Nat.mod_eq_of_lt (pow_lt64 h)]

/-- `(1_u128 << k).wrapping_sub(1) as u64` is the mask `2^k - 1`. -/
theorem and_mask {k : Nat} (n : Nat) (hk : k < 64) :
    n &&& ((((1 <<< k) % 2 ^ 128 + 2 ^ 128 - 1) % 2 ^ 128) % 2 ^ 64) = n % 2 ^ k := by
  have h64 : 2 ^ k - 1 < 2 ^ 64 := Nat.lt_of_le_of_lt (Nat.sub_le _ _) (pow_lt64 hk)
  rw [one_shl, Nat.mod_eq_of_lt (Nat.lt_trans (pow_lt64 hk) (by decide)), Nat.add_comm,
    Nat.add_sub_assoc (Nat.two_pow_pos k), Nat.add_mod_left,
    Nat.mod_eq_of_lt (Nat.lt_trans h64 (by decide)), Nat.mod_eq_of_lt h64,
    Nat.and_two_pow_sub_one_eq_mod]

theorem xor_pow (l r : Nat) (hr : r < 2 ^ l) : (2 ^ l + r) ^^^ 2 ^ l = r := by
  have h := Nat.div_add_mod ((2 ^ l + r) ^^^ 2 ^ l) (2 ^ l)
  rw [Nat.xor_div_two_pow, Nat.xor_mod_two_pow, Nat.add_mod_left, Nat.mod_self, Nat.xor_zero,
    Nat.mod_eq_of_lt hr, Nat.add_div_left _ (Nat.two_pow_pos l), Nat.div_eq_of_lt hr,
    Nat.div_self (Nat.two_pow_pos l), Nat.xor_self, Nat.mul_zero, Nat.zero_add] at h
  exact h.symm

/-- `n ^= 1 << λ` with `λ = ilog2 n` clears the top bit. -/
theorem xor_top {m : Nat} (h0 : m ≠ 0) (h64 : m < 2 ^ 64) :
    m ^^^ ((1 <<< m.log2) % 2 ^ 64) = m - 2 ^ m.log2 := by
  rw [one_shl_mod (log2_lt_64 h64)]
  have h1 : 2 ^ m.log2 ≤ m := Nat.log2_self_le h0
  have h2 : m < 2 ^ (m.log2 + 1) := Nat.lt_log2_self
  rw [Nat.pow_succ] at h2
  have e : m = 2 ^ m.log2 + (m - 2 ^ m.log2) := by omega
  conv => lhs; lhs; rw [e]
  exact xor_pow _ _ (by omega)

theorem limit_eq (max : Nat) :
    ((((1 <<< max.log2) % 2 ^ 64) <<< 1) % 2 ^ 64 + 2 ^ 64 - max) % 2 ^ 64 = mbLimit max := by
  simp only [mbLimit, wsub64, shl64, Nat.shiftLeft_eq, Nat.one_mul, Nat.mod_mul_mod]

theorem write_rice_eq (checks : Bool) (n : Nat) {k : Nat} (hk : k < 64) :
    Gen.write_rice checks n k = writeRice checks n k := by
  have hk' : ¬ k ≥ 64 := by omega
  simp only [Gen.write_rice, writeRice, hk', if_false, and_mask n hk, Nat.shiftRight_eq_div_pow]
  cases checks <;> rfl

theorem write_pi_eq (checks : Bool) {n k : Nat} (hn : n < 2 ^ 64 - 1) (hk : k < 64) :
    Gen.write_pi checks n k = writePi checks n k := by
  have hn' : ¬ n ≥ 2 ^ 64 - 1 := by omega
  have hx := xor_top (m := n + 1) (Nat.succ_ne_zero n) (by omega)
  cases checks <;>
    simp only [Gen.write_pi, writePi, hn', write_rice_eq _ _ hk, hx, if_false, if_true,
      Bool.false_eq_true]

theorem write_minimal_binary_eq {n max : Nat} (h0 : max ≠ 0) (h : n + mbLimit max < 2 ^ 64) :
    Gen.write_minimal_binary n max = writeMinimalBinary n max := by
  have h' : ¬ n + mbLimit max ≥ 2 ^ 64 := by omega
  simp only [Gen.write_minimal_binary, writeMinimalBinary, limit_eq, h0, if_false, h',
    Nat.shiftRight_eq_div_pow, Nat.and_one_is_mod, Nat.pow_one]

/-- `n + limit` does not overflow for an in-range argument. -/
theorem write_minimal_binary_eq' {n max : Nat} (h0 : max ≠ 0) (h64 : max < 2 ^ 64) (hn : n < max) :
    Gen.write_minimal_binary n max = writeMinimalBinary n max := by
  obtain ⟨h1, _, _, h2⟩ := CodesB.mb_arith (Nat.pos_of_ne_zero h0) h64
  exact write_minimal_binary_eq h0 (by omega)

theorem write_golomb_eq (n : Nat) {b : Nat} (h0 : b ≠ 0) (h64 : b < 2 ^ 64) :
    Gen.write_golomb n b = writeGolomb n b := by
  have hm : n % b < b := Nat.mod_lt _ (by omega)
  simp only [Gen.write_golomb, writeGolomb, h0, if_false, write_minimal_binary_eq' h0 h64 hm]

/-- `write_gamma` is the writer's parameterless γ (`GammaWrite::write_gamma`, chosen in params.rs). -/
theorem write_exp_golomb_eq (checks : Bool) (gtab : Option WTab) (n : Nat) {k : Nat} (hk : k < 64) :
    Gen.write_exp_golomb (writeGamma checks gtab) checks n k = writeExpGolomb checks gtab n k := by
  have hk' : ¬ k ≥ 64 := by omega
  simp only [Gen.write_exp_golomb, writeExpGolomb, hk', if_false, and_mask n hk,
    Nat.shiftRight_eq_div_pow]
  cases checks <;> rfl

theorem default_write_gamma_eq (checks : Bool) {n : Nat} (hn : n < 2 ^ 64 - 1) :
    Gen.default_write_gamma checks n = writeGammaDefault checks n := by
  have hn' : ¬ n ≥ 2 ^ 64 - 1 := by omega
  have hx := xor_top (m := n + 1) (Nat.succ_ne_zero n) (by omega)
  cases checks <;>
    simp only [Gen.default_write_gamma, writeGammaDefault, hn', hx, if_false, if_true,
      Bool.false_eq_true]

/-- `write_gamma_param::<T>` is the writer's γ with the table chosen by the flag. -/
theorem default_write_delta_eq (e : Endian) (checks tg : Bool) {n : Nat} (hn : n < 2 ^ 64 - 1) :
    Gen.default_write_delta (fun t m => writeGammaP e checks t m) checks tg n
      = writeDeltaDefault checks (opt tg (gammaWTab e)) n := by
  have hn' : ¬ n ≥ 2 ^ 64 - 1 := by omega
  have hx := xor_top (m := n + 1) (Nat.succ_ne_zero n) (by omega)
  cases checks <;>
    simp only [Gen.default_write_delta, writeDeltaDefault, writeGammaP, hn', hx, if_false, if_true,
      Bool.false_eq_true]

theorem zetaU_shift (h k : Nat) :
    ((2 ^ (h * k) <<< k) % 2 ^ 64 + 2 ^ 64 - 2 ^ (h * k)) % 2 ^ 64 = zetaU h k := by
  rw [Nat.shiftLeft_eq]; rfl

theorem default_write_zeta_eq {n k : Nat} (hn : n < 2 ^ 64 - 1) (hk0 : k ≠ 0) (hk : k < 64) :
    Gen.default_write_zeta n k = writeZetaDefault n k := by
  obtain ⟨hhk, hU1, hU64, _, hlt⟩ :=
    CodesB.zeta_range (m := n + 1) (k := k) (by omega) (by omega) (Nat.pos_of_ne_zero hk0)
  rw [Gen.default_write_zeta, writeZetaDefault, if_neg (by omega), if_neg hk0, if_neg (by omega)]
  simp only
  rw [one_shl_mod (by omega), zetaU_shift, write_minimal_binary_eq' (by omega) hU64 hlt]

/-- `Guarded hand gen`: `hand` is `gen` with some sub-programs replaced by `panic` / `dpanic`. -/
inductive Guarded {α : Type} : RProg α → RProg α → Prop where
  | refl (p : RProg α) : Guarded p p
  | panic (g : RProg α) : Guarded .panic g
  | dpanic (g : RProg α) : Guarded .dpanic g
  | readBits (n : Nat) {k k' : Nat → RProg α} : (∀ v, v < 2 ^ n → Guarded (k v) (k' v)) →
      Guarded (.readBits n k) (.readBits n k')
  | readUnary {k k' : Nat → RProg α} : (∀ v, Guarded (k v) (k' v)) →
      Guarded (.readUnary k) (.readUnary k')
  | peek (n : Nat) {k k' : Except Err Nat → RProg α} : (∀ v, Guarded (k v) (k' v)) →
      Guarded (.peek n k) (.peek n k')
  | skipAfterPeek (n : Nat) {k k' : RProg α} : Guarded k k' →
      Guarded (.skipAfterPeek n k) (.skipAfterPeek n k')
  | skip (n : Nat) {k k' : RProg α} : Guarded k k' → Guarded (.skip n k) (.skip n k')

/-- The contract of `BitRead::read_bits`: the value returned for `n` bits is below `2^n`. -/
def ReadBitsBounded {σ : Type} (I : RImpl σ) : Prop :=
  ∀ s n v s', I.readBits s n = .ok (v, s') → v < 2 ^ n

theorem refR_bounded : ReadBitsBounded RefR.impl := by
  intro s n v s' h
  simp only [RefR.impl, RefR.readBits] at h
  split at h
  · cases h
  · split at h
    · cases h
      have := bitsVal_lt s.e (takeZ n s.rest)
      rwa [takeZ_length] at this
    · cases h

def AgreeOff {β : Type} (u v : Res β) : Prop := u = .panic ∨ u = .dpanic ∨ u = v

theorem AgreeOff.bind {α β : Type} {x : Res α} {f g : α → Res β}
    (h : ∀ a, x = .ok a → AgreeOff (f a) (g a)) : AgreeOff (x.bind f) (x.bind g) := by
  cases x with
  | ok a => exact h a rfl
  | err e => exact .inr (.inr rfl)
  | panic => exact .inl rfl
  | dpanic => exact .inr (.inl rfl)

/-- Meaning of `Guarded`: on every implementation honouring the `read_bits` contract and every
    state the hand-written program panics (in every build, or in debug builds) or behaves exactly
    like the generated one. -/
theorem Guarded.sound {σ α : Type} (I : RImpl σ) (hI : ReadBitsBounded I) {hand gen : RProg α}
    (h : Guarded hand gen) :
    ∀ s, hand.run I s = .panic ∨ hand.run I s = .dpanic ∨ hand.run I s = gen.run I s := by
  induction h with
  | refl p => exact fun s => .inr (.inr rfl)
  | panic g => exact fun s => .inl rfl
  | dpanic g => exact fun s => .inr (.inl rfl)
  | readBits n _ ih =>
    intro s
    rw [RProg.run_readBits, RProg.run_readBits]
    exact AgreeOff.bind fun p hp => ih p.1 (hI s n p.1 p.2 hp) p.2
  | readUnary _ ih =>
    intro s
    rw [RProg.run_readUnary, RProg.run_readUnary]
    exact AgreeOff.bind fun p _ => ih p.1 p.2
  | peek n _ ih =>
    intro s
    simp only [RProg.run]
    cases hr : I.peekBits s n with
    | ok p => exact ih (.ok p.1) p.2
    | err e => exact ih (.error e) s
    | panic => exact .inl rfl
    | dpanic => exact .inr (.inl rfl)
  | skipAfterPeek n _ ih => exact fun s => ih _
  | skip n _ ih =>
    intro s
    rw [RProg.run_skip, RProg.run_skip]
    exact AgreeOff.bind fun s' _ => ih s'

theorem Guarded.of_eq {α : Type} {p q : RProg α} (h : p = q) : Guarded p q := h ▸ Guarded.refl p

theorem Guarded.bind {α β : Type} {p p' : RProg α} {f f' : α → RProg β} (hp : Guarded p p')
    (hf : ∀ a, Guarded (f a) (f' a)) : Guarded (p.bind f) (p'.bind f') := by
  induction hp with
  | refl p =>
    induction p with
    | ret a => exact hf a
    | fail e => exact Guarded.refl _
    | panic => exact Guarded.panic _
    | dpanic => exact Guarded.dpanic _
    | readBits n k ih => exact Guarded.readBits n fun v _ => ih v
    | readUnary k ih => exact Guarded.readUnary ih
    | peek n k ih => exact Guarded.peek n ih
    | skipAfterPeek n k ih => exact Guarded.skipAfterPeek n ih
    | skip n k ih => exact Guarded.skip n ih
  | panic g => exact Guarded.panic _
  | dpanic g => exact Guarded.dpanic _
  | readBits n _ ih => exact Guarded.readBits n ih
  | readUnary _ ih => exact Guarded.readUnary ih
  | peek n _ ih => exact Guarded.peek n ih
  | skipAfterPeek n _ ih => exact Guarded.skipAfterPeek n ih
  | skip n _ ih => exact Guarded.skip n ih

theorem Guarded.guard {α : Type} {c : Prop} [Decidable c] {p g : RProg α} (h : ¬ c → Guarded p g) :
    Guarded (if c then .dpanic else p) g := by
  by_cases hc : c
  · rw [if_pos hc]; exact Guarded.dpanic _
  · rw [if_neg hc]; exact h hc

theorem read_rice_guarded (k : Nat) : Guarded (readRice k) (Gen.read_rice k) := by
  unfold readRice Gen.read_rice
  refine Guarded.guard fun _ => Guarded.readUnary fun u => Guarded.readBits k fun v _ =>
    Guarded.guard fun h => ?_
  rw [Nat.shiftLeft_eq, Nat.mod_eq_of_lt (show u * 2 ^ k < 2 ^ 64 by omega)]
  exact Guarded.refl _

theorem read_pi_guarded (k : Nat) : Guarded (readPi k) (Gen.read_pi k) := by
  unfold readPi Gen.read_pi
  refine Guarded.bind (read_rice_guarded k) fun lam => Guarded.guard fun h => ?_
  rw [one_shl_mod (Nat.lt_of_not_le h)]
  exact Guarded.refl _

theorem read_minimal_binary_guarded (max : Nat) :
    Guarded (readMinimalBinary max) (Gen.read_minimal_binary max) := by
  unfold readMinimalBinary Gen.read_minimal_binary
  by_cases h0 : max = 0
  · rw [if_pos h0]; exact Guarded.panic _
  rw [if_neg h0]
  simp only [limit_eq]
  refine Guarded.readBits _ fun p _ => ?_
  by_cases hp : p < mbLimit max
  · rw [if_pos hp, if_pos hp]; exact Guarded.refl _
  · rw [if_neg hp, if_neg hp]
    refine Guarded.readBits 1 fun b hb => Guarded.guard fun h => ?_
    have h2 : p <<< 1 < 2 ^ 64 := by rw [Nat.shiftLeft_eq]; omega
    rw [Nat.mod_eq_of_lt h2, ← Nat.shiftLeft_add_eq_or_of_lt hb p, Nat.shiftLeft_eq, Nat.pow_one,
      Nat.mul_comm p 2]
    exact Guarded.refl _

theorem read_golomb_guarded (b : Nat) : Guarded (readGolomb b) (Gen.read_golomb b) := by
  unfold readGolomb Gen.read_golomb
  exact Guarded.readUnary fun u => Guarded.bind (read_minimal_binary_guarded b) fun r =>
    Guarded.guard fun _ => Guarded.refl _

/-- `read_gamma` is the reader's parameterless γ (`GammaRead::read_gamma`, chosen in params.rs). -/
theorem read_exp_golomb_guarded (gtab : Option RTab) (k : Nat) :
    Guarded (readExpGolomb gtab k) (Gen.read_exp_golomb (readGamma gtab) k) := by
  unfold readExpGolomb Gen.read_exp_golomb
  refine Guarded.guard fun _ => Guarded.bind (Guarded.refl _) fun g => Guarded.readBits k fun v _ =>
    Guarded.guard fun h => ?_
  rw [Nat.shiftLeft_eq, Nat.mod_eq_of_lt (show g * 2 ^ k < 2 ^ 64 by omega)]
  exact Guarded.refl _

theorem default_read_gamma_guarded : Guarded readGammaDefault Gen.default_read_gamma := by
  unfold readGammaDefault Gen.default_read_gamma
  refine Guarded.readUnary fun len => Guarded.guard fun h => ?_
  rw [one_shl_mod (Nat.lt_of_not_le h)]
  exact Guarded.refl _

/-- `read_gamma_param::<T>` is the reader's γ with the table chosen by the flag. -/
theorem default_read_delta_guarded (e : Endian) (tg : Bool) :
    Guarded (readDeltaDefault (opt tg (gammaRTab e)))
      (Gen.default_read_delta (fun t => readGammaP e t) tg) := by
  unfold readDeltaDefault Gen.default_read_delta readGammaP
  refine Guarded.bind (Guarded.refl _) fun len => Guarded.guard fun h => ?_
  rw [one_shl_mod (Nat.lt_of_not_le h)]
  exact Guarded.refl _

theorem default_read_zeta_guarded (k : Nat) :
    Guarded (readZetaDefault k) (Gen.default_read_zeta k) := by
  unfold readZetaDefault Gen.default_read_zeta
  refine Guarded.readUnary fun h => Guarded.guard fun hg => ?_
  simp only
  rw [one_shl_mod (Nat.lt_of_not_le (not_or.1 hg).1), zetaU_shift]
  exact Guarded.bind (read_minimal_binary_guarded _) fun res => Guarded.guard fun _ => Guarded.refl _

end CodeBodiesGen
end Dsi
