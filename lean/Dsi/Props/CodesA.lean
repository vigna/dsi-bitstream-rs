/-
  C03/C04 for the "simple" instantaneous codes: on the L1 reference writer / reader every L2
  program writes exactly the published codeword (`Dsi.Spec`), reads it back wherever it is
  embedded in a stream, and the length function agrees with the codeword length.
-/
import Dsi.Lemmas.CodesAOmega
namespace Dsi

theorem unary_writes (e : Endian) (checks : Bool) (x : Nat) (hx : x < 2 ^ 64 - 1) :
    Writes (writeUnaryC x) e checks (Spec.unary x) :=
  Writes.wunary hx

theorem unary_reads (e : Endian) (x : Nat) : Reads readUnaryC e (Spec.unary x) x :=
  (Reads.readUnary (k := RProg.ret) (Reads.ret e x)).congr (List.append_nil _) rfl

theorem unary_len (x : Nat) : lenUnary x = (Spec.unary x).length := by
  simp [lenUnary, Spec.unary]

theorem gamma_writes (e : Endian) (checks : Bool) (n : Nat) (hn : n < 2 ^ 64 - 1) :
    Writes (writeGammaDefault checks n) e checks (Spec.gamma e n) := by
  have hl := log2_lt_64 (show n + 1 < 2 ^ 64 by omega)
  unfold writeGammaDefault
  rw [if_neg (by omega)]
  exact Writes.unary_then_bits (by omega) (by omega) (FieldArg.strip_msb checks (Nat.succ_ne_zero n))

theorem gamma_reads (e : Endian) (n : Nat) (hn : n < 2 ^ 64 - 1) :
    Reads readGammaDefault e (Spec.gamma e n) n := by
  have hm : n + 1 < 2 ^ 64 := by omega
  have hl := log2_lt_64 hm
  unfold readGammaDefault
  refine Reads.readUnary ?_
  rw [if_neg (by omega)]
  exact Reads.msb_tail hm (msb_back (Nat.succ_ne_zero n))

theorem gamma_len (e : Endian) (n : Nat) : lenGammaDefault n = (Spec.gamma e n).length := by
  simp [lenGammaDefault, Spec.gamma, Spec.unary]; omega

theorem delta_writes (e : Endian) (checks : Bool) (n : Nat) (hn : n < 2 ^ 64 - 1) :
    Writes (writeDeltaDefault checks none n) e checks (Spec.delta e n) := by
  have hl := log2_lt_64 (show n + 1 < 2 ^ 64 by omega)
  unfold writeDeltaDefault
  rw [if_neg (by omega)]
  exact Writes.then_bits (gamma_writes e checks _ (by omega)) (by omega)
    (FieldArg.strip_msb checks (Nat.succ_ne_zero n))

theorem delta_reads (e : Endian) (n : Nat) (hn : n < 2 ^ 64 - 1) :
    Reads (readDeltaDefault none) e (Spec.delta e n) n := by
  have hm : n + 1 < 2 ^ 64 := by omega
  have hl := log2_lt_64 hm
  unfold readDeltaDefault
  refine Reads.bind (gamma_reads e (n + 1).log2 (by omega)) ?_
  rw [if_neg (by omega)]
  exact Reads.msb_tail hm (msb_back (Nat.succ_ne_zero n))

theorem delta_len (e : Endian) (n : Nat) : lenDelta none none n = (Spec.delta e n).length := by
  simp [lenDelta, lenGamma, lenGammaDefault, Spec.delta, Spec.gamma, Spec.unary]; omega

/-- Needs `n / 2^k < 2^64 - 1` (the unary part must be writable): see `rice_writes_false`. -/
theorem rice_writes (e : Endian) (checks : Bool) (k n : Nat) (hk : k ≤ 63)
    (hq : n / 2 ^ k < 2 ^ 64 - 1) :
    Writes (writeRice checks n k) e checks (Spec.rice e k n) := by
  unfold writeRice
  rw [if_neg (by omega)]
  exact Writes.unary_then_bits hq (by omega) (FieldArg.masked checks n k)

/-- the same, with the side condition in the form used for exp-Golomb -/
theorem rice_writes' (e : Endian) (checks : Bool) (k n : Nat) (hk : k ≤ 63) (hn : n < 2 ^ 64)
    (hk0 : k = 0 → n < 2 ^ 64 - 1) :
    Writes (writeRice checks n k) e checks (Spec.rice e k n) :=
  rice_writes e checks k n hk (quot_lt hn hk0)

theorem rice_reads (e : Endian) (k n : Nat) (hk : k ≤ 63) (hn : n < 2 ^ 64) :
    Reads (readRice k) e (Spec.rice e k n) n := by
  unfold readRice
  rw [if_neg (by omega)]
  exact Reads.readUnary (Reads.quot_rem_tail hk hn)

theorem rice_len (e : Endian) (k n : Nat) : lenRice n k = (Spec.rice e k n).length := by
  simp [lenRice, Spec.rice, Spec.unary]

/-- `rice_writes` does not hold for every `n < 2^64`: for `k = 0`, `n = 2^64 - 1` the unary part
    `2^64 - 1` is refused by `write_unary` (debug assertion). -/
theorem rice_writes_false :
    ¬ (∀ (e : Endian) (checks : Bool) (k n : Nat), k ≤ 63 → n < 2 ^ 64 →
        Writes (writeRice checks n k) e checks (Spec.rice e k n)) := by
  intro h
  have := h .be false 0 (2 ^ 64 - 1) (by decide) (by decide) { e := .be, W := 64 } rfl rfl rfl
  simp [writeRice, WProg.run, RefW.impl, RefW.writeUnary] at this

theorem pi_writes (e : Endian) (checks : Bool) (k n : Nat) (hk : k ≤ 63) (hn : n < 2 ^ 64 - 1) :
    Writes (writePi checks n k) e checks (Spec.pi e k n) := by
  have hl := log2_lt_64 (show n + 1 < 2 ^ 64 by omega)
  have hq : (n + 1).log2 / 2 ^ k ≤ (n + 1).log2 := Nat.div_le_self _ _
  unfold writePi
  rw [if_neg (by omega)]
  exact Writes.then_bits (rice_writes e checks k _ hk (by omega)) (by omega)
    (FieldArg.strip_msb checks (Nat.succ_ne_zero n))

theorem pi_reads (e : Endian) (k n : Nat) (hk : k ≤ 63) (hn : n < 2 ^ 64 - 1) :
    Reads (readPi k) e (Spec.pi e k n) n := by
  have hm : n + 1 < 2 ^ 64 := by omega
  have hl := log2_lt_64 hm
  unfold readPi
  refine Reads.bind (rice_reads e k (n + 1).log2 hk (by omega)) ?_
  rw [if_neg (by omega)]
  exact Reads.msb_tail hm ((congrArg (· - 1) (Nat.add_comm ..)).trans (msb_back (Nat.succ_ne_zero n)))

theorem pi_len (e : Endian) (k n : Nat) : lenPi n k = (Spec.pi e k n).length := by
  simp [lenPi, lenRice, Spec.pi, Spec.rice, Spec.unary]; omega

theorem expGolomb_writes (e : Endian) (checks : Bool) (k n : Nat) (hk : k ≤ 63) (hn : n < 2 ^ 64)
    (hk0 : k = 0 → n < 2 ^ 64 - 1) :
    Writes (writeExpGolomb checks none n k) e checks (Spec.expGolomb e k n) := by
  unfold writeExpGolomb
  rw [if_neg (by omega)]
  exact Writes.then_bits (gamma_writes e checks _ (quot_lt hn hk0)) (by omega)
    (FieldArg.masked checks n k)

theorem expGolomb_reads (e : Endian) (k n : Nat) (hk : k ≤ 63) (hn : n < 2 ^ 64)
    (hk0 : k = 0 → n < 2 ^ 64 - 1) :
    Reads (readExpGolomb none k) e (Spec.expGolomb e k n) n := by
  have hq := quot_lt hn hk0
  unfold readExpGolomb
  rw [if_neg (by omega)]
  exact Reads.bind (gamma_reads e _ hq) (Reads.quot_rem_tail hk hn)

theorem expGolomb_len (e : Endian) (k n : Nat) :
    lenExpGolomb none n k = (Spec.expGolomb e k n).length := by
  simp [lenExpGolomb, lenGamma, lenGammaDefault, Spec.expGolomb, Spec.gamma, Spec.unary]; omega

theorem omega_writes (e : Endian) (checks : Bool) (n : Nat) (hn : n < 2 ^ 64 - 1) :
    Writes (writeOmega e checks n) e checks (Spec.omega e n) := by
  have hz : fieldBits e 0 1 = [false] := by cases e <;> rfl
  unfold writeOmega Spec.omega
  rw [if_neg (by omega), ← hz]
  -- 8 is the fuel `writeOmega` and `Spec.omega` give to the block recursion
  exact Writes.then_bits (omegaWriteRec_writes e checks 8 (n + 1) (by omega)) (by decide)
    (FieldArg.of_lt checks (by decide))

theorem omega_reads (e : Endian) (n : Nat) (hn : n < 2 ^ 64 - 1) :
    Reads (readOmega e) e (Spec.omega e n) n := by
  have hm : n + 1 < 2 ^ 64 := by omega
  unfold readOmega Spec.omega
  -- 4 steps of `log2` bring a value below `2^64` to `≤ 1`; the codeword is built with fuel 8; one more
  -- iteration reads the closing `[false]`; `readOmega` has fuel 8 ≥ 1 + 4
  refine omega_blocks_read e 4 (n + 1) (Nat.succ_ne_zero n) hm (omegaDone_of_lt hm 0) 8 (by decide)
    1 [false] n ?_ 8 (by decide)
  intro fr hfr
  obtain ⟨fr', rfl⟩ : ∃ x, fr = x + 1 := ⟨fr - 1, by omega⟩
  exact omega_end_reads e fr' (n + 1)

theorem omega_len (e : Endian) (n : Nat) : lenOmega n = (Spec.omega e n).length := by
  simp [lenOmega, Spec.omega, omegaLenRec_eq e]

example : Writes (writeUnaryC 5) .be true (Spec.unary 5) := unary_writes .be true 5 (by decide)
example : Reads readUnaryC .le (Spec.unary 5) 5 := unary_reads .le 5
example : lenUnary 5 = (Spec.unary 5).length := unary_len 5

example : Writes (writeGammaDefault true 4) .le true (Spec.gamma .le 4) :=
  gamma_writes .le true 4 (by decide)
example : Reads readGammaDefault .le (Spec.gamma .le 4) 4 := gamma_reads .le 4 (by decide)
example : lenGammaDefault 4 = (Spec.gamma .le 4).length := gamma_len .le 4

example : Writes (writeDeltaDefault false none 1000) .be false (Spec.delta .be 1000) :=
  delta_writes .be false 1000 (by decide)
example : Reads (readDeltaDefault none) .be (Spec.delta .be 1000) 1000 :=
  delta_reads .be 1000 (by decide)
example : lenDelta none none 1000 = (Spec.delta .be 1000).length := delta_len .be 1000

example : Writes (writeRice true 77 3) .le true (Spec.rice .le 3 77) :=
  rice_writes' .le true 3 77 (by decide) (by decide) (by decide)
example : Reads (readRice 3) .le (Spec.rice .le 3 77) 77 := rice_reads .le 3 77 (by decide) (by decide)
example : lenRice 77 3 = (Spec.rice .le 3 77).length := rice_len .le 3 77

example : Writes (writePi true 77 2) .be true (Spec.pi .be 2 77) :=
  pi_writes .be true 2 77 (by decide) (by decide)
example : Reads (readPi 2) .be (Spec.pi .be 2 77) 77 := pi_reads .be 2 77 (by decide) (by decide)
example : lenPi 77 2 = (Spec.pi .be 2 77).length := pi_len .be 2 77

example : Writes (writeExpGolomb false none 77 2) .le false (Spec.expGolomb .le 2 77) :=
  expGolomb_writes .le false 2 77 (by decide) (by decide) (by decide)
example : Reads (readExpGolomb none 2) .le (Spec.expGolomb .le 2 77) 77 :=
  expGolomb_reads .le 2 77 (by decide) (by decide) (by decide)
example : lenExpGolomb none 77 2 = (Spec.expGolomb .le 2 77).length := expGolomb_len .le 2 77

example : Writes (writeOmega .le true 1000000) .le true (Spec.omega .le 1000000) :=
  omega_writes .le true 1000000 (by decide)
example : Reads (readOmega .le) .le (Spec.omega .le 1000000) 1000000 :=
  omega_reads .le 1000000 (by decide)
example : Reads (readOmega .be) .be (Spec.omega .be 1000000) 1000000 :=
  omega_reads .be 1000000 (by decide)
example : lenOmega 1000000 = (Spec.omega .le 1000000).length := omega_len .le 1000000

end Dsi
