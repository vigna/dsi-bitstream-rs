/-
  Glue 2 — links between the component theorems.

  1. Backends of the concrete writer (C01, C11, C13): the list `out` of `BufW` behaves like the
     in-memory word writers (`memw_*`) and like the `WordAdapter` over a byte sink
     (`adapter_stream_*`); the adapter over a byte source reads the words the memory reader
     holds (`adapter_read_stream`, `adapter_read_refines_memr`, `adapter_round_trip`).
  2. Counting wrappers over the concrete machines (C14 at L3): `countw_concrete`, `countr_concrete`.
  3. The change-point list of `get_implied_distribution` (C20): `implied_change_points`.

  Extra hypotheses and why:
  * `8 ∣ W` wherever bytes are compared with bits (a word is a whole number of bytes);
  * `0 < W / 8` on the read side (`read_exact` of zero bytes returns nothing);
  * `allBytes.length % (W / 8) = 0` in `adapter_read_refines_memr` only: the memory reader pads a
    trailing partial word with zeros, the adapter reports `eof` (`adapter_read_stream` covers
    the general case: agreement on the complete words, then `eof`);
  * `e = .be → W ≤ 64` and `PeekBounded W 0 p` in `countr_concrete`: those of `rprog_sim`;
    `RProg` has no seek operation, so "does not seek" is built in;
  * `130 ≤ fuel` in `implied_change_points`: 129 items at most (lengths 0 … 128) plus the call
    that ends the list; `G2.impliedChangePoints_spec` (Lemmas/Glue2Implied.lean) covers every fuel.
-/
import Dsi.Lemmas.Glue2Backends
import Dsi.Lemmas.Glue2Adapter
import Dsi.Lemmas.Glue2Count
import Dsi.Lemmas.Glue2Implied
namespace Dsi
open SmallL

variable {W : Nat}

/-- From the empty growable `MemW`, writing `ws` word by word succeeds and
    yields `data = ws`, `pos = ws.length`.  Into a fixed slice of `c` zero words it succeeds iff
    `ws.length ≤ c` (then `data = ws ++ zeros`), else `eof`.  `BufW.emit` on its list backend does
    exactly the same, with `cap := none` / `cap := some c`. -/
theorem memw_append (ws : List (BitVec W)) (c : Nat) (checks : Bool) :
    G2.memwWriteAll { data := [], pos := 0, growable := true } ws =
      .ok { data := ws, pos := ws.length, growable := true } ∧
    G2.memwWriteAll { data := List.replicate c 0, pos := 0, growable := false } ws =
      (if ws.length ≤ c then
        .ok { data := ws ++ List.replicate (c - ws.length) 0, pos := ws.length, growable := false }
       else .err .eof) ∧
    G2.emitAll (BufW.new W checks none) ws = .ok { BufW.new W checks none with out := ws } ∧
    G2.emitAll (BufW.new W checks (some c)) ws =
      (if ws.length ≤ c then .ok { BufW.new W checks (some c) with out := ws } else .err .eof) := by
  have hnew : ∀ cap, (BufW.new W checks cap).CapOk := fun cap => by
    cases cap <;> simp [BufW.CapOk, BufW.new, capFits]
  have key := G2.memwWriteAll_new (W := W) checks
  have hle : capFits (some c) ws.length = decide (ws.length ≤ c) := rfl
  refine ⟨?_, ?_, ?_, ?_⟩
  · obtain ⟨m, hm, hrel⟩ := (key none ws).of_ok_left
    rw [show ({ data := [], pos := 0, growable := true } : MemW W) = G2.memwNew W none from rfl, hm,
      hrel.eq]
    rfl
  · have hk := key (some c) ws
    rw [hle] at hk
    by_cases h : ws.length ≤ c
    · rw [if_pos (decide_eq_true h)] at hk
      obtain ⟨m, hm, hrel⟩ := hk.of_ok_left
      rw [show ({ data := List.replicate c 0, pos := 0, growable := false } : MemW W)
        = G2.memwNew W (some c) from rfl, hm, hrel.eq, if_pos h]
      rfl
    · rw [if_neg (by simpa using h)] at hk
      rw [if_neg h]
      exact hk.of_err_left
  · have := G2.emitAll_eq ws (BufW.new W checks none) (hnew none)
    simpa [BufW.new, capFits] using this
  · have := G2.emitAll_eq ws (BufW.new W checks (some c)) (hnew (some c))
    simpa [BufW.new, capFits] using this

/-- **One delivered word.**  If the memory backend holds what the writer delivered (`BackRel`),
    `backend.write_word(w)` on the list (`BufW.emit`) and on the memory writer
    (`MemW.writeWord`) succeed together — staying related — or both fail with `eof`, which
    happens exactly when the capacity is exceeded.  Likewise for any number of words. -/
theorem memw_backend_sim {s : BufW W} {m : MemW W} (h : G2.BackRel s m) :
    (∀ w, ResRel G2.BackRel (s.emit w) (m.writeWord w)) ∧
    (∀ ws, ResRel G2.BackRel (G2.emitAll s ws) (G2.memwWriteAll m ws)) ∧
    (∀ w, s.emit w = .err .eof ↔ ∃ c, s.cap = some c ∧ c ≤ s.out.length) :=
  ⟨G2.emit_backend h, fun ws => G2.emitAll_backend ws h, fun w => by
    obtain ⟨buffer, space, out, cap, checks⟩ := s
    cases cap with
    | none => simp [BufW.emit]
    | some c =>
      by_cases hlt : out.length < c
      · simp only [BufW.emit, hlt, if_true, Option.some.injEq, exists_eq_left']
        constructor
        · intro h'; cases h'
        · intro h'; exact absurd hlt (Nat.not_lt.2 h')
      · simp only [BufW.emit, hlt, if_false, Option.some.injEq, exists_eq_left', true_iff]
        exact Nat.not_lt.1 hlt⟩

/-- **The memory backend holds `out`.**  For every writer state within its capacity (every state
    reachable by the simulation, `RelC`), replaying the delivered words on the fresh memory
    backend of that capacity succeeds and leaves exactly `out` (then the untouched zeros of a
    slice), cursor after them. -/
theorem memw_holds_out (t : BufW W) (hc : t.CapOk) :
    ∃ m, G2.memwWriteAll (G2.memwNew W t.cap) t.out = .ok m ∧ G2.BackRel t m := by
  have := G2.memwWriteAll_new t.checks t.cap t.out
  rw [if_pos (show capFits _ _ = true from hc)] at this
  exact this.of_ok_left

theorem writer_backend_memw {α : Type} (e : Endian) (p : WProg α) {t t' : BufW W} {w : RefW}
    (h : BufW.RelC e t w) {a : α} (hrun : p.run (BufW.impl e) t = .ok (a, t')) :
    ∃ m, G2.memwWriteAll (G2.memwNew W t'.cap) t'.out = .ok m ∧ G2.BackRel t' m := by
  have hs := wprog_sim e p h
  rw [hrun] at hs
  obtain ⟨_, -, hy⟩ := hs.of_ok_left
  exact memw_holds_out t' hy.2.1.2

example : G2.memwWriteAll ({ data := [], pos := 0, growable := true } : MemW 8) [0x12#8, 0xB5#8, 7#8] =
    .ok { data := [0x12#8, 0xB5#8, 7#8], pos := 3, growable := true } :=
  (memw_append _ 0 false).1

example : G2.memwWriteAll ({ data := List.replicate 4 0, pos := 0, growable := false } : MemW 8)
    [0x12#8, 0xB5#8, 7#8] = .ok { data := [0x12#8, 0xB5#8, 7#8, 0#8], pos := 3, growable := false } := by
  simpa using (memw_append [0x12#8, 0xB5#8, 7#8] 4 false).2.1

example : G2.memwWriteAll ({ data := List.replicate 2 0, pos := 0, growable := false } : MemW 8)
    [0x12#8, 0xB5#8, 7#8] = .err .eof ∧
    G2.emitAll (BufW.new 8 false (some 2)) [0x12#8, 0xB5#8, 7#8] = .err .eof := by
  have h := memw_append [0x12#8, 0xB5#8, 7#8] 2 false
  exact ⟨by simpa using h.2.1, by simpa using h.2.2.2⟩

example : ∃ m, G2.memwWriteAll (G2.memwNew 8 exS.cap) exS.out = .ok m ∧
    m.data = [0x12#8, 0#8, 0#8, 0#8] ∧ m.pos = 1 := by
  obtain ⟨m, hm, hpos, _, hsome⟩ := memw_holds_out exS exS_be.2
  exact ⟨m, hm, (hsome 4 rfl).2.2, hpos⟩

/-- With a fault-free sink, writing the native bytes of each
    delivered word, in order, through `WordAdapter::write_word` appends exactly the bytes of the
    words, i.e. (for whole-byte words) the canonical byte layout of the delivered bits: the bytes a
    `WordAdapter` over a byte sink receives are the memory image. -/
theorem adapter_stream_transparent (e : Endian) (s : Sink) (hs : s.sched = []) (out : List (BitVec W)) :
    Sink.writeWords s (out.map (BufW.wordBytes e)) =
      .ok { s with bytes := s.bytes ++ out.flatMap (BufW.wordBytes e) } ∧
    (8 ∣ W → out.flatMap (BufW.wordBytes e) = layout e (out.flatMap (wordBits e))) :=
  ⟨G2.writeWords_transparent e out s hs, fun h8 => (layout_words e h8 out).symm⟩

theorem adapter_stream_image (e : Endian) (h8 : 8 ∣ W) (t : BufW W) (s : Sink) (hs : s.sched = []) :
    Sink.writeWords s (t.out.map (BufW.wordBytes e)) =
      .ok { s with bytes := s.bytes ++ layout e (t.out.flatMap (wordBits e)) } := by
  rw [(adapter_stream_transparent e s hs t.out).1, ← outBytes_eq_layout e h8 t]
  rfl

/-- for EVERY schedule of short writes, interruptions and failures: if the adapter reports
    success for all words, the sink has received exactly the memory image -/
theorem adapter_stream_lossless (e : Endian) (h8 : 8 ∣ W) (out : List (BitVec W)) (s s' : Sink)
    (h : Sink.writeWords s (out.map (BufW.wordBytes e)) = .ok s') :
    s'.bytes = s.bytes ++ layout e (out.flatMap (wordBits e)) := by
  rw [G2.writeWords_lossless e out s s' h, layout_words e h8 out]

/-- With a fault-free source over a byte image (a trailing partial word
    allowed), positioned at word `i`: reading `k` words through the adapter
    (`read_exact` of `W/8` bytes, then `from_be_bytes`/`from_le_bytes`) returns words
    `i, …, i+k-1` of the memory reader's view `wordsOfBytes` while complete words remain, and
    the next `read_word` is `eof` once fewer than `W/8` bytes are left. -/
theorem adapter_read_stream (e : Endian) (hB : 0 < W / 8) (allBytes : List Nat) (i k : Nat)
    (hk : (i + k) * (W / 8) ≤ allBytes.length) :
    G2.adReadWords e W { bytes := allBytes.drop (i * (W / 8)) } k =
      .ok (((wordsOfBytes e W allBytes).drop i).take k, { bytes := allBytes.drop ((i + k) * (W / 8)) }) ∧
    (allBytes.length < (i + k + 1) * (W / 8) →
      G2.adReadWord e W { bytes := allBytes.drop ((i + k) * (W / 8)) } = .err .eof) := by
  refine ⟨G2.adReadWords_complete e hB allBytes k i hk, fun hlt => ?_⟩
  apply G2.adReadWord_eof e _ rfl
  simp only [List.length_drop]
  rw [Nat.succ_mul] at hlt
  omega

/-- **The adapter reader refines the strict memory reader.**  On a byte image of a whole number
    of words, `read_word` through a fault-free adapter and `read_word` of `MemWordReaderStrict`
    over `wordsOfBytes` return the same word, stay related, and report `eof` together. -/
theorem adapter_read_refines_memr (e : Endian) (hB : 0 < W / 8) (allBytes : List Nat)
    (hmod : allBytes.length % (W / 8) = 0) :
    G2.AdRel e W allBytes { bytes := allBytes } { data := wordsOfBytes e W allBytes, pos := 0, strict := true } ∧
    ∀ (src : Source) (m : MemR W), G2.AdRel e W allBytes src m →
      ResRel (fun (w, src') (w', m') => w = w' ∧ G2.AdRel e W allBytes src' m')
        (G2.adReadWord e W src) m.readWord :=
  ⟨G2.adRel_start e allBytes, fun _ _ h => G2.adReadWord_refines e hB allBytes hmod h⟩

/-- **Round trip through the adapter.**  Writing the delivered words through a fault-free
    adapter into an empty sink and reading the bytes back through a fault-free adapter returns
    the delivered words (`from_xx_bytes ∘ to_xx_bytes = id`), leaving nothing. -/
theorem adapter_round_trip (e : Endian) (h8 : 8 ∣ W) (out : List (BitVec W)) :
    ∃ s' : Sink, Sink.writeWords {} (out.map (BufW.wordBytes e)) = .ok s' ∧
      s'.bytes = layout e (out.flatMap (wordBits e)) ∧
      G2.adReadWords e W { bytes := s'.bytes } out.length = .ok (out, { bytes := [] }) := by
  refine ⟨_, (adapter_stream_transparent e {} rfl out).1, ?_, ?_⟩
  · simp [layout_words e h8 out]
  · have := G2.adReadWords_wordBytes e h8 out []
    simpa using this

example : Sink.writeWords {} ([0x1234#16, 0xABCD#16].map (BufW.wordBytes .be)) =
    .ok { bytes := [0x12, 0x34, 0xAB, 0xCD] } := by
  rw [(adapter_stream_transparent .be {} rfl _).1]; rfl

example : Sink.writeWords {} ([0x1234#16, 0xABCD#16].map (BufW.wordBytes .le)) =
    .ok { bytes := layout .le ([0x1234#16, 0xABCD#16].flatMap (wordBits .le)) } := by
  have := adapter_stream_image .le (by decide) ({ buffer := 0, space := 16, out := [0x1234#16, 0xABCD#16] } : BufW 16)
    {} rfl
  simpa using this

/-- five bytes, 16-bit words: two complete words, then `eof` (the memory reader would see a third,
    zero-padded word) -/
example : G2.adReadWords .be 16 { bytes := [0x12, 0x34, 0xAB, 0xCD, 0xEE] } 2 =
      .ok ((wordsOfBytes .be 16 [0x12, 0x34, 0xAB, 0xCD, 0xEE]).take 2, { bytes := [0xEE] }) ∧
    G2.adReadWord .be 16 { bytes := [0xEE] } = .err .eof ∧
    (wordsOfBytes .be 16 [0x12, 0x34, 0xAB, 0xCD, 0xEE]).take 2 = [0x1234#16, 0xABCD#16] := by
  have h := adapter_read_stream (W := 16) .be (by decide) [0x12, 0x34, 0xAB, 0xCD, 0xEE] 0 2 (by decide)
  exact ⟨by simpa using h.1, by simpa using h.2 (by decide), by decide⟩

example : ∃ s' : Sink, Sink.writeWords {} ([0x1234#16, 0xABCD#16].map (BufW.wordBytes .le)) = .ok s' ∧
    G2.adReadWords .le 16 { bytes := s'.bytes } 2 = .ok ([0x1234#16, 0xABCD#16], { bytes := [] }) := by
  obtain ⟨s', h1, _, h3⟩ := adapter_round_trip (W := 16) .le (by decide) [0x1234#16, 0xABCD#16]
  exact ⟨s', h1, h3⟩

/-- **C14 at L3.**  For a concrete writer `t` related to a reference writer `w`:
    running any program through `CountBitWriter` over `BufBitWriter`
    * is transparent (same values, same inner state as the uncounted run),
    * has the same outcome as the counted reference run, with the same counter, and
    * when it succeeds, the counter has grown by exactly the number of bits the program's
      `write_bits`/`write_unary` operations appended to the reference stream (`dataBits`,
      flush padding excluded); for a program without `flush` that is the growth of the abstract
      stream `t.abs e`. -/
theorem countw_concrete {α : Type} (e : Endian) (p : WProg α) {t : BufW W} {w : RefW}
    (h : BufW.RelC e t w) (c : Nat) :
    (p.run (CountW.impl (BufW.impl e)) ⟨t, c⟩).map (fun (a, s) => (a, s.inner)) = p.run (BufW.impl e) t ∧
    ResRel (fun (x : α × CountW (BufW W)) (y : α × CountW RefW) =>
        x.1 = y.1 ∧ BufW.RelC e x.2.inner y.2.inner ∧ x.2.bitsWritten = y.2.bitsWritten)
      (p.run (CountW.impl (BufW.impl e)) ⟨t, c⟩) (p.run (CountW.impl RefW.impl) ⟨w, c⟩) ∧
    ∀ (a : α) (t' : BufW W) (c' : Nat),
      p.run (CountW.impl (BufW.impl e)) ⟨t, c⟩ = .ok (a, ⟨t', c'⟩) →
      ∃ w', p.run RefW.impl w = .ok (a, w') ∧ BufW.RelC e t' w' ∧ c' = c + p.dataBits w ∧
        (p.flushFree → c' + (t.abs e).length = c + (t'.abs e).length) := by
  have hsim := G2.countw_sim e p h c
  refine ⟨countw_transparent _ p t c, hsim.mono (fun _ _ hab => ⟨hab.1, hab.2.1, hab.2.2.1⟩), ?_⟩
  intro a t' c' hrun
  rw [hrun] at hsim
  obtain ⟨⟨b, ⟨w', c''⟩⟩, hr, hab, hrel, hcc, -⟩ := hsim.of_ok_left
  simp only at hab hrel hcc
  subst hab; subst hcc
  refine ⟨w', countw_inner_run _ p w w' c c' a hr, hrel, countw_exact p w w' c c' a hr, fun hf => ?_⟩
  have := countw_exact_flushFree p hf w w' c c' a hr
  rwa [h.1.2.2.2.2.2, hrel.1.2.2.2.2.2] at this

/-- **C14 at L3.**  For a concrete reader `s` related to a reference reader `r`
    and a program satisfying the hypotheses of `rprog_sim` (reader programs cannot seek):
    running it through `CountBitReader` over `BufBitReader` is transparent, has the same outcome
    and counter as the counted reference run, and when it succeeds the counter has grown by
    exactly `s'.bitPos - s.bitPos`. -/
theorem countr_concrete {α : Type} {e : Endian} (hW64 : e = .be → W ≤ 64) (p : RProg α)
    (hp : PeekBounded W 0 p) {s : BufR W} {r : RefR} (h : BufR.Rel e s r) (c : Nat) :
    (p.run (CountR.impl (BufR.impl e)) ⟨s, c⟩).map (fun (a, x) => (a, x.inner)) = p.run (BufR.impl e) s ∧
    ResRel (fun (x : α × CountR (BufR W)) (y : α × CountR RefR) =>
        x.1 = y.1 ∧ BufR.Rel e x.2.inner y.2.inner ∧ x.2.bitsRead = y.2.bitsRead)
      (p.run (CountR.impl (BufR.impl e)) ⟨s, c⟩) (p.run (CountR.impl RefR.impl) ⟨r, c⟩) ∧
    ∀ (a : α) (s' : BufR W) (c' : Nat),
      p.run (CountR.impl (BufR.impl e)) ⟨s, c⟩ = .ok (a, ⟨s', c'⟩) →
      c' + s.bitPos = c + s'.bitPos ∧ s.bitPos ≤ s'.bitPos ∧ c' - c = s'.bitPos - s.bitPos ∧
      ∃ r', p.run RefR.impl r = .ok (a, r') ∧ BufR.Rel e s' r' := by
  have hsim := G2.countr_sim hW64 p hp h c
  refine ⟨countr_transparent _ p s c, hsim, ?_⟩
  intro a s' c' hrun
  rw [hrun] at hsim
  obtain ⟨⟨b, ⟨r', c''⟩⟩, hr, hab, hrel, hcc⟩ := hsim.of_ok_left
  simp only at hab hrel hcc
  subst hab; subst hcc
  have hex := countr_exact p r r' c c' a hr
  rw [bitPos_eq h, bitPos_eq hrel]
  exact ⟨hex.1, hex.2, by omega, r', countr_inner_run _ p r r' c c' a hr, hrel⟩

/-- `write_bits(5, 3)`, `write_unary(9)`, then a flush, counted, on the example state of
    `Props/Writer.lean` (five pending bits, `W = 8`): 13 bits counted, the flush adds none -/
def g2ExProg : WProg Nat := do
  let a ← WProg.wbits 5 3
  let b ← WProg.wunary 9
  WProg.flush fun _ => pure (a + b)

example : ∃ t', g2ExProg.run (CountW.impl (BufW.impl .be)) ⟨exS, 100⟩ = .ok (13, ⟨t', 113⟩) ∧
    113 = 100 + g2ExProg.dataBits exRbe := ⟨_, rfl, by decide⟩

example (a : Nat) (t' : BufW 8) (c' : Nat)
    (hrun : g2ExProg.run (CountW.impl (BufW.impl .be)) ⟨exS, 100⟩ = .ok (a, ⟨t', c'⟩)) :
    c' = 100 + g2ExProg.dataBits exRbe := by
  obtain ⟨_, _, _, hc, _⟩ := (countw_concrete .be g2ExProg exS_be 100).2.2 a t' c' hrun
  exact hc

example (e : Endian) (a : Nat) (s' : BufR 8) (c' : Nat)
    (hrun : readerExProg.run (CountR.impl (BufR.impl e)) ⟨readerExS e, 40⟩ = .ok (a, ⟨s', c'⟩)) :
    c' - 40 = s'.bitPos - (readerExS e).bitPos :=
  ((countr_concrete (fun _ => by decide) readerExProg readerExProg_bounded (readerEx_rel e) 40).2.2
    a s' c' hrun).2.2.1

example : (readerExProg.run (CountR.impl (BufR.impl .be)) ⟨readerExS .be, 40⟩).map
    (fun (a, x) => (a, x.bitsRead, x.inner.bitPos)) = .ok (337, 55, 18) := by rfl

open FC in
/-- **C20.**  For a non-decreasing `f`, the change-point list of
    `get_implied_distribution` (`FindChangePoints` taken while `len ≤ 128`; any fuel `≥ 130`, in
    particular the model's default 4096) is produced without hang, overflow or failed debug
    assertion, and:
    * it is empty if `f 0 > 128` and starts with `(0, f 0)` otherwise;
    * every entry is `(x, f x)` with `f x ≤ 128`;
    * first (and second) components increase strictly;
    * every later entry `(x, f x)` is the LEAST change point after its predecessor, within reach
      of the search, and `f x ≠ f (x - 1)`;
    * it has at most 129 entries;
    * it is complete: after the last entry either no change point is within reach or the next
      one has a length above 128;
    * it is the iterator's output (same number of calls) cut at the first item above 128. -/
theorem implied_change_points {f : Nat → Nat} (hm : Mono f) (fuel : Nat) (hfuel : 130 ≤ fuel) :
    ∃ l, impliedChangePoints f fuel = .ok l ∧ G2.ImpliedSpec f l ∧
      ∃ items ended, changePoints f fuel = .ok (items, ended) ∧
        l = items.takeWhile (fun p => decide (p.2 ≤ 128)) := by
  rcases G2.impliedChangePoints_spec hm fuel with ⟨_, hlt⟩ | ⟨l, hl, hspec⟩
  · exact absurd hfuel (Nat.not_le.2 hlt)
  · exact ⟨l, hl, hspec, G2.impliedChangePoints_takeWhile hm fuel l hl⟩

open FC in
theorem implied_change_points_default {f : Nat → Nat} (hm : Mono f) :
    ∃ l, impliedChangePoints f = .ok l ∧ G2.ImpliedSpec f l := by
  obtain ⟨l, hl, hs, _⟩ := implied_change_points hm 4096 (by decide)
  exact ⟨l, hl, hs⟩

open FC in
/-- for every fuel (the "first `n` entries" form): the model either runs out of fuel — only
    possible below 130 — or returns a list with the same properties -/
theorem implied_change_points_any_fuel {f : Nat → Nat} (hm : Mono f) (fuel : Nat) :
    (impliedChangePoints f fuel = .err .other ∧ fuel < 130) ∨
    (∃ l, impliedChangePoints f fuel = .ok l ∧ G2.ImpliedSpec f l) :=
  G2.impliedChangePoints_spec hm fuel

/-- a step function with lengths 0, 3, then 200: the list stops before the step above 128 -/
example : FC.impliedChangePoints (fun x => if x < 5 then 0 else if x < 9 then 3 else 200) =
    .ok [(0, 0), (5, 3)] := by rfl

/-- every library length function gets a well-formed list, e.g. `len_gamma` and `len_zeta(·, 3)` -/
example : (∃ l, FC.impliedChangePoints lenGammaD = .ok l ∧ G2.ImpliedSpec lenGammaD l) ∧
    (∃ l, FC.impliedChangePoints (lenZetaD · 3) = .ok l ∧ G2.ImpliedSpec (lenZetaD · 3) l) :=
  ⟨implied_change_points_default lib_len_mono.2.1,
   implied_change_points_default (lib_len_mono.2.2.2.2.2.2.2.2.2.2 3 (by decide) (by decide))⟩

end Dsi
