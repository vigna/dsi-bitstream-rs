/-
  The codeword equalities behind `CodeId.equiv` (C10 / C16 accept the aliases of the dispatch
  tables "up to proved codeword equality": this is the proof).

  1. the published codewords (`Dsi.Spec`) of the codes the library documents as identical are equal,
     for every endianness and every argument (no domain bound is needed at this level);
  2. `equiv_codewords`: the syntactic relation `CodeId.equiv` of `Dsi/Glue/Dispatch.lean` implies
     equality of codewords, `CodeId.lenEquiv` equality of codeword lengths;
  3. program-level consequences on the reference machines: the aliased reader / writer programs
     decode / append the same bits and return the same value / length;
  4. the dispatchers' own programs (`ownWrite` / `ownRead` / `ownLen`) perform the published codeword
     of their code on `CodeId.Dom` (`own_spec`, `equiv_dom`), and so does the program a dispatch arm
     selects (`dispatch_*_performs`).
-/
import Dsi.Lemmas.EquivSpec
import Dsi.Lemmas.ReadsPM
import Dsi.Props.C05
import Dsi.Props.C10
namespace Dsi
open EqvL Gen

theorem spec_zeta1_eq_gamma (e : Endian) (n : Nat) : Spec.zeta e 1 n = Spec.gamma e n := by
  unfold Spec.zeta Spec.gamma
  simp only [Nat.div_one, Nat.mul_one, two_pow_succ_sub]
  have hm : n + 1 ≠ 0 := Nat.succ_ne_zero n
  rw [minbin_pow2 e _ _ (sub_pow_log2_lt hm)]
  congr 1
  exact fieldBits_congr e (sub_pow_log2_mod hm)

theorem spec_pi0_eq_gamma (e : Endian) (n : Nat) : Spec.pi e 0 n = Spec.gamma e n := by
  simp [Spec.pi, Spec.rice, Spec.gamma, fieldBits_zero]

theorem spec_expGolomb0_eq_gamma (e : Endian) (n : Nat) : Spec.expGolomb e 0 n = Spec.gamma e n := by
  simp [Spec.expGolomb, fieldBits_zero]

theorem spec_rice0_eq_unary (e : Endian) (n : Nat) : Spec.rice e 0 n = Spec.unary n := by
  simp [Spec.rice, fieldBits_zero]

theorem spec_golomb_pow2_eq_rice (e : Endian) (j n : Nat) :
    Spec.golomb e (2 ^ j) n = Spec.rice e j n := by
  unfold Spec.golomb Spec.rice
  rw [minbin_pow2 e _ _ (Nat.mod_lt _ (Nat.two_pow_pos j))]
  congr 1
  exact fieldBits_congr e (Nat.mod_mod _ _)

theorem spec_golomb1_eq_unary (e : Endian) (n : Nat) : Spec.golomb e 1 n = Spec.unary n :=
  (spec_golomb_pow2_eq_rice e 0 n).trans (spec_rice0_eq_unary e n)

theorem spec_vbyte_len_eq (e : Endian) (n : Nat) :
    (Spec.vbyte e true n).length = (Spec.vbyte e false n).length := by
  simp only [Spec.vbyte, CodesB.bits_length, CodesB.specBytes_length]

/-- The published codeword of a code identifier.  The parameterless families ignore `p`
    (`CodeId.canon` normalises it to `0`); ζ₀ and Golomb₀ have no codeword (the library divides by
    the parameter). -/
def CodeId.codeword (c : CodeId) (e : Endian) (n : Nat) : Option (List Bool) :=
  match c.fam with
  | .unary => some (Spec.unary n)
  | .gamma => some (Spec.gamma e n)
  | .delta => some (Spec.delta e n)
  | .omega => some (Spec.omega e n)
  | .vbyteBe => some (Spec.vbyte e true n)
  | .vbyteLe => some (Spec.vbyte e false n)
  | .zeta => if c.p = 0 then none else some (Spec.zeta e c.p n)
  | .pi => some (Spec.pi e c.p n)
  | .golomb => if c.p = 0 then none else some (Spec.golomb e c.p n)
  | .expGolomb => some (Spec.expGolomb e c.p n)
  | .rice => some (Spec.rice e c.p n)

def CodeId.codewordLen (c : CodeId) (e : Endian) (n : Nat) : Option Nat :=
  (c.codeword e n).map List.length

theorem CodeId.codeword_zeta {p : Nat} (hp : 1 ≤ p) (e : Endian) (n : Nat) :
    (⟨.zeta, p⟩ : CodeId).codeword e n = some (Spec.zeta e p n) :=
  if_neg (Nat.ne_of_gt hp)

theorem CodeId.codeword_golomb {p : Nat} (hp : 1 ≤ p) (e : Endian) (n : Nat) :
    (⟨.golomb, p⟩ : CodeId).codeword e n = some (Spec.golomb e p n) :=
  if_neg (Nat.ne_of_gt hp)

/-- `c.canon` is `c` itself, `c` with the unused parameter of a parameterless family set to `0`, or
    the other side of one of the eight documented coincidences: a relation that holds in these
    cases holds between every code and its canonical representative -/
theorem CodeId.canon_ind {P : CodeId → CodeId → Prop} (self : ∀ c, P c c)
    (noParam : ∀ f p, f.hasParam = false → P ⟨f, 0⟩ ⟨f, p⟩)
    (zeta1 : P ⟨.gamma, 0⟩ ⟨.zeta, 1⟩) (pi0 : P ⟨.gamma, 0⟩ ⟨.pi, 0⟩)
    (expGolomb0 : P ⟨.gamma, 0⟩ ⟨.expGolomb, 0⟩) (rice0 : P ⟨.unary, 0⟩ ⟨.rice, 0⟩)
    (golomb1 : P ⟨.unary, 0⟩ ⟨.golomb, 1⟩) (golomb2 : P ⟨.rice, 1⟩ ⟨.golomb, 2⟩)
    (golomb4 : P ⟨.rice, 2⟩ ⟨.golomb, 4⟩) (golomb8 : P ⟨.rice, 3⟩ ⟨.golomb, 8⟩) (c : CodeId) :
    P c.canon c := by
  obtain ⟨f, p⟩ := c
  cases f
  case unary | gamma | delta | omega | vbyteBe | vbyteLe => exact noParam _ p rfl
  case zeta =>
    by_cases h : p = 1
    · exact h ▸ zeta1
    · simpa only [CodeId.canon, if_neg h] using self _
  case pi =>
    by_cases h : p = 0
    · exact h ▸ pi0
    · simpa only [CodeId.canon, if_neg h] using self _
  case expGolomb =>
    by_cases h : p = 0
    · exact h ▸ expGolomb0
    · simpa only [CodeId.canon, if_neg h] using self _
  case rice =>
    by_cases h : p = 0
    · exact h ▸ rice0
    · simpa only [CodeId.canon, if_neg h] using self _
  case golomb =>
    by_cases h1 : p = 1
    · exact h1 ▸ golomb1
    by_cases h2 : p = 2
    · exact h2 ▸ golomb2
    by_cases h4 : p = 4
    · exact h4 ▸ golomb4
    by_cases h8 : p = 8
    · exact h8 ▸ golomb8
    simpa only [CodeId.canon, if_neg h1, if_neg h2, if_neg h4, if_neg h8] using self _

theorem CodeId.codeword_canon (c : CodeId) (e : Endian) (n : Nat) :
    c.canon.codeword e n = c.codeword e n :=
  c.canon_ind (P := fun d c => d.codeword e n = c.codeword e n) (fun _ => rfl)
    (fun f _ hf => by cases f <;> first | rfl | cases hf)
    (congrArg some (spec_zeta1_eq_gamma e n).symm) (congrArg some (spec_pi0_eq_gamma e n).symm)
    (congrArg some (spec_expGolomb0_eq_gamma e n).symm) (congrArg some (spec_rice0_eq_unary e n).symm)
    (congrArg some (spec_golomb1_eq_unary e n).symm)
    (congrArg some (spec_golomb_pow2_eq_rice e 1 n).symm)
    (congrArg some (spec_golomb_pow2_eq_rice e 2 n).symm)
    (congrArg some (spec_golomb_pow2_eq_rice e 3 n).symm)

/-- **Codes related by `CodeId.equiv` have the same codewords**, for every endianness and every
    argument (both sides are `none` exactly for ζ₀ / Golomb₀). -/
theorem equiv_codewords {a b : CodeId} (h : a.equiv b = true) (e : Endian) (n : Nat) :
    a.codeword e n = b.codeword e n := by
  rw [← CodeId.codeword_canon a, ← CodeId.codeword_canon b, (eq_of_beq h : a.canon = b.canon)]

theorem CodeId.codewordLen_lenCanon (c : CodeId) (e : Endian) (n : Nat) :
    c.lenCanon.codewordLen e n = c.codewordLen e n := by
  have hcan : c.canon.codewordLen e n = c.codewordLen e n := by
    simp only [CodeId.codewordLen, CodeId.codeword_canon]
  unfold CodeId.lenCanon
  by_cases hf : c.canon.fam = Family.vbyteLe
  · simp only [hf, if_true]
    rw [← hcan]
    simp only [CodeId.codewordLen, CodeId.codeword, hf, Option.map_some, spec_vbyte_len_eq]
  · simp only [hf, if_false]
    exact hcan

/-- **Codes related by `CodeId.lenEquiv` (`equiv`, plus VByteBe ~ VByteLe) have codewords of the
    same length.** -/
theorem lenEquiv_codeword_lengths {a b : CodeId} (h : a.lenEquiv b = true) (e : Endian) (n : Nat) :
    a.codewordLen e n = b.codewordLen e n := by
  rw [← CodeId.codewordLen_lenCanon a, ← CodeId.codewordLen_lenCanon b,
    (eq_of_beq h : a.lenCanon = b.lenCanon)]

/-- the relation used by the dispatch theorems for each kind of call -/
theorem equivK_codewords (k : Kind) {a b : CodeId} (h : equivK k a b = true) (e : Endian) (n : Nat) :
    a.codewordLen e n = b.codewordLen e n ∧ (k ≠ .len → a.codeword e n = b.codeword e n) := by
  cases k
  case len => exact ⟨lenEquiv_codeword_lengths h e n, fun h => absurd rfl h⟩
  all_goals
    exact ⟨by simp only [CodeId.codewordLen, equiv_codewords h e n], fun _ => equiv_codewords h e n⟩

example : (⟨.zeta, 1⟩ : CodeId).codeword .le 5 = (⟨.expGolomb, 0⟩ : CodeId).codeword .le 5 :=
  equiv_codewords (by decide) .le 5
example : (⟨.golomb, 8⟩ : CodeId).codeword .be 100 = (⟨.rice, 3⟩ : CodeId).codeword .be 100 :=
  equiv_codewords (by decide) .be 100
example : (⟨.golomb, 8⟩ : CodeId).codeword .be 100
    = some [false, false, false, false, false, false, false, false, false, false, false, false,
            true, true, false, false] := by decide
example : (⟨.vbyteLe, 0⟩ : CodeId).codewordLen .be 300000 = (⟨.vbyteBe, 7⟩ : CodeId).codewordLen .be 300000 :=
  lenEquiv_codeword_lengths (by decide) .be 300000

/-! `Writes p e checks bits`: on every growable reference writer `p` appends exactly `bits` and returns
their number; `Reads p e bits v`: wherever `bits` is embedded in a stream, `p` returns `v` and
consumes exactly `bits`.  Two programs with the same `Writes` (`Reads`) statement therefore run
identically there (`EqvL.writes_run_eq`, `EqvL.reads_run_eq`). -/

/-- for `k = 1` the bound `2^{(h+1)k}` never wraps: the implemented ζ₁ is the published one, i.e. γ -/
theorem zeta1_wrapped_eq_gamma (e : Endian) (n : Nat) (hn : n < 2 ^ 64 - 1) :
    Spec.zetaWrapped e 1 n = Spec.gamma e n := by
  have hl := log2_lt_64 (m := n + 1) (by omega)
  rw [zeta_published e 1 n (by rw [Nat.div_one, Nat.mul_one]; omega), spec_zeta1_eq_gamma]

theorem zeta1_writes_gamma (e : Endian) (checks : Bool) (n : Nat) (hn : n < 2 ^ 64 - 1) :
    Writes (writeZetaDefault n 1) e checks (Spec.gamma e n) := by
  rw [← zeta1_wrapped_eq_gamma e n hn]
  exact zeta_writes e checks 1 n (by decide) (by decide) hn

theorem gamma_writes_zeta1 (e : Endian) (checks : Bool) (n : Nat) (hn : n < 2 ^ 64 - 1) :
    Writes (writeGammaDefault checks n) e checks (Spec.zeta e 1 n) := by
  rw [spec_zeta1_eq_gamma]; exact gamma_writes e checks n hn

/-- `write_zeta(n, 1)` and `write_gamma(n)` append the same bits and return the same length, on
    every growable reference writer and for every `n` (both panic for `n = 2^64 − 1`) -/
theorem writeZeta1_run_eq_gamma (e : Endian) (checks : Bool) (n : Nat) (w : RefW) (he : w.e = e)
    (hcap : w.cap = none) (hc : w.checks = checks) :
    (writeZetaDefault n 1).run RefW.impl w = (writeGammaDefault checks n).run RefW.impl w := by
  by_cases hn : n < 2 ^ 64 - 1
  · exact writes_run_eq (zeta1_writes_gamma e checks n hn) (gamma_writes e checks n hn) w he hcap hc
  · have hn' : n ≥ 2 ^ 64 - 1 := by omega
    unfold writeZetaDefault writeGammaDefault
    rw [if_pos hn', if_pos hn']

theorem zeta1_reads_gamma (e : Endian) (n : Nat) (hn : n < 2 ^ 64 - 1) :
    Reads (readZetaDefault 1) e (Spec.gamma e n) n := by
  rw [← zeta1_wrapped_eq_gamma e n hn]
  exact zeta_reads e 1 n (by decide) (by decide) hn

theorem gamma_reads_zeta1 (e : Endian) (n : Nat) (hn : n < 2 ^ 64 - 1) :
    Reads readGammaDefault e (Spec.zeta e 1 n) n := by
  rw [spec_zeta1_eq_gamma]; exact gamma_reads e n hn

theorem pi0_writes_gamma (e : Endian) (checks : Bool) (n : Nat) (hn : n < 2 ^ 64 - 1) :
    Writes (writePi checks n 0) e checks (Spec.gamma e n) := by
  rw [← spec_pi0_eq_gamma]; exact pi_writes e checks 0 n (by decide) hn

theorem gamma_writes_pi0 (e : Endian) (checks : Bool) (n : Nat) (hn : n < 2 ^ 64 - 1) :
    Writes (writeGammaDefault checks n) e checks (Spec.pi e 0 n) := by
  rw [spec_pi0_eq_gamma]; exact gamma_writes e checks n hn

theorem pi0_reads_gamma (e : Endian) (n : Nat) (hn : n < 2 ^ 64 - 1) :
    Reads (readPi 0) e (Spec.gamma e n) n := by
  rw [← spec_pi0_eq_gamma]; exact pi_reads e 0 n (by decide) hn

theorem gamma_reads_pi0 (e : Endian) (n : Nat) (hn : n < 2 ^ 64 - 1) :
    Reads readGammaDefault e (Spec.pi e 0 n) n := by
  rw [spec_pi0_eq_gamma]; exact gamma_reads e n hn

theorem expGolomb0_writes_gamma (e : Endian) (checks : Bool) (n : Nat) (hn : n < 2 ^ 64 - 1) :
    Writes (writeExpGolomb checks none n 0) e checks (Spec.gamma e n) := by
  rw [← spec_expGolomb0_eq_gamma]
  exact expGolomb_writes e checks 0 n (by decide) (by omega) (fun _ => hn)

theorem gamma_writes_expGolomb0 (e : Endian) (checks : Bool) (n : Nat) (hn : n < 2 ^ 64 - 1) :
    Writes (writeGammaDefault checks n) e checks (Spec.expGolomb e 0 n) := by
  rw [spec_expGolomb0_eq_gamma]; exact gamma_writes e checks n hn

theorem expGolomb0_reads_gamma (e : Endian) (n : Nat) (hn : n < 2 ^ 64 - 1) :
    Reads (readExpGolomb none 0) e (Spec.gamma e n) n := by
  rw [← spec_expGolomb0_eq_gamma]
  exact expGolomb_reads e 0 n (by decide) (by omega) (fun _ => hn)

theorem gamma_reads_expGolomb0 (e : Endian) (n : Nat) (hn : n < 2 ^ 64 - 1) :
    Reads readGammaDefault e (Spec.expGolomb e 0 n) n := by
  rw [spec_expGolomb0_eq_gamma]; exact gamma_reads e n hn

theorem rice0_writes_unary (e : Endian) (checks : Bool) (n : Nat) (hn : n < 2 ^ 64 - 1) :
    Writes (writeRice checks n 0) e checks (Spec.unary n) := by
  rw [← spec_rice0_eq_unary e]
  exact rice_writes e checks 0 n (by decide) (by rw [Nat.pow_zero, Nat.div_one]; exact hn)

theorem unary_writes_rice0 (e : Endian) (checks : Bool) (n : Nat) (hn : n < 2 ^ 64 - 1) :
    Writes (writeUnaryC n) e checks (Spec.rice e 0 n) := by
  rw [spec_rice0_eq_unary]; exact unary_writes e checks n hn

theorem rice0_reads_unary (e : Endian) (n : Nat) (hn : n < 2 ^ 64) :
    Reads (readRice 0) e (Spec.unary n) n := by
  rw [← spec_rice0_eq_unary e]; exact rice_reads e 0 n (by decide) hn

theorem unary_reads_rice0 (e : Endian) (n : Nat) : Reads readUnaryC e (Spec.rice e 0 n) n := by
  rw [spec_rice0_eq_unary]; exact unary_reads e n

theorem golomb1_writes_unary (e : Endian) (checks : Bool) (n : Nat) (hn : n < 2 ^ 64 - 1) :
    Writes (writeGolomb n 1) e checks (Spec.unary n) := by
  rw [← spec_golomb1_eq_unary e]
  exact golomb_writes e checks 1 n (by decide) (by decide) (by rw [Nat.div_one]; exact hn)

theorem unary_writes_golomb1 (e : Endian) (checks : Bool) (n : Nat) (hn : n < 2 ^ 64 - 1) :
    Writes (writeUnaryC n) e checks (Spec.golomb e 1 n) := by
  rw [spec_golomb1_eq_unary]; exact unary_writes e checks n hn

theorem golomb1_reads_unary (e : Endian) (n : Nat) (hn : n < 2 ^ 64) :
    Reads (readGolomb 1) e (Spec.unary n) n := by
  rw [← spec_golomb1_eq_unary e]; exact golomb_reads e 1 n (by decide) (by decide) hn

theorem unary_reads_golomb1 (e : Endian) (n : Nat) : Reads readUnaryC e (Spec.golomb e 1 n) n := by
  rw [spec_golomb1_eq_unary]; exact unary_reads e n

/-! ### Golomb_{2^j} = Rice_j (`j ≤ 63`; in the dispatch tables `j = 1, 2, 3`) -/

theorem golomb_pow2_writes_rice (e : Endian) (checks : Bool) (j n : Nat) (hj : j ≤ 63)
    (hq : n / 2 ^ j < 2 ^ 64 - 1) :
    Writes (writeGolomb n (2 ^ j)) e checks (Spec.rice e j n) := by
  rw [← spec_golomb_pow2_eq_rice]
  exact golomb_writes e checks (2 ^ j) n (Nat.two_pow_pos j)
    (Nat.pow_lt_pow_right (by decide) (by omega)) hq

theorem rice_writes_golomb_pow2 (e : Endian) (checks : Bool) (j n : Nat) (hj : j ≤ 63)
    (hq : n / 2 ^ j < 2 ^ 64 - 1) :
    Writes (writeRice checks n j) e checks (Spec.golomb e (2 ^ j) n) := by
  rw [spec_golomb_pow2_eq_rice]; exact rice_writes e checks j n hj hq

theorem golomb_pow2_reads_rice (e : Endian) (j n : Nat) (hj : j ≤ 63) (hn : n < 2 ^ 64) :
    Reads (readGolomb (2 ^ j)) e (Spec.rice e j n) n := by
  rw [← spec_golomb_pow2_eq_rice]
  exact golomb_reads e (2 ^ j) n (Nat.two_pow_pos j) (Nat.pow_lt_pow_right (by decide) (by omega)) hn

theorem rice_reads_golomb_pow2 (e : Endian) (j n : Nat) (hj : j ≤ 63) (hn : n < 2 ^ 64) :
    Reads (readRice j) e (Spec.golomb e (2 ^ j) n) n := by
  rw [spec_golomb_pow2_eq_rice]; exact rice_reads e j n hj hn

theorem writeGolomb_pow2_run_eq_rice (e : Endian) (checks : Bool) (j n : Nat) (hj : j ≤ 63)
    (hq : n / 2 ^ j < 2 ^ 64 - 1) (w : RefW) (he : w.e = e) (hcap : w.cap = none)
    (hc : w.checks = checks) :
    (writeGolomb n (2 ^ j)).run RefW.impl w = (writeRice checks n j).run RefW.impl w :=
  writes_run_eq (golomb_pow2_writes_rice e checks j n hj hq) (rice_writes e checks j n hj hq) w he hcap hc

theorem readGolomb_pow2_run_eq_rice (e : Endian) (j n : Nat) (hj : j ≤ 63) (hn : n < 2 ^ 64)
    (pre post : List Bool) (strict : Bool) (pm : Nat) (hpm : 1 ≤ pm) :
    (readGolomb (2 ^ j)).run RefR.impl (RefR.at e pre (Spec.rice e j n) post strict pm)
      = (readRice j).run RefR.impl (RefR.at e pre (Spec.rice e j n) post strict pm) :=
  reads_run_eq (golomb_pow2_reads_rice e j n hj hn) (rice_reads e j n hj hn) pre post strict pm hpm

theorem readZeta1_run_eq_gamma (e : Endian) (n : Nat) (hn : n < 2 ^ 64 - 1)
    (pre post : List Bool) (strict : Bool) (pm : Nat) (hpm : 1 ≤ pm) :
    (readZetaDefault 1).run RefR.impl (RefR.at e pre (Spec.gamma e n) post strict pm)
      = readGammaDefault.run RefR.impl (RefR.at e pre (Spec.gamma e n) post strict pm) :=
  reads_run_eq (zeta1_reads_gamma e n hn) (gamma_reads e n hn) pre post strict pm hpm

theorem readZeta3_none : readZeta3 none = readZetaDefault 3 := rfl
theorem writeZeta3_none (n : Nat) : writeZeta3 none n = writeZetaDefault n 3 := rfl

/-- `write_zeta3`, table on or off, appends the (implemented) ζ₃ codeword -/
theorem writeZeta3P_writes (e : Endian) (checks t : Bool) (n : Nat) (hn : n < 2 ^ 64 - 1) :
    Writes (writeZeta3P e t n) e checks (Spec.zetaWrapped e 3 n) :=
  writes_of_run_eq (zeta_writes e checks 3 n (by decide) (by decide) hn)
    (fun w he _ => writeZeta3P_eq e t n w he)

/-- … which is the published one for `n + 1 < 2^63` (for larger `n` the bound `2^66` wraps) -/
theorem zeta3_published (e : Endian) (n : Nat) (hn : n + 1 < 2 ^ 63) :
    Spec.zetaWrapped e 3 n = Spec.zeta e 3 n := by
  apply zeta_published
  have hl : (n + 1).log2 < 63 := (Nat.log2_lt (Nat.succ_ne_zero n)).2 hn
  omega

theorem writeZeta3P_writes_published (e : Endian) (checks t : Bool) (n : Nat) (hn : n + 1 < 2 ^ 63) :
    Writes (writeZeta3P e t n) e checks (Spec.zeta e 3 n) := by
  rw [← zeta3_published e n hn]; exact writeZeta3P_writes e checks t n (by omega)

theorem writeZeta3P_run_eq (e : Endian) (t : Bool) (n : Nat) (w : RefW) (he : w.e = e) :
    (writeZeta3P e t n).run RefW.impl w = (writeZetaDefault n 3).run RefW.impl w :=
  writeZeta3P_eq e t n w he

/-- `read_zeta3`, table on or off, decodes the ζ₃ codeword (table on: look-ahead capacity at least
    the index width) -/
theorem readZeta3P_reads (e : Endian) (t : Bool) (n : Nat) (hn : n < 2 ^ 64 - 1) :
    ReadsPM (if t then Zeta.READ_BITS else 0) (readZeta3P e t) e (Spec.zetaWrapped e 3 n) n :=
  ReadsPM.of_run_eq (zeta_reads e 3 n (by decide) (by decide) hn)
    (fun r he hk => readZeta3P_eq e t r he (fun ht => by rw [ht] at hk; exact hk))

/-- the parameterless methods (flags from the generated `Params`) -/
theorem writeZeta3D_writes (e : Endian) (checks : Bool) (n : Nat) (hn : n < 2 ^ 64 - 1) :
    Writes (writeZeta3D e n) e checks (Spec.zetaWrapped e 3 n) :=
  writeZeta3P_writes e checks _ n hn

theorem readZeta3D_reads (e : Endian) (n : Nat) (hn : n < 2 ^ 64 - 1) :
    ReadsPM Zeta.READ_BITS (readZeta3D e) e (Spec.zetaWrapped e 3 n) n :=
  (readZeta3P_reads e _ n hn).mono (by split <;> simp)

/-! ## the dispatchers' own programs perform the codeword of their code

`ownWrite` / `ownRead` / `ownLen` (`Dsi/Glue/Dispatch.lean`) are the parameterless default trait
methods, tables included.  On the domain `CodeId.Dom` each of them writes / decodes / measures the
published codeword of its code; with `equiv_codewords` two identifiers related by `CodeId.equiv`
therefore name programs that write the same bits, decode the same bits and return the same
lengths — which is what "up to proved codeword equality" means in C10 / C16. -/

/-- the widest table index (`12`, the ζ₃ table): a reader with at least this look-ahead capacity
    can run every table-driven default method -/
def tablePeek : Nat := max Gamma.READ_BITS (max Delta.READ_BITS Zeta.READ_BITS)

theorem gamma_le_tablePeek : Gamma.READ_BITS ≤ tablePeek := by decide
theorem delta_le_tablePeek : Delta.READ_BITS ≤ tablePeek := by decide
theorem zeta_le_tablePeek : Zeta.READ_BITS ≤ tablePeek := by decide
theorem tablePeek_le_32 : tablePeek ≤ 32 := by decide
theorem one_le_tablePeek : 1 ≤ tablePeek := by decide

/-- The arguments on which the library claims the code: the value range of the code, a legal
    parameter, a writable unary part; for ζ_k also that the bound `2^{(h+1)k}` does not wrap (beyond,
    the implemented ζ is `Spec.zetaWrapped`, not the published code). -/
def CodeId.Dom (c : CodeId) (v : Nat) : Prop :=
  match c.fam with
  | .unary => v < 2 ^ 64 - 1
  | .gamma => v < 2 ^ 64 - 1
  | .delta => v < 2 ^ 64 - 1
  | .omega => v < 2 ^ 64 - 1
  | .vbyteBe => v < 2 ^ 64
  | .vbyteLe => v < 2 ^ 64
  | .zeta => 1 ≤ c.p ∧ c.p ≤ 63 ∧ v < 2 ^ 64 - 1 ∧ ((v + 1).log2 / c.p + 1) * c.p ≤ 64
  | .pi => c.p ≤ 63 ∧ v < 2 ^ 64 - 1
  | .golomb => 1 ≤ c.p ∧ c.p < 2 ^ 64 ∧ v < 2 ^ 64 ∧ v / c.p < 2 ^ 64 - 1
  | .expGolomb => c.p ≤ 63 ∧ v < 2 ^ 64 ∧ (c.p = 0 → v < 2 ^ 64 - 1)
  | .rice => c.p ≤ 63 ∧ v < 2 ^ 64 ∧ v / 2 ^ c.p < 2 ^ 64 - 1

instance (c : CodeId) (v : Nat) : Decidable (c.Dom v) := by
  unfold CodeId.Dom
  split <;> infer_instance

theorem writeGammaD_writes (e : Endian) (checks : Bool) (n : Nat) (hn : n < 2 ^ 64 - 1) :
    Writes (writeGammaD e checks n) e checks (Spec.gamma e n) :=
  writes_of_run_eq (gamma_writes e checks n hn) (fun w he hc => writeGammaD_eq e checks n w he hc)

theorem writeDeltaD_writes (e : Endian) (checks : Bool) (n : Nat) (hn : n < 2 ^ 64 - 1) :
    Writes (writeDeltaD e checks n) e checks (Spec.delta e n) :=
  writes_of_run_eq (delta_writes e checks n hn) (fun w he hc => writeDeltaD_eq e checks n w he hc)

theorem writeExpGolomb_opt_eq (e : Endian) (checks t : Bool) (n k : Nat) (w : RefW) (he : w.e = e)
    (hc : w.checks = checks) :
    (writeExpGolomb checks (opt t (gammaWTab e)) n k).run RefW.impl w
      = (writeExpGolomb checks none n k).run RefW.impl w := by
  unfold writeExpGolomb
  split
  · rfl
  · exact WProg.run_bind_congr (writeGammaP_eq e checks t _ w he hc) _

theorem writeExpGolombD_writes (e : Endian) (checks : Bool) (k n : Nat) (hk : k ≤ 63) (hn : n < 2 ^ 64)
    (hk0 : k = 0 → n < 2 ^ 64 - 1) :
    Writes (writeExpGolombD e checks n k) e checks (Spec.expGolomb e k n) :=
  writes_of_run_eq (expGolomb_writes e checks k n hk hn hk0)
    (fun w he hc => writeExpGolomb_opt_eq e checks _ n k w he hc)

theorem readGammaD_reads (e : Endian) (n : Nat) (hn : n < 2 ^ 64 - 1) :
    ReadsPM Gamma.READ_BITS (readGammaD e) e (Spec.gamma e n) n :=
  ReadsPM.of_run_eq (gamma_reads e n hn) (fun r he hk => readGammaD_eq e r he (fun _ => hk))

theorem readDeltaD_reads (e : Endian) (n : Nat) (hn : n < 2 ^ 64 - 1) :
    ReadsPM (max Delta.READ_BITS Gamma.READ_BITS) (readDeltaD e) e (Spec.delta e n) n :=
  ReadsPM.of_run_eq (delta_reads e n hn)
    (fun r he hk => readDeltaD_eq e r he (fun _ => Nat.le_trans (Nat.le_max_left _ _) hk)
      (fun _ => Nat.le_trans (Nat.le_max_right _ _) hk))

theorem readExpGolomb_opt_eq (e : Endian) (t : Bool) (k : Nat) (r : RefR) (he : r.e = e)
    (hpm : t = true → Gamma.READ_BITS ≤ r.peekMax) :
    (readExpGolomb (opt t (gammaRTab e)) k).run RefR.impl r
      = (readExpGolomb none k).run RefR.impl r := by
  unfold readExpGolomb
  split
  · rfl
  · exact RProg.run_bind_congr (readGammaP_eq e t r he hpm) _

theorem readExpGolombD_reads (e : Endian) (k n : Nat) (hk : k ≤ 63) (hn : n < 2 ^ 64)
    (hk0 : k = 0 → n < 2 ^ 64 - 1) :
    ReadsPM Gamma.READ_BITS (readExpGolombD e k) e (Spec.expGolomb e k n) n :=
  ReadsPM.of_run_eq (expGolomb_reads e k n hk hn hk0)
    (fun r he hpm => readExpGolomb_opt_eq e _ k r he (fun _ => hpm))

theorem lenExpGolombD_eq (n k : Nat) : lenExpGolombD n k = lenExpGolomb none n k := by
  show lenGammaP _ _ + k = _
  rw [lenGammaP_eq]
  rfl

/-- The three own programs of a code on its domain: the writer appends the published codeword,
    the reader decodes it wherever it is embedded (look-ahead capacity covering the tables), the
    length function gives its length. -/
theorem own_spec (e : Endian) (checks : Bool) (c : CodeId) (v : Nat) (h : c.Dom v) :
    ∃ cw, c.codeword e v = some cw ∧ Writes (ownWrite e checks c v) e checks cw ∧
      ReadsPM tablePeek (ownRead e c) e cw v ∧ ownLen c v = cw.length := by
  obtain ⟨fam, p⟩ := c
  cases fam
  case unary => exact ⟨_, rfl, unary_writes e checks v h, (unary_reads e v).toPM _, unary_len v⟩
  case gamma =>
    exact ⟨_, rfl, writeGammaD_writes e checks v h, (readGammaD_reads e v h).mono gamma_le_tablePeek,
      (lenGammaD_eq v).trans (gamma_len e v)⟩
  case delta =>
    exact ⟨_, rfl, writeDeltaD_writes e checks v h, (readDeltaD_reads e v h).mono (by decide),
      (lenDeltaD_eq v).trans (delta_len e v)⟩
  case omega => exact ⟨_, rfl, omega_writes e checks v h, (omega_reads e v h).toPM _, omega_len e v⟩
  case vbyteBe =>
    exact ⟨_, rfl, vbyte_be_writes e checks v h, (vbyte_be_reads e vbFuel v (by decide) h).toPM _,
      vbyte_bit_len e true v h⟩
  case vbyteLe =>
    exact ⟨_, rfl, vbyte_le_writes e checks v h, (vbyte_le_reads e vbFuel v (by decide) h).toPM _,
      vbyte_bit_len e false v h⟩
  case zeta =>
    obtain ⟨h1, h2, h3, h4⟩ := h
    rw [CodeId.codeword_zeta h1, ← zeta_published e p v h4]
    exact ⟨_, rfl, zeta_writes e checks p v h1 h2 h3, (zeta_reads e p v h1 h2 h3).toPM _,
      (lenZetaD_eq v p).trans (zeta_len e p v h1 h2 h3)⟩
  case pi => exact ⟨_, rfl, pi_writes e checks p v h.1 h.2, (pi_reads e p v h.1 h.2).toPM _, pi_len e p v⟩
  case golomb =>
    obtain ⟨h1, h2, h3, h4⟩ := h
    exact ⟨_, CodeId.codeword_golomb h1 e v, golomb_writes e checks p v h1 h2 h4,
      (golomb_reads e p v h1 h2 h3).toPM _, golomb_len e p v h1 h2⟩
  case expGolomb =>
    exact ⟨_, rfl, writeExpGolombD_writes e checks p v h.1 h.2.1 h.2.2,
      (readExpGolombD_reads e p v h.1 h.2.1 h.2.2).mono gamma_le_tablePeek,
      (lenExpGolombD_eq v p).trans (expGolomb_len e p v)⟩
  case rice =>
    exact ⟨_, rfl, rice_writes e checks p v h.1 h.2.2, (rice_reads e p v h.1 h.2.1).toPM _, rice_len e p v⟩

/-- **C04 for the dispatchers' writers**: the own writer program of a code appends the published
    codeword of that code -/
theorem ownWrite_writes (e : Endian) (checks : Bool) (c : CodeId) (v : Nat) (h : c.Dom v) :
    ∃ cw, c.codeword e v = some cw ∧ Writes (ownWrite e checks c v) e checks cw :=
  let ⟨cw, hcw, hw, _⟩ := own_spec e checks c v h
  ⟨cw, hcw, hw⟩

/-- **C03 for the dispatchers' readers**: the own reader program of a code decodes the published
    codeword of that code, wherever it is embedded, on every reference reader whose look-ahead
    capacity covers the tables -/
theorem ownRead_reads (e : Endian) (c : CodeId) (v : Nat) (h : c.Dom v) :
    ∃ cw, c.codeword e v = some cw ∧ ReadsPM tablePeek (ownRead e c) e cw v :=
  let ⟨cw, hcw, _, hr, _⟩ := own_spec e false c v h
  ⟨cw, hcw, hr⟩

theorem ownWrite_writes_of {e : Endian} {checks : Bool} {c : CodeId} {v : Nat} {cw : List Bool}
    (h : c.Dom v) (hcw : c.codeword e v = some cw) : Writes (ownWrite e checks c v) e checks cw := by
  obtain ⟨cw', hcw', hw⟩ := ownWrite_writes e checks c v h
  cases hcw.symm.trans hcw'
  exact hw

theorem ownRead_reads_of {e : Endian} {c : CodeId} {v : Nat} {cw : List Bool} (h : c.Dom v)
    (hcw : c.codeword e v = some cw) : ReadsPM tablePeek (ownRead e c) e cw v := by
  obtain ⟨cw', hcw', hr⟩ := ownRead_reads e c v h
  cases hcw.symm.trans hcw'
  exact hr

/-- **C06 for the dispatchers' length functions** -/
theorem ownLen_codeword (e : Endian) (c : CodeId) (v : Nat) (h : c.Dom v) :
    c.codewordLen e v = some (ownLen c v) := by
  obtain ⟨cw, hcw, _, _, hl⟩ := own_spec e false c v h
  rw [CodeId.codewordLen, hcw, hl]
  rfl

/-- for ζ₁ the bound never wraps (`log2_lt_64`); the other coincidences are linear arithmetic -/
theorem CodeId.dom_canon (c : CodeId) (v : Nat) : c.canon.Dom v ↔ c.Dom v := by
  have hlog := @log2_lt_64 (v + 1)
  refine c.canon_ind (P := fun d c => d.Dom v ↔ c.Dom v) (fun _ => Iff.rfl)
    (fun f _ hf => by cases f <;> first | exact Iff.rfl | cases hf) ?_ ?_ ?_ ?_ ?_ ?_ ?_ ?_
  all_goals simp only [CodeId.Dom, true_implies]
  all_goals omega

theorem equiv_dom {a b : CodeId} (h : a.equiv b = true) (v : Nat) : a.Dom v ↔ b.Dom v := by
  rw [← CodeId.dom_canon a, ← CodeId.dom_canon b, (eq_of_beq h : a.canon = b.canon)]

theorem CodeId.dom_lenCanon (c : CodeId) (v : Nat) : c.lenCanon.Dom v ↔ c.Dom v := by
  unfold CodeId.lenCanon
  by_cases hf : c.canon.fam = Family.vbyteLe
  · simp only [hf, if_true]
    rw [← CodeId.dom_canon c]
    simp only [CodeId.Dom, hf]
  · simp only [hf, if_false]
    exact CodeId.dom_canon c v

theorem lenEquiv_dom {a b : CodeId} (h : a.lenEquiv b = true) (v : Nat) : a.Dom v ↔ b.Dom v := by
  rw [← CodeId.dom_lenCanon a, ← CodeId.dom_lenCanon b, (eq_of_beq h : a.lenCanon = b.lenCanon)]

/-- two identifiers related by `equiv`: their own writers append the same bits (the common
    codeword) and return the same length -/
theorem equiv_ownWrite {a b : CodeId} (h : a.equiv b = true) (e : Endian) (checks : Bool) (v : Nat)
    (hd : a.Dom v) :
    ∃ cw, a.codeword e v = some cw ∧ b.codeword e v = some cw ∧
      Writes (ownWrite e checks a v) e checks cw ∧ Writes (ownWrite e checks b v) e checks cw := by
  obtain ⟨cw, h1, h2⟩ := ownWrite_writes e checks a v hd
  have h3 := (equiv_codewords h e v).symm.trans h1
  exact ⟨cw, h1, h3, h2, ownWrite_writes_of ((equiv_dom h v).1 hd) h3⟩

theorem equiv_ownRead {a b : CodeId} (h : a.equiv b = true) (e : Endian) (v : Nat) (hd : a.Dom v) :
    ∃ cw, a.codeword e v = some cw ∧ b.codeword e v = some cw ∧
      ReadsPM tablePeek (ownRead e a) e cw v ∧ ReadsPM tablePeek (ownRead e b) e cw v := by
  obtain ⟨cw, h1, h2⟩ := ownRead_reads e a v hd
  have h3 := (equiv_codewords h e v).symm.trans h1
  exact ⟨cw, h1, h3, h2, ownRead_reads_of ((equiv_dom h v).1 hd) h3⟩

theorem lenEquiv_ownLen {a b : CodeId} (h : a.lenEquiv b = true) (v : Nat) (hd : a.Dom v) :
    ownLen a v = ownLen b v := by
  have h1 := ownLen_codeword .be a v hd
  have h2 := ownLen_codeword .be b v ((lenEquiv_dom h v).1 hd)
  rw [lenEquiv_codeword_lengths h .be v, h2] at h1
  exact (Option.some.inj h1).symm

/-- if a write call means the wanted code up to the coincidences (`semOk`, what `dispatch_*_ok`
    establish for every arm), the program it runs appends the wanted code's codeword -/
theorem dispatch_write_performs (e : Endian) (checks : Bool) (call : Call) (bound : Option Nat)
    (want : CodeId) (v : Nat) (p : WProg Nat) (hok : semOk .write call bound want = true)
    (hp : callWrite e checks call bound v = some p) (hd : want.Dom v) :
    ∃ cw, want.codeword e v = some cw ∧ Writes p e checks cw := by
  obtain ⟨got, hs, heq⟩ := semOk_elim hok
  have hdg : got.Dom v := (equiv_dom heq v).2 hd
  rw [← equiv_codewords heq e v]
  rcases callWrite_cases hs hp with rfl | ⟨rfl, rfl⟩
  · exact ownWrite_writes e checks got v hdg
  · obtain ⟨h1, h2, h3, h4⟩ := hdg
    refine ⟨_, CodeId.codeword_zeta (by decide) e v, ?_⟩
    have := writeZeta3D_writes e checks v h3
    rwa [zeta_published e 3 v h4] at this

theorem dispatch_read_performs (e : Endian) (call : Call) (bound : Option Nat) (want : CodeId)
    (v : Nat) (p : RProg Nat) (hok : semOk .read call bound want = true)
    (hp : callRead e call bound = some p) (hd : want.Dom v) :
    ∃ cw, want.codeword e v = some cw ∧ ReadsPM tablePeek p e cw v := by
  obtain ⟨got, hs, heq⟩ := semOk_elim hok
  have hdg : got.Dom v := (equiv_dom heq v).2 hd
  rw [← equiv_codewords heq e v]
  rcases callRead_cases hs hp with rfl | ⟨rfl, rfl⟩
  · exact ownRead_reads e got v hdg
  · obtain ⟨h1, h2, h3, h4⟩ := hdg
    refine ⟨_, CodeId.codeword_zeta (by decide) e v, ?_⟩
    have := readZeta3D_reads e v h3
    rw [zeta_published e 3 v h4] at this
    exact this.mono zeta_le_tablePeek

theorem dispatch_len_performs (e : Endian) (call : Call) (bound : Option Nat) (want : CodeId)
    (v : Nat) (f : Nat → Nat) (hok : semOk .len call bound want = true)
    (hf : callLen call bound = some f) (hd : want.Dom v) :
    want.codewordLen e v = some (f v) := by
  obtain ⟨got, hs, heq⟩ := semOk_elim hok
  rw [callLen_sem call bound got hs] at hf
  cases hf
  rw [← lenEquiv_codeword_lengths heq e v]
  exact ownLen_codeword e got v ((lenEquiv_dom heq v).2 hd)

example : Writes (writeZetaDefault 1000 1) .be true (Spec.gamma .be 1000) :=
  zeta1_writes_gamma .be true 1000 (by decide)
example : Reads readGammaDefault .le (Spec.zeta .le 1 1000) 1000 := gamma_reads_zeta1 .le 1000 (by decide)
example : Reads (readGolomb 8) .le (Spec.rice .le 3 1000) 1000 :=
  golomb_pow2_reads_rice .le 3 1000 (by decide) (by decide)
example : Writes (writeGolomb 1000 4) .le false (Spec.rice .le 2 1000) :=
  golomb_pow2_writes_rice .le false 2 1000 (by decide) (by decide)
example : Reads (readRice 0) .be (Spec.unary 9) 9 := rice0_reads_unary .be 9 (by decide)
example : ReadsPM 12 (readZeta3D .be) .be (Spec.zetaWrapped .be 3 77) 77 := readZeta3D_reads .be 77 (by decide)
example : (writeZeta3D .le 77).run RefW.impl { e := .le, W := 16 }
    = .ok ((Spec.zeta .le 3 77).length, { e := .le, W := 16, bits := Spec.zeta .le 3 77 }) := by
  have := writeZeta3P_writes_published .le false Params.writeZeta3Table 77 (by decide)
    { e := .le, W := 16 } rfl rfl rfl
  simpa [writeZeta3D] using this

example : ∃ cw, (⟨.golomb, 4⟩ : CodeId).codeword .be 1000 = some cw ∧
    (⟨.rice, 2⟩ : CodeId).codeword .be 1000 = some cw ∧
    Writes (ownWrite .be true ⟨.golomb, 4⟩ 1000) .be true cw ∧
    Writes (ownWrite .be true ⟨.rice, 2⟩ 1000) .be true cw :=
  equiv_ownWrite (by decide) .be true 1000 (by decide)
example : ownLen ⟨.vbyteLe, 0⟩ 300000 = ownLen ⟨.vbyteBe, 0⟩ 300000 :=
  lenEquiv_ownLen (by decide) 300000 (by decide)
/-- the arm of `ConstCode<ZETA1>` calls `read_gamma`: it decodes ζ₁ codewords -/
example : ∃ cw, (⟨.zeta, 1⟩ : CodeId).codeword .le 1000 = some cw ∧
    ReadsPM tablePeek (readGammaD .le) .le cw 1000 :=
  dispatch_read_performs .le (.read "read_gamma" []) none ⟨.zeta, 1⟩ 1000 _ (by decide) rfl (by decide)

end Dsi
