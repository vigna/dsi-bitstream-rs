/-
  HEADLINE THEOREMS, stated about the definitions regenerated from the Rust source on this run.

  Every object in the statements below is a generated definition or a specification:

  * `genWImpl e`, `genRImpl e`, `genBitRImpl e` — the bodies of `BufBitWriter` / `BufBitReader` /
    `BitReader` methods (lean/Dsi/Gen/BufWriterBodies.lean, BufReaderBodies.lean,
    BitReaderBodies.lean), assembled in `Lemmas/HeadlineRunW.lean` (`genWImpl`) and
    `Lemmas/HeadlineRunR.lean` (`genRImpl`, `genBitRImpl`);
  * `genOwnWrite e checks c v`, `genOwnRead e c`, `genOwnLen c v` — the code writers / readers /
    length functions (Gen/CodeBodies.lean, OmegaBodies.lean, VByteBodies.lean, TableFns.lean,
    LenFormulas.lean, flags from Gen/Params.lean), assembled in `Lemmas/HeadlineCodesW.lean`,
    `Lemmas/HeadlineCodesR.lean` and `Props/HeadlineLen.lean` respectively;
  * `GenBufR.genBitPos`, `genBitRBitPos` — the generated `bit_pos`;
  * `Spec.*` / `CodeId.codeword` — the published codewords; `layout` — the canonical byte layout;
    `RefW` — the reference writer (only used to say which bits an arbitrary preceding program wrote).
  Not generated (there is no Rust body to translate, or it is the harness' view of memory):
  `BufW.new`, `BufR.new` (the constructors: zeroed struct), `BufW.outBytes` / `wordsOfBytes` /
  `padTo` (bytes of the backend words in memory order, and back).
  The theorems are spread over modules by the Rust bodies they depend on:
  1. `gen_wrun_eq`, `gen_wrun_agree` (Lemmas/HeadlineRunW.lean: writer bodies only), `gen_rrun_eq`,
     `gen_rrun_bitr_eq` (Lemmas/HeadlineRunR.lean: reader bodies only): every program runs on the
     generated implementations as on the hand-written models.                          [C01, C02]
  2. `gen_write_image` (Props/HeadlineImage.lean), `gen_code_write_image`, `gen_code_write_len`,
     `gen_{gamma,delta,zeta3,minbin}_write_image` (Props/HeadlineWrite.lean: writer bodies and code
     writers).                                                                         [C01, C04]
  3. `gen_len_eq`, `gen_len_*_param_eq` (Props/HeadlineLen.lean: length functions only).    [C06]
  4. this file: `gen_roundtrip`, `gen_roundtrip_bitr`, `gen_code_roundtrip`,
     `gen_code_roundtrip_bitr`, `gen_code_framed`, `gen_{gamma,delta,zeta3,minbin}_roundtrip`, and
     instances of several of these theorems on concrete numbers.                            [C03]

  Hypotheses beyond those of the theorems about the hand-written models (`e2e_writer_image`,
  `e2e_roundtrip`, `e2e_code`, `code_read_concrete`, `ownLen_codeword`), and why:
  * `Ww < 2 ^ 64` (writer word width): `write_unary` computes `WW::Word::BITS as u64`;
  * `hfit` (the whole stream, padding included, is shorter than `2^64` bits; `2^63` for the
    unbuffered reader): `BufBitReader::read_unary` counts in `u64`, `BitReader` keeps its position in
    a `u64`, the hand-written models count in `Nat`;
  * `gen_roundtrip`, `gen_roundtrip_bitr`, `gen_framed` take two reader programs: `rpH` with
    `ReadsPM K` (`K ≤ Wr`; `K ≤ 32` for the unbuffered reader) in place of `Reads`, and the
    generated `rpG` with `Guarded rpH rpG` (and `PeekLe Wr rpG` for the buffered reader): the
    generated program is only tied to `rpH` off (debug-)panic points.  The theorems per code
    discharge these.
-/
import Dsi.Lemmas.HeadlineCodes
import Dsi.Props.HeadlineWrite
import Dsi.Props.Transport
import Dsi.Props.Bounded
import Dsi.Lemmas.Headline2Trip
import Dsi.Lemmas.Headline2Image
import Dsi.Lemmas.Headline2Decode
namespace Dsi
namespace Headline
open E2E TrL EqvL CodeBodiesGen Gen

/-- `impl BitSeek for BitReader<E, _>::bit_pos`, from the translated bodies -/
def genBitRBitPos (e : Endian) (s : BitR) : Res (Nat × BitR) :=
  match e with
  | .be => GenBitR.natOut (Gen.BitR.bit_pos_be s)
  | .le => GenBitR.natOut (Gen.BitR.bit_pos_le s)

theorem genBitRBitPos_eq {e : Endian} {s : BitR} {r : RefR} (h : BitR.Rel e s r)
    (hfit : r.pos < 2 ^ 64) : genBitRBitPos e s = .ok (r.pos, s) :=
  Headline2.genBitRBitPos_rel h hfit

/-- **Round trip, generated `BufBitWriter` and `BufBitReader`** (`e2e_roundtrip` with every
    hand-written object replaced by its generated counterpart).  `pw` writes `pre ++ bits ++ post`
    (reference semantics); `rpG` is a generated reader program, `rpH` a program it agrees with off
    (debug-)panic points (`Guarded`) and that decodes `bits` to `v` on the reference reader.  Then:
    run `pw` and `flush` on a fresh generated writer of width `Ww`, build a generated reader of width
    `Wr` on the delivered bytes, `skip_bits(pre.length)`, run `rpG`: the result is `v` and the generated
    `bit_pos` answers `pre.length + bits.length`. -/
theorem gen_roundtrip {α β : Type} (e : Endian) {Ww Wr : Nat} (hWw : 0 < Ww) (h8w : 8 ∣ Ww)
    (hWw64 : Ww < 2 ^ 64) (hWr : 0 < Wr) (h8r : 8 ∣ Wr) (hW64 : e = .be → Wr ≤ 64)
    (checks strict : Bool) (pw : WProg α) {a : α} {r' : RefW} (pre bits post : List Bool)
    (hpw : pw.run RefW.impl { e := e, W := Ww, checks := checks, cap := none, bits := [] } = .ok (a, r'))
    (hbits : r'.bits = pre ++ bits ++ post)
    {rpH rpG : RProg β} {v : β} {K : Nat} (hr : ReadsPM K rpH e bits v) (hK : K ≤ Wr)
    (hpb : PeekBounded Wr 0 rpH) (hg : Guarded rpH rpG) (hple : PeekLe Wr rpG)
    (hfit : r'.bits.length + Ww + 5 * Wr < 2 ^ 64) :
    ∃ (sw : BufW Ww) (k : Nat) (sw' : BufW Ww) (s1 s2 : BufR Wr),
      pw.run (genWImpl e) (BufW.new Ww checks none) = .ok (a, sw) ∧
      (genWImpl e).flush sw = .ok (k, sw') ∧
      (genRImpl e).skipBits
        (BufR.new ⟨wordsOfBytes e Wr (padTo (Wr / 8) (sw'.outBytes e)), 0, strict⟩) pre.length = .ok s1 ∧
      rpG.run (genRImpl e) s1 = .ok (v, s2) ∧
      GenBufR.genBitPos e s2 = .ok (pre.length + bits.length, s2) := by
  obtain ⟨sw, k, sw', h1, h2, _, _, h3, h4⟩ :=
    Headline2.gen_image_of_relC e h8w hWw64 (rel_new e hWw checks none) pw hpw
  rw [hbits, List.append_assoc] at h3
  have hl := congrArg List.length hbits
  have hp := Headline2.wpad_length_lt (pre ++ bits ++ post).length hWw
  simp only [List.length_append] at hl hp
  obtain ⟨zeros, s1, hs1, hi1⟩ := Headline2.gen_image_start e hWr h8r strict h4 h3 (by
    simp only [List.length_append]; omega)
  obtain ⟨s2, hs2, hi2⟩ := Headline2.gen_buf_step hW64 hi1 (.intro hr hK hpb hg hple)
  exact ⟨sw, k, sw', s1, s2, h1, h2, hs1, hs2, Headline2.gen_bitPos_after hi2 (by omega)⟩

/-- **Round trip, generated `BufBitWriter` and unbuffered `BitReader`** (`e2e_roundtrip_bitr`). -/
theorem gen_roundtrip_bitr {α β : Type} (e : Endian) {Ww : Nat} (hWw : 0 < Ww) (h8w : 8 ∣ Ww)
    (hWw64 : Ww < 2 ^ 64) (checks strict : Bool) (pw : WProg α) {a : α} {r' : RefW}
    (pre bits post : List Bool)
    (hpw : pw.run RefW.impl { e := e, W := Ww, checks := checks, cap := none, bits := [] } = .ok (a, r'))
    (hbits : r'.bits = pre ++ bits ++ post)
    {rpH rpG : RProg β} {v : β} {K : Nat} (hr : ReadsPM K rpH e bits v) (hK : K ≤ 32)
    (hok : BitR.ProgOK 0 rpH) (hskip : BitR.NoSkip rpH ∨ strict = false) (hg : Guarded rpH rpG)
    (hfit : 2 * r'.bits.length + 2 * Ww + 5 * 64 < 2 ^ 64) :
    ∃ (sw : BufW Ww) (k : Nat) (sw' : BufW Ww) (s1 s2 : BitR),
      pw.run (genWImpl e) (BufW.new Ww checks none) = .ok (a, sw) ∧
      (genWImpl e).flush sw = .ok (k, sw') ∧
      (genBitRImpl e).skipBits
        { data := ⟨wordsOfBytes e 64 (padTo 8 (sw'.outBytes e)), 0, strict⟩ } pre.length = .ok s1 ∧
      rpG.run (genBitRImpl e) s1 = .ok (v, s2) ∧
      genBitRBitPos e s2 = .ok (pre.length + bits.length, s2) := by
  obtain ⟨sw, k, sw', h1, h2, _, _, h3, h4⟩ :=
    Headline2.gen_image_of_relC e h8w hWw64 (rel_new e hWw checks none) pw hpw
  rw [hbits, List.append_assoc] at h3
  have hl := congrArg List.length hbits
  have hp := Headline2.wpad_length_lt (pre ++ bits ++ post).length hWw
  simp only [List.length_append] at hl hp
  obtain ⟨zeros, s1, hs1, hrel1, hlen⟩ := Headline2.gen_bitr_image_start e strict h4 h3 (by omega)
  simp only [List.length_append] at hlen
  obtain ⟨s2, hs2, hrel2⟩ := Headline2.gen_bitr_step hrel1 hr hK ⟨hok, hskip⟩ hg (by omega)
  exact ⟨sw, k, sw', s1, s2, h1, h2, hs1, hs2, genBitRBitPos_eq hrel2.1 (by
    show pre.length + bits.length < 2 ^ 64; omega)⟩

theorem gen_roundtrip_after {α : Type} (e : Endian) {Ww Wr : Nat} (hWw : 0 < Ww) (h8w : 8 ∣ Ww)
    (hWw64 : Ww < 2 ^ 64) (hWr : 0 < Wr) (h8r : 8 ∣ Wr) (hW64 : e = .be → Wr ≤ 64)
    (checks strict : Bool) (pre : WProg α) {a : α} {bits₀ : List Bool}
    (hpre : pre.run RefW.impl { e := e, W := Ww, checks := checks, cap := none, bits := [] }
      = .ok (a, { e := e, W := Ww, checks := checks, cap := none, bits := bits₀ }))
    {gw hw : WProg Nat} (heq : gw = hw) {cw : List Bool} (hwr : Writes hw e checks cw)
    {rpH rpG : RProg Nat} {v : Nat} {K : Nat} (hr : ReadsPM K rpH e cw v) (hK : K ≤ Wr)
    (hpb : PeekBounded Wr 0 rpH) (hg : Guarded rpH rpG) (hple : PeekLe Wr rpG)
    (hfit : bits₀.length + cw.length + Ww + 5 * Wr < 2 ^ 64) :
    ∃ (sw : BufW Ww) (k : Nat) (sw' : BufW Ww) (s1 s2 : BufR Wr),
      (pre.bind fun _ => gw).run (genWImpl e) (BufW.new Ww checks none) = .ok (cw.length, sw) ∧
      (genWImpl e).flush sw = .ok (k, sw') ∧
      (genRImpl e).skipBits
        (BufR.new ⟨wordsOfBytes e Wr (padTo (Wr / 8) (sw'.outBytes e)), 0, strict⟩) bits₀.length = .ok s1 ∧
      rpG.run (genRImpl e) s1 = .ok (v, s2) ∧
      GenBufR.genBitPos e s2 = .ok (bits₀.length + cw.length, s2) := by
  subst heq
  exact gen_roundtrip e hWw h8w hWw64 hWr h8r hW64 checks strict _ bits₀ cw [] (ref_run_then hpre hwr)
    (List.append_nil _).symm hr hK hpb hg hple
    (by show (bits₀ ++ cw).length + Ww + 5 * Wr < 2 ^ 64; rw [List.length_append]; exact hfit)

theorem gen_roundtrip_after_bitr {α : Type} (e : Endian) {Ww : Nat} (hWw : 0 < Ww) (h8w : 8 ∣ Ww)
    (hWw64 : Ww < 2 ^ 64) (checks strict : Bool) (pre : WProg α) {a : α} {bits₀ : List Bool}
    (hpre : pre.run RefW.impl { e := e, W := Ww, checks := checks, cap := none, bits := [] }
      = .ok (a, { e := e, W := Ww, checks := checks, cap := none, bits := bits₀ }))
    {gw hw : WProg Nat} (heq : gw = hw) {cw : List Bool} (hwr : Writes hw e checks cw)
    {rpH rpG : RProg Nat} {v : Nat} {K : Nat} (hr : ReadsPM K rpH e cw v) (hK : K ≤ 32)
    (hok : BitR.ProgOK 0 rpH) (hskip : BitR.NoSkip rpH ∨ strict = false) (hg : Guarded rpH rpG)
    (hfit : 2 * (bits₀.length + cw.length) + 2 * Ww + 5 * 64 < 2 ^ 64) :
    ∃ (sw : BufW Ww) (k : Nat) (sw' : BufW Ww) (s1 s2 : BitR),
      (pre.bind fun _ => gw).run (genWImpl e) (BufW.new Ww checks none) = .ok (cw.length, sw) ∧
      (genWImpl e).flush sw = .ok (k, sw') ∧
      (genBitRImpl e).skipBits
        { data := ⟨wordsOfBytes e 64 (padTo 8 (sw'.outBytes e)), 0, strict⟩ } bits₀.length = .ok s1 ∧
      rpG.run (genBitRImpl e) s1 = .ok (v, s2) ∧
      genBitRBitPos e s2 = .ok (bits₀.length + cw.length, s2) := by
  subst heq
  exact gen_roundtrip_bitr e hWw h8w hWw64 checks strict _ bits₀ cw [] (ref_run_then hpre hwr)
    (List.append_nil _).symm hr hK hok hskip hg
    (by show 2 * (bits₀ ++ cw).length + 2 * Ww + 5 * 64 < 2 ^ 64; rw [List.length_append]; exact hfit)

/-- **C03 for every code of the `Codes` enum, on the generated machines** (`code_read_concrete` /
    `e2e_code`): after an arbitrary preceding program, the generated writer of the code on the
    generated `BufBitWriter`, `flush`; on the delivered bytes the generated `BufBitReader` of any
    word width `Wr ≥ 12` (`≤ 64` for BE), strict or zero-extended, skips the preceding bits, the
    generated reader of the code returns `v`, and the generated `bit_pos` is the end of the
    codeword. -/
theorem gen_code_roundtrip {α : Type} (e : Endian) {Ww Wr : Nat} (hWw : 0 < Ww) (h8w : 8 ∣ Ww)
    (hWw64 : Ww < 2 ^ 64) (hWr : 0 < Wr) (h8r : 8 ∣ Wr) (hW64 : e = .be → Wr ≤ 64)
    (checks strict : Bool) (hW12 : tablePeek ≤ Wr) (pre : WProg α) {a : α} {bits₀ : List Bool}
    (hpre : pre.run RefW.impl { e := e, W := Ww, checks := checks, cap := none, bits := [] }
      = .ok (a, { e := e, W := Ww, checks := checks, cap := none, bits := bits₀ }))
    (c : CodeId) (v : Nat) (hd : c.Dom v) {cw : List Bool} (hcw : c.codeword e v = some cw)
    (hfit : bits₀.length + cw.length + Ww + 5 * Wr < 2 ^ 64) :
    ∃ (sw : BufW Ww) (k : Nat) (sw' : BufW Ww) (s1 s2 : BufR Wr),
      (pre.bind fun _ => genOwnWrite e checks c v).run (genWImpl e) (BufW.new Ww checks none)
        = .ok (cw.length, sw) ∧
      (genWImpl e).flush sw = .ok (k, sw') ∧
      (genRImpl e).skipBits
        (BufR.new ⟨wordsOfBytes e Wr (padTo (Wr / 8) (sw'.outBytes e)), 0, strict⟩) bits₀.length = .ok s1 ∧
      (genOwnRead e c).run (genRImpl e) s1 = .ok (v, s2) ∧
      GenBufR.genBitPos e s2 = .ok (bits₀.length + cw.length, s2) := by
  have hwr := ownWrite_writes_of (checks := checks) hd hcw
  have hrd := ownRead_reads_of hd hcw
  exact gen_roundtrip_after e hWw h8w hWw64 hWr h8r hW64 checks strict pre hpre
    (genOwnWrite_eq e checks c v hd) hwr hrd hW12 ((rside_ownRead e c hd).pb Wr hW12)
    (genOwnRead_guarded e c) (genOwnRead_peekLe e c hW12) hfit

/-- the same with the generated unbuffered `BitReader` (`code_read_bitr` / `e2e_code_bitr`) -/
theorem gen_code_roundtrip_bitr {α : Type} (e : Endian) {Ww : Nat} (hWw : 0 < Ww) (h8w : 8 ∣ Ww)
    (hWw64 : Ww < 2 ^ 64) (checks strict : Bool) (pre : WProg α) {a : α} {bits₀ : List Bool}
    (hpre : pre.run RefW.impl { e := e, W := Ww, checks := checks, cap := none, bits := [] }
      = .ok (a, { e := e, W := Ww, checks := checks, cap := none, bits := bits₀ }))
    (c : CodeId) (v : Nat) (hd : c.Dom v) {cw : List Bool} (hcw : c.codeword e v = some cw)
    (hfit : 2 * (bits₀.length + cw.length) + 2 * Ww + 5 * 64 < 2 ^ 64) :
    ∃ (sw : BufW Ww) (k : Nat) (sw' : BufW Ww) (s1 s2 : BitR),
      (pre.bind fun _ => genOwnWrite e checks c v).run (genWImpl e) (BufW.new Ww checks none)
        = .ok (cw.length, sw) ∧
      (genWImpl e).flush sw = .ok (k, sw') ∧
      (genBitRImpl e).skipBits
        { data := ⟨wordsOfBytes e 64 (padTo 8 (sw'.outBytes e)), 0, strict⟩ } bits₀.length = .ok s1 ∧
      (genOwnRead e c).run (genBitRImpl e) s1 = .ok (v, s2) ∧
      genBitRBitPos e s2 = .ok (bits₀.length + cw.length, s2) := by
  have hwr := ownWrite_writes_of (checks := checks) hd hcw
  have hrd := ownRead_reads_of hd hcw
  have hs := rside_ownRead e c hd
  exact gen_roundtrip_after_bitr e hWw h8w hWw64 checks strict pre hpre
    (genOwnWrite_eq e checks c v hd) hwr hrd tablePeek_le_32 (hs.ok tablePeek_le_32) (Or.inl hs.ns)
    (genOwnRead_guarded e c) hfit

/-- `RoundTripsFramed` (Props/EndToEnd.lean) on the generated machines: a fresh generated writer of
    width `Ww` accepts `[a : na bits] wc [b : nb bits]` and the flush; the generated reader of width
    `Wr` built on the delivered bytes reads back `a` (generated `read_bits`), then `rc` returns `v`,
    then `b`, and the generated `bit_pos` is `na + len + nb`. -/
def GenRoundTripsFramed (e : Endian) (Ww Wr : Nat) (checks strict : Bool) (wc : WProg Nat)
    (rc : RProg Nat) (len v a na b nb : Nat) : Prop :=
  ∃ (sw : BufW Ww) (k : Nat) (sw' : BufW Ww) (s1 s2 s3 : BufR Wr),
    (framedW a na wc b nb).run (genWImpl e) (BufW.new Ww checks none) = .ok (na + len + nb, sw) ∧
    (genWImpl e).flush sw = .ok (k, sw') ∧
    (genRImpl e).readBits
      (BufR.new ⟨wordsOfBytes e Wr (padTo (Wr / 8) (sw'.outBytes e)), 0, strict⟩) na
        = .ok (a % 2 ^ na, s1) ∧
    rc.run (genRImpl e) s1 = .ok (v, s2) ∧
    (genRImpl e).readBits s2 nb = .ok (b % 2 ^ nb, s3) ∧
    GenBufR.genBitPos e s3 = .ok (na + len + nb, s3)

theorem rbits_decodes (e : Endian) (W : Nat) {n : Nat} (hn : n ≤ 64) (v : Nat) :
    Headline2.GenDecodes e W (RProg.rbits n) (fieldBits e v n) (v % 2 ^ n) :=
  .intro ((reads_rbits e hn v).toPM 0) (Nat.zero_le _) (pb_rbits W n) (.refl _) fun _ => trivial

theorem gen_framed (e : Endian) {Ww Wr : Nat} (hWw : 0 < Ww) (h8w : 8 ∣ Ww) (hWw64 : Ww < 2 ^ 64)
    (hWr : 0 < Wr) (h8r : 8 ∣ Wr) (hW64 : e = .be → Wr ≤ 64) (checks strict : Bool)
    {wcG wcH : WProg Nat} (heq : wcG = wcH) {rcH rcG : RProg Nat} {code : List Bool} {v : Nat} {K : Nat}
    (hw : Writes wcH e checks code) (hr : ReadsPM K rcH e code v) (hK : K ≤ Wr)
    (hpb : PeekBounded Wr 0 rcH) (hg : Guarded rcH rcG) (hple : PeekLe Wr rcG)
    (a na b nb : Nat) (hna : na ≤ 64) (hnb : nb ≤ 64)
    (ha : checks = false ∨ a % 2 ^ 64 < 2 ^ na) (hb : checks = false ∨ b % 2 ^ 64 < 2 ^ nb)
    (hfit : na + code.length + nb + Ww + 5 * Wr < 2 ^ 64) :
    GenRoundTripsFramed e Ww Wr checks strict wcG rcG code.length v a na b nb := by
  subst heq
  have hrun := framedW_writes hw hna hnb ha hb
    { e := e, W := Ww, checks := checks, cap := none, bits := [] } rfl rfl rfl
  obtain ⟨sw, k, sw', h1, h2, _, _, h3, h4⟩ :=
    Headline2.gen_image_of_relC e h8w hWw64 (rel_new e hWw checks none) _ hrun
  obtain ⟨zeros, hst, hlen⟩ := Headline2.reader_words e hWr h8r h4 h3
  have hp := Headline2.wpad_length_lt (na + (code.length + nb)) hWw
  simp only [List.nil_append, List.append_nil, List.length_append, fieldBits_length] at hst hlen
  -- the stream of the reader, cut before the first field
  have hst' : (wordsOfBytes e Wr (padTo (Wr / 8) (sw'.outBytes e))).flatMap (wordBits e)
      = [] ++ fieldBits e a na ++ (code ++ (fieldBits e b nb ++
          (wpad Ww (na + (code.length + nb)) ++ zeros))) := by
    rw [hst]; simp only [List.nil_append, List.append_assoc]
  have hi0 := Headline2.ginv_new e hWr _ strict (Nat.lt_of_le_of_lt (Nat.add_le_add_right hlen _)
    (by omega))
  rw [show Headline2.refAt e _ strict Wr 0 = _ from Headline2.refAt_eq_at hst'] at hi0
  obtain ⟨s1, r1, hi1⟩ := Headline2.gen_buf_step hW64 hi0 (rbits_decodes e Wr hna a)
  rw [after_eq_at] at hi1
  obtain ⟨s2, r2, hi2⟩ := Headline2.gen_buf_step hW64 hi1 (.intro hr hK hpb hg hple)
  rw [after_eq_at] at hi2
  obtain ⟨s3, r3, hi3⟩ := Headline2.gen_buf_step hW64 hi2 (rbits_decodes e Wr hnb b)
  have hpos := Headline2.gen_bitPos_after hi3 (by
    simp only [List.nil_append, List.length_append, fieldBits_length]; omega)
  simp only [List.nil_append, List.length_append, fieldBits_length] at hpos
  exact ⟨sw, k, sw', s1, s2, s3, h1, h2, run_rbits_ok _ _ _ _ _ r1, r2, run_rbits_ok _ _ _ _ _ r3, hpos⟩

/-- **`e2e_code` on the generated machines**: every code of the `Codes` enum, generated default
    methods (tables included), between two raw fields -/
theorem gen_code_framed (e : Endian) {Ww Wr : Nat} (hWw : 0 < Ww) (h8w : 8 ∣ Ww) (hWw64 : Ww < 2 ^ 64)
    (hWr : 0 < Wr) (h8r : 8 ∣ Wr) (hW64 : e = .be → Wr ≤ 64) (checks strict : Bool)
    (a na b nb : Nat) (hna : na ≤ 64) (hnb : nb ≤ 64)
    (ha : checks = false ∨ a % 2 ^ 64 < 2 ^ na) (hb : checks = false ∨ b % 2 ^ 64 < 2 ^ nb)
    (hW12 : tablePeek ≤ Wr) (c : CodeId) (v : Nat) (hd : c.Dom v) {cw : List Bool}
    (hcw : c.codeword e v = some cw) (hfit : na + cw.length + nb + Ww + 5 * Wr < 2 ^ 64) :
    GenRoundTripsFramed e Ww Wr checks strict (genOwnWrite e checks c v) (genOwnRead e c) cw.length v
      a na b nb := by
  have hwr := ownWrite_writes_of (checks := checks) hd hcw
  have hrd := ownRead_reads_of hd hcw
  exact gen_framed e hWw h8w hWw64 hWr h8r hW64 checks strict (genOwnWrite_eq e checks c v hd) hwr hrd
    hW12 ((rside_ownRead e c hd).pb Wr hW12) (genOwnRead_guarded e c) (genOwnRead_peekLe e c hW12)
    a na b nb hna hnb ha hb hfit

/-! ## the table options: γ, δ, ζ₃ with every combination of flags, writer and reader flags
    independent (C05 on the generated machines), and minimal binary -/

theorem readGammaP_reads (e : Endian) (tr : Bool) (n : Nat) (hn : n < 2 ^ 64 - 1) :
    ReadsPM (need tr Gamma.READ_BITS) (readGammaP e tr) e (Spec.gamma e n) n :=
  ReadsPM.of_run_eq (gamma_reads e n hn)
    (fun r he hk => readGammaP_eq e tr r he (fun ht => by subst ht; exact hk))

theorem readDeltaP_reads (e : Endian) (td tg : Bool) (n : Nat) (hn : n < 2 ^ 64 - 1) :
    ReadsPM (max (need td Delta.READ_BITS) (need tg Gamma.READ_BITS)) (readDeltaP e td tg) e
      (Spec.delta e n) n :=
  ReadsPM.of_run_eq (delta_reads e n hn)
    (fun r he hk => readDeltaP_eq e td tg r he
      (fun ht => by subst ht; exact Nat.le_trans (Nat.le_max_left _ _) hk)
      (fun ht => by subst ht; exact Nat.le_trans (Nat.le_max_right _ _) hk))

section tableOptions
variable {α : Type} (e : Endian) {Ww Wr : Nat} (hWw : 0 < Ww) (h8w : 8 ∣ Ww) (hWw64 : Ww < 2 ^ 64)
  (hWr : 0 < Wr) (h8r : 8 ∣ Wr) (hW64 : e = .be → Wr ≤ 64) (checks strict : Bool)
  (pre : WProg α) {a : α} {bits₀ : List Bool}
  (hpre : pre.run RefW.impl { e := e, W := Ww, checks := checks, cap := none, bits := [] }
    = .ok (a, { e := e, W := Ww, checks := checks, cap := none, bits := bits₀ }))
include hWw h8w hWw64 hpre hWr h8r hW64

/-- γ: written with table flag `tw`, read with table flag `tr` (a table needs `Wr ≥ 9`) -/
theorem gen_gamma_roundtrip (tw tr : Bool) (hWt : tr = true → Gamma.READ_BITS ≤ Wr) (n : Nat)
    (hn : n < 2 ^ 64 - 1) (hfit : bits₀.length + (Spec.gamma e n).length + Ww + 5 * Wr < 2 ^ 64) :
    ∃ (sw : BufW Ww) (k : Nat) (sw' : BufW Ww) (s1 s2 : BufR Wr),
      (pre.bind fun _ => TableFnsGen.writeGammaParam e checks tw n).run (genWImpl e)
        (BufW.new Ww checks none) = .ok ((Spec.gamma e n).length, sw) ∧
      (genWImpl e).flush sw = .ok (k, sw') ∧
      (genRImpl e).skipBits
        (BufR.new ⟨wordsOfBytes e Wr (padTo (Wr / 8) (sw'.outBytes e)), 0, strict⟩) bits₀.length = .ok s1 ∧
      (TableFnsGen.readGammaParam e tr).run (genRImpl e) s1 = .ok (n, s2) ∧
      GenBufR.genBitPos e s2 = .ok (bits₀.length + (Spec.gamma e n).length, s2) := by
  have hK : need tr Gamma.READ_BITS ≤ Wr := TrL.need_le hWt
  exact gen_roundtrip_after e hWw h8w hWw64 hWr h8r hW64 checks strict pre hpre
    (TableFnsGen.write_gamma_param_eq e checks tw hn)
    (writeGammaP_writes e checks tw n hn) (readGammaP_reads e tr n hn) hK
    ((rside_gammaP e tr).pb Wr hK) (TableFnsGen.read_gamma_param_guarded e tr)
    (peekLe_readGammaParam e tr hWt) hfit

/-- δ: any of the 4 × 4 combinations of writer and reader table flags -/
theorem gen_delta_roundtrip (twd twg trd trg : Bool) (hWd : trd = true → Delta.READ_BITS ≤ Wr)
    (hWg : trg = true → Gamma.READ_BITS ≤ Wr) (n : Nat) (hn : n < 2 ^ 64 - 1)
    (hfit : bits₀.length + (Spec.delta e n).length + Ww + 5 * Wr < 2 ^ 64) :
    ∃ (sw : BufW Ww) (k : Nat) (sw' : BufW Ww) (s1 s2 : BufR Wr),
      (pre.bind fun _ => TableFnsGen.writeDeltaParam e checks twd twg n).run (genWImpl e)
        (BufW.new Ww checks none) = .ok ((Spec.delta e n).length, sw) ∧
      (genWImpl e).flush sw = .ok (k, sw') ∧
      (genRImpl e).skipBits
        (BufR.new ⟨wordsOfBytes e Wr (padTo (Wr / 8) (sw'.outBytes e)), 0, strict⟩) bits₀.length = .ok s1 ∧
      (TableFnsGen.readDeltaParam e trd trg).run (genRImpl e) s1 = .ok (n, s2) ∧
      GenBufR.genBitPos e s2 = .ok (bits₀.length + (Spec.delta e n).length, s2) := by
  have hK : max (need trd Delta.READ_BITS) (need trg Gamma.READ_BITS) ≤ Wr :=
    Nat.max_le.2 ⟨TrL.need_le hWd, TrL.need_le hWg⟩
  exact gen_roundtrip_after e hWw h8w hWw64 hWr h8r hW64 checks strict pre hpre
    (TableFnsGen.write_delta_param_eq e checks twd twg hn)
    (writeDeltaP_writes e checks twd twg n hn) (readDeltaP_reads e trd trg n hn) hK
    ((rside_deltaP e trd trg).pb Wr hK) (TableFnsGen.read_delta_param_guarded e trd trg)
    (peekLe_readDeltaParam e trd trg hWd hWg) hfit

/-- ζ₃ (`write_zeta3_param::<tw>` / `read_zeta3_param::<tr>`; the table needs `Wr ≥ 12`) -/
theorem gen_zeta3_roundtrip (tw tr : Bool) (hWt : tr = true → Zeta.READ_BITS ≤ Wr) (n : Nat)
    (hn : n < 2 ^ 64 - 1)
    (hfit : bits₀.length + (Spec.zetaWrapped e 3 n).length + Ww + 5 * Wr < 2 ^ 64) :
    ∃ (sw : BufW Ww) (k : Nat) (sw' : BufW Ww) (s1 s2 : BufR Wr),
      (pre.bind fun _ => TableFnsGen.writeZeta3Param e tw n).run (genWImpl e)
        (BufW.new Ww checks none) = .ok ((Spec.zetaWrapped e 3 n).length, sw) ∧
      (genWImpl e).flush sw = .ok (k, sw') ∧
      (genRImpl e).skipBits
        (BufR.new ⟨wordsOfBytes e Wr (padTo (Wr / 8) (sw'.outBytes e)), 0, strict⟩) bits₀.length = .ok s1 ∧
      (TableFnsGen.readZeta3Param e tr).run (genRImpl e) s1 = .ok (n, s2) ∧
      GenBufR.genBitPos e s2 = .ok (bits₀.length + (Spec.zetaWrapped e 3 n).length, s2) := by
  have hK : need tr Zeta.READ_BITS ≤ Wr := TrL.need_le hWt
  exact gen_roundtrip_after e hWw h8w hWw64 hWr h8r hW64 checks strict pre hpre
    (TableFnsGen.write_zeta3_param_eq e tw hn) (writeZeta3P_writes e checks tw n hn)
    (readZeta3P_reads e tr n hn) hK ((rside_zeta3P e tr).pb Wr hK)
    (TableFnsGen.read_zeta3_param_guarded e tr) (peekLe_readZeta3Param e tr hWt) hfit

theorem gen_minbin_roundtrip (x u : Nat) (hu : 1 ≤ u) (h64 : u < 2 ^ 64) (hx : x < u)
    (hfit : bits₀.length + (Spec.minimalBinary e x u).length + Ww + 5 * Wr < 2 ^ 64) :
    ∃ (sw : BufW Ww) (k : Nat) (sw' : BufW Ww) (s1 s2 : BufR Wr),
      (pre.bind fun _ => Gen.write_minimal_binary x u).run (genWImpl e)
        (BufW.new Ww checks none) = .ok ((Spec.minimalBinary e x u).length, sw) ∧
      (genWImpl e).flush sw = .ok (k, sw') ∧
      (genRImpl e).skipBits
        (BufR.new ⟨wordsOfBytes e Wr (padTo (Wr / 8) (sw'.outBytes e)), 0, strict⟩) bits₀.length = .ok s1 ∧
      (Gen.read_minimal_binary u).run (genRImpl e) s1 = .ok (x, s2) ∧
      GenBufR.genBitPos e s2 = .ok (bits₀.length + (Spec.minimalBinary e x u).length, s2) :=
  gen_roundtrip_after e hWw h8w hWw64 hWr h8r hW64 checks strict pre hpre
    (write_minimal_binary_eq' (by omega) h64 hx) (minbin_writes e checks x u hu h64 hx)
    ((minbin_reads e x u hu h64 hx).toPM 0) (Nat.zero_le _)
    ((simple_minbin h64).peekBounded Wr _ 0) (read_minimal_binary_guarded u)
    (peekLe_read_minimal_binary u) hfit

end tableOptions

def exWProg : WProg Nat :=
  .writeBits 0x2B5 10 fun a => .writeUnary 40 fun b => .flush fun c => .writeBits 1 1 fun d => .ret (a + b + c + d)

theorem exWProg_u64 : U64 exWProg := fun _ => ⟨by decide, fun _ _ _ => trivial⟩

example (e : Endian) :
    exWProg.run (genWImpl e) (BufW.new 16) = exWProg.run (BufW.impl e) (BufW.new 16) :=
  gen_wrun_eq e (by decide) exWProg _ (BufW.inv_new (by decide) false none) exWProg_u64

/-- the run is a successful one: the translated bodies compute (10 + 41 bits written, the
    flush delivers the 3 pending bits in a fourth 16-bit word, then one more bit is buffered) -/
example : ∃ s, exWProg.run (genWImpl .be) (BufW.new 16) = .ok (55, s) ∧
    s.out = [0xAD40#16, 0x0000#16, 0x0000#16, 0x2000#16] ∧ s.space = 15 :=
  ⟨_, rfl, rfl, rfl⟩

/-- `gen_wrun_agree` on a program whose `write_unary` argument is not a `u64`: the hand-written
    model debug-panics or the two runs agree -/
example : (WProg.wunary (2 ^ 64 + 5)).run (BufW.impl .le) (BufW.new 32) = .dpanic ∨
    (WProg.wunary (2 ^ 64 + 5)).run (genWImpl .le) (BufW.new 32)
      = (WProg.wunary (2 ^ 64 + 5)).run (BufW.impl .le) (BufW.new 32) :=
  gen_wrun_agree .le (by decide) _ _ (BufW.inv_new (by decide) false none)

/-- `gen_rrun_eq`: the program of Props/Reader.lean mixing every reader operation, on a reader in
    the middle of a strict 3-byte stream -/
example (e : Endian) :
    readerExProg.run (genRImpl e) (readerExS e) = readerExProg.run (BufR.impl e) (readerExS e) :=
  gen_rrun_eq e readerExProg _
    ⟨by decide, by show 5 < 2 * 8; decide, by show 3 * 8 + 4 * 8 < 2 ^ 64; decide⟩
    (PeekLe.of_peekBounded _ 0 readerExProg_bounded)

/-- a 7-bit read across the word boundary, a peek, a unary read -/
def exRProg : RProg Nat :=
  .readBits 7 fun a => .peek 9 fun
    | .ok p => .skipAfterPeek 4 (.readUnary fun u => .ret (a + p + u))
    | .error _ => .ret a

example (e : Endian) : ∃ a s', exRProg.run (genBitRImpl e) bitrExS = .ok (a, s') := by
  cases e
  · exact ⟨_, _, gen_rrun_bitr_eq .be exRProg bitrExS _ _ rfl (by decide)⟩
  · exact ⟨_, _, gen_rrun_bitr_eq .le exRProg bitrExS _ _ rfl (by decide)⟩

def exPre : WProg Nat := WProg.wbits 21 5

theorem exPre_run (e : Endian) (Ww : Nat) (checks : Bool) :
    exPre.run RefW.impl { e := e, W := Ww, checks := checks, cap := none, bits := [] }
      = .ok (5, { e := e, W := Ww, checks := checks, cap := none, bits := fieldBits e 21 5 }) := by
  cases checks <;> rfl

/-- `gen_code_write_image`: δ(1000) (through the generated δ / γ write tables) after five raw bits,
    16-bit little-endian writer -/
example : ∃ (cw : List Bool) (sw : BufW 16) (k : Nat) (sw' : BufW 16),
    (⟨.delta, 0⟩ : CodeId).codeword .le 1000 = some cw ∧
    (exPre.bind fun _ => genOwnWrite .le false ⟨.delta, 0⟩ 1000).run (genWImpl .le) (BufW.new 16 false none)
      = .ok (cw.length, sw) ∧
    (genWImpl .le).flush sw = .ok (k, sw') ∧
    sw'.outBytes .le = layout .le (fieldBits .le 21 5 ++ cw ++
      List.replicate ((16 - (fieldBits .le 21 5 ++ cw).length % 16) % 16) false) :=
  gen_code_write_image .le (by decide) (by decide) (by decide) false exPre (exPre_run .le 16 false)
    ⟨.delta, 0⟩ 1000 (by decide)

/-- `gen_code_roundtrip`: ζ₃(12345), `checks` on, 64-bit BE writer, 32-bit BE zero-extended reader -/
example : ∃ (sw : BufW 64) (k : Nat) (sw' : BufW 64) (s1 s2 : BufR 32),
    (exPre.bind fun _ => genOwnWrite .be true ⟨.zeta, 3⟩ 12345).run (genWImpl .be) (BufW.new 64 true none)
      = .ok ((Spec.zeta .be 3 12345).length, sw) ∧
    (genWImpl .be).flush sw = .ok (k, sw') ∧
    (genRImpl .be).skipBits
      (BufR.new ⟨wordsOfBytes .be 32 (padTo (32 / 8) (sw'.outBytes .be)), 0, false⟩)
      (fieldBits .be 21 5).length = .ok s1 ∧
    (genOwnRead .be ⟨.zeta, 3⟩).run (genRImpl .be) s1 = .ok (12345, s2) ∧
    GenBufR.genBitPos .be s2
      = .ok ((fieldBits .be 21 5).length + (Spec.zeta .be 3 12345).length, s2) :=
  gen_code_roundtrip .be (by decide) (by decide) (by decide) (by decide) (by decide) (fun _ => by decide)
    true false (by decide) exPre (exPre_run .be 64 true) ⟨.zeta, 3⟩ 12345 (by decide) rfl (by decide)

/-- `gen_code_roundtrip`, a table-driven reader: δ(1000) (generated δ read table off, γ read table
    on, per the generated `Params`), 16-bit LE writer, 16-bit LE strict reader -/
example : ∃ (sw : BufW 16) (k : Nat) (sw' : BufW 16) (s1 s2 : BufR 16),
    (exPre.bind fun _ => genOwnWrite .le false ⟨.delta, 0⟩ 1000).run (genWImpl .le) (BufW.new 16 false none)
      = .ok ((Spec.delta .le 1000).length, sw) ∧
    (genWImpl .le).flush sw = .ok (k, sw') ∧
    (genRImpl .le).skipBits
      (BufR.new ⟨wordsOfBytes .le 16 (padTo (16 / 8) (sw'.outBytes .le)), 0, true⟩)
      (fieldBits .le 21 5).length = .ok s1 ∧
    (genOwnRead .le ⟨.delta, 0⟩).run (genRImpl .le) s1 = .ok (1000, s2) ∧
    GenBufR.genBitPos .le s2
      = .ok ((fieldBits .le 21 5).length + (Spec.delta .le 1000).length, s2) :=
  gen_code_roundtrip .le (by decide) (by decide) (by decide) (by decide) (by decide)
    (fun h => by cases h) false true (by decide) exPre (exPre_run .le 16 false) ⟨.delta, 0⟩ 1000
    (by decide) rfl (by decide)

/-- `gen_code_roundtrip_bitr`: ω(10^6) on the image of an 8-bit BE writer, strict unbuffered reader -/
example : ∃ (sw : BufW 8) (k : Nat) (sw' : BufW 8) (s1 s2 : BitR),
    (exPre.bind fun _ => genOwnWrite .be false ⟨.omega, 0⟩ 1000000).run (genWImpl .be) (BufW.new 8 false none)
      = .ok ((Spec.omega .be 1000000).length, sw) ∧
    (genWImpl .be).flush sw = .ok (k, sw') ∧
    (genBitRImpl .be).skipBits
      { data := ⟨wordsOfBytes .be 64 (padTo 8 (sw'.outBytes .be)), 0, true⟩ }
      (fieldBits .be 21 5).length = .ok s1 ∧
    (genOwnRead .be ⟨.omega, 0⟩).run (genBitRImpl .be) s1 = .ok (1000000, s2) ∧
    genBitRBitPos .be s2
      = .ok ((fieldBits .be 21 5).length + (Spec.omega .be 1000000).length, s2) :=
  gen_code_roundtrip_bitr .be (by decide) (by decide) (by decide) false true exPre
    (exPre_run .be 8 false) ⟨.omega, 0⟩ 1000000 (by decide) rfl (by decide)

/-- `gen_code_framed`: Rice₃(77) between a 7-bit and a 13-bit field, `checks` on -/
example : GenRoundTripsFramed .le 32 16 true true (genOwnWrite .le true ⟨.rice, 3⟩ 77)
    (genOwnRead .le ⟨.rice, 3⟩) (Spec.rice .le 3 77).length 77 100 7 5000 13 :=
  gen_code_framed .le (by decide) (by decide) (by decide) (by decide) (by decide) (fun h => by cases h)
    true true 100 7 5000 13 (by decide) (by decide) (Or.inr (by decide)) (Or.inr (by decide))
    (by decide) ⟨.rice, 3⟩ 77 (by decide) rfl (by decide)

/-- `gen_gamma_roundtrip`: written without the table, read through the table (and conversely) -/
example (tw tr : Bool) : ∃ (sw : BufW 16) (k : Nat) (sw' : BufW 16) (s1 s2 : BufR 16),
    (exPre.bind fun _ => TableFnsGen.writeGammaParam .le false tw 9).run (genWImpl .le)
      (BufW.new 16 false none) = .ok ((Spec.gamma .le 9).length, sw) ∧
    (genWImpl .le).flush sw = .ok (k, sw') ∧
    (genRImpl .le).skipBits
      (BufR.new ⟨wordsOfBytes .le 16 (padTo (16 / 8) (sw'.outBytes .le)), 0, true⟩)
      (fieldBits .le 21 5).length = .ok s1 ∧
    (TableFnsGen.readGammaParam .le tr).run (genRImpl .le) s1 = .ok (9, s2) ∧
    GenBufR.genBitPos .le s2 = .ok ((fieldBits .le 21 5).length + (Spec.gamma .le 9).length, s2) :=
  gen_gamma_roundtrip .le (by decide) (by decide) (by decide) (by decide) (by decide)
    (fun h => by cases h) false true exPre (exPre_run .le 16 false) tw tr (fun _ => by decide) 9
    (by decide) (by decide)

example : ∃ (sw : BufW 8) (k : Nat) (sw' : BufW 8) (s1 s2 : BufR 8),
    (exPre.bind fun _ => Gen.write_minimal_binary 11 13).run (genWImpl .be)
      (BufW.new 8 false none) = .ok ((Spec.minimalBinary .be 11 13).length, sw) ∧
    (genWImpl .be).flush sw = .ok (k, sw') ∧
    (genRImpl .be).skipBits
      (BufR.new ⟨wordsOfBytes .be 8 (padTo (8 / 8) (sw'.outBytes .be)), 0, false⟩)
      (fieldBits .be 21 5).length = .ok s1 ∧
    (Gen.read_minimal_binary 13).run (genRImpl .be) s1 = .ok (11, s2) ∧
    GenBufR.genBitPos .be s2
      = .ok ((fieldBits .be 21 5).length + (Spec.minimalBinary .be 11 13).length, s2) :=
  gen_minbin_roundtrip .be (by decide) (by decide) (by decide) (by decide) (by decide)
    (fun _ => by decide) false false exPre (exPre_run .be 8 false) 11 13 (by decide) (by decide)
    (by decide) (by decide)


/-- the generated machines compute: the session of `Props/EndToEnd.lean` (`10101`, then the
    table-free δ(1000), 16-bit LE writer; 8-bit LE strict reader) run on the translated bodies -/
example : ∃ (sw : BufW 16) (k : Nat) (sw' : BufW 16),
    (framedW 21 5 (Gen.default_write_delta (fun _ n => Gen.default_write_gamma false n) false false 1000) 0 0).run
      (genWImpl .le) (BufW.new 16 false none) = .ok (21, sw) ∧
    (genWImpl .le).flush sw = .ok (k, sw') ∧ sw'.outBytes .le = [21, 149, 30, 0] :=
  ⟨_, _, _, rfl, rfl, rfl⟩

example : ∃ (s1 s2 : BufR 8),
    (genRImpl .le).readBits (BufR.new ⟨wordsOfBytes .le 8 (padTo (8 / 8) [21, 149, 30, 0]), 0, true⟩) 5
      = .ok (21, s1) ∧
    (Gen.default_read_delta (fun _ => Gen.default_read_gamma) false).run (genRImpl .le) s1 = .ok (1000, s2) ∧
    GenBufR.genBitPos .le s2 = .ok (21, s2) :=
  ⟨_, _, rfl, rfl, rfl⟩

end Headline
end Dsi
