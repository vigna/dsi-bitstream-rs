/-
  C14 — the counting wrappers are transparent (same results, same inner stream) and their
  counters are exact on the reference writer / reader.
-/
import Dsi.Glue.Wrappers
import Dsi.Ref
import Dsi.Codes
import Dsi.Lemmas.ProgProj
import Dsi.Lemmas.ReaderBits
import Dsi.Lemmas.Res
import Dsi.Lemmas.WriterBits
namespace Dsi

namespace SmallL
@[simp] theorem rmap_ok {α β} (f : α → β) (a : α) : Res.map f (.ok a) = .ok (f a) := rfl
@[simp] theorem rmap_err {α β} (f : α → β) (e : Err) : Res.map f (.err e : Res α) = .err e := rfl
@[simp] theorem rmap_panic {α β} (f : α → β) : Res.map f (.panic : Res α) = .panic := rfl
@[simp] theorem rmap_dpanic {α β} (f : α → β) : Res.map f (.dpanic : Res α) = .dpanic := rfl
end SmallL
open SmallL

/-- every operation of `CountBitWriter` is the inner writer's on the inner state -/
theorem CountW.impl_sim {ω : Type} (wi : WImpl ω) : WImpl.Sim (CountW.impl wi) wi fun s t => s.inner = t where
  writeBits := by rintro s _ rfl v n; exact ResRel.map_self _ fun _ => ⟨rfl, rfl⟩
  writeUnary := by rintro s _ rfl x; exact ResRel.map_self _ fun _ => ⟨rfl, rfl⟩
  flush := by rintro s _ rfl; exact ResRel.map_self _ fun _ => ⟨rfl, rfl⟩

/-- Running any writer program through `CountBitWriter` gives the same result and leaves the
    inner writer in the same state as running it on the inner writer directly. -/
theorem countw_transparent {ω α : Type} (wi : WImpl ω) (p : WProg α) (i : ω) (c : Nat) :
    (p.run (CountW.impl wi) ⟨i, c⟩).map (fun (a, s) => (a, s.inner)) = p.run wi i :=
  p.run_proj (CountW.impl_sim wi) ⟨i, c⟩

namespace SmallL

theorem refw_put_ok {w w1 : RefW} {bs : List Bool} {k r : Nat} (h : w.put bs k = .ok (r, w1)) :
    r = k ∧ w1.bits = w.bits ++ bs := by
  simp only [RefW.put] at h
  split at h
  · cases h; exact ⟨rfl, rfl⟩
  · cases h

theorem refw_writeBits_ok {w w1 : RefW} {v n r : Nat} (h : RefW.writeBits w v n = .ok (r, w1)) :
    r = n ∧ w1.bits = w.bits ++ fieldBits w.e v n ∧ w1.bits.length = w.bits.length + n := by
  simp only [RefW.writeBits] at h
  split at h
  · cases h
  · split at h
    · cases h
    · obtain ⟨hr, hb⟩ := refw_put_ok h
      exact ⟨hr, hb, by rw [hb, List.length_append, fieldBits_length]⟩

theorem refw_writeUnary_ok {w w1 : RefW} {x r : Nat} (h : RefW.writeUnary w x = .ok (r, w1)) :
    r = x + 1 ∧ w1.bits = w.bits ++ unaryBits x ∧ w1.bits.length = w.bits.length + (x + 1) := by
  simp only [RefW.writeUnary] at h
  split at h
  · cases h
  · obtain ⟨hr, hb⟩ := refw_put_ok h
    exact ⟨hr, hb, by simp [hb, unaryBits]⟩

end SmallL

theorem countw_writeBits_exact (w : RefW) (c v n r : Nat) (s' : CountW RefW)
    (h : (CountW.impl RefW.impl).writeBits ⟨w, c⟩ v n = .ok (r, s')) :
    r = n ∧ s'.bitsWritten = c + n ∧ s'.inner.bits = w.bits ++ fieldBits w.e v n ∧
    s'.inner.bits.length = w.bits.length + n := by
  obtain ⟨⟨r, w1⟩, hi, he⟩ := (Res.map_eq_ok (x := RefW.writeBits w v n)).1 h
  cases he
  obtain ⟨rfl, hb, hl⟩ := refw_writeBits_ok hi
  exact ⟨rfl, rfl, hb, hl⟩

theorem countw_writeUnary_exact (w : RefW) (c x r : Nat) (s' : CountW RefW)
    (h : (CountW.impl RefW.impl).writeUnary ⟨w, c⟩ x = .ok (r, s')) :
    r = x + 1 ∧ s'.bitsWritten = c + (x + 1) ∧ s'.inner.bits = w.bits ++ unaryBits x ∧
    s'.inner.bits.length = w.bits.length + (x + 1) := by
  obtain ⟨⟨r, w1⟩, hi, he⟩ := (Res.map_eq_ok (x := RefW.writeUnary w x)).1 h
  cases he
  obtain ⟨rfl, hb, hl⟩ := refw_writeUnary_ok hi
  exact ⟨rfl, rfl, hb, hl⟩

/-- `flush` adds nothing to the counter (the padding is not data; the pending bits were counted
    when they were written) -/
theorem countw_flush_exact (w : RefW) (c r : Nat) (s' : CountW RefW)
    (h : (CountW.impl RefW.impl).flush ⟨w, c⟩ = .ok (r, s')) :
    s'.bitsWritten = c ∧ r = w.pending ∧
    s'.inner.bits = w.bits ++ List.replicate ((w.W - w.pending) % w.W) false := by
  obtain ⟨⟨r, w1⟩, hi, he⟩ := (Res.map_eq_ok (x := RefW.flush w)).1 h
  cases he
  obtain ⟨rfl, hb⟩ := refw_put_ok hi
  exact ⟨rfl, rfl, hb⟩

/-- the number of bits the `write_bits` / `write_unary` operations of a program append to the
    reference stream when the program runs from state `w` (flush padding excluded) -/
def WProg.dataBits {α : Type} : WProg α → RefW → Nat
  | .writeBits v n k, w =>
    match RefW.writeBits w v n with
    | .ok (r, w') => (w'.bits.length - w.bits.length) + dataBits (k r) w'
    | _ => 0
  | .writeUnary x k, w =>
    match RefW.writeUnary w x with
    | .ok (r, w') => (w'.bits.length - w.bits.length) + dataBits (k r) w'
    | _ => 0
  | .flush k, w =>
    match RefW.flush w with
    | .ok (r, w') => dataBits (k r) w'
    | _ => 0
  | _, _ => 0

def WProg.flushFree {α : Type} : WProg α → Prop
  | .writeBits _ _ k => ∀ r, flushFree (k r)
  | .writeUnary _ k => ∀ r, flushFree (k r)
  | .flush _ => False
  | _ => True

/-- a counted run on the reference writer: the counter grows by `dataBits` and, as long as nothing
    is flushed, so does the stream (both operations that count return the number of bits they
    append) -/
theorem countw_dataBits {α : Type} (p : WProg α) (w : RefW) (c : Nat) {a : α} {w' : RefW} {c' : Nat}
    (h : p.run (CountW.impl RefW.impl) ⟨w, c⟩ = .ok (a, ⟨w', c'⟩)) :
    c' = c + p.dataBits w ∧ (p.flushFree → w'.bits.length = w.bits.length + p.dataBits w) := by
  induction p generalizing w c with
  | ret x => cases h; exact ⟨rfl, fun _ => rfl⟩
  | panic => cases h
  | dpanic => cases h
  | writeBits v n k ih =>
    rw [WProg.run_writeBits] at h
    obtain ⟨_, hs, h⟩ := Res.bind_eq_ok.1 h
    obtain ⟨⟨r, w1⟩, hi, rfl⟩ := (Res.map_eq_ok (x := RefW.writeBits w v n)).1 hs
    obtain ⟨hc, hl⟩ := ih r w1 (c + r) h
    obtain ⟨rfl, _, hg⟩ := refw_writeBits_ok hi
    simp only [WProg.dataBits, hi]
    exact ⟨by omega, fun hf => by have := hl (hf _); omega⟩
  | writeUnary x k ih =>
    rw [WProg.run_writeUnary] at h
    obtain ⟨_, hs, h⟩ := Res.bind_eq_ok.1 h
    obtain ⟨⟨r, w1⟩, hi, rfl⟩ := (Res.map_eq_ok (x := RefW.writeUnary w x)).1 hs
    obtain ⟨hc, hl⟩ := ih r w1 (c + r) h
    obtain ⟨rfl, _, hg⟩ := refw_writeUnary_ok hi
    simp only [WProg.dataBits, hi]
    exact ⟨by omega, fun hf => by have := hl (hf _); omega⟩
  | flush k ih =>
    rw [WProg.run_flush] at h
    obtain ⟨_, hs, h⟩ := Res.bind_eq_ok.1 h
    obtain ⟨⟨r, w1⟩, hi, rfl⟩ := (Res.map_eq_ok (x := RefW.flush w)).1 hs
    simp only [WProg.dataBits, hi]
    exact ⟨(ih r w1 c h).1, fun hf => hf.elim⟩

/-- After any program on the reference writer the counter has increased by exactly the number of
    bits its `write_bits` / `write_unary` operations appended. -/
theorem countw_exact {α : Type} (p : WProg α) (w w' : RefW) (c c' : Nat) (a : α)
    (h : p.run (CountW.impl RefW.impl) ⟨w, c⟩ = .ok (a, ⟨w', c'⟩)) :
    c' = c + p.dataBits w :=
  (countw_dataBits p w c h).1

theorem countw_inner_run {ω α : Type} (wi : WImpl ω) (p : WProg α) (i i' : ω) (c c' : Nat) (a : α)
    (h : p.run (CountW.impl wi) ⟨i, c⟩ = .ok (a, ⟨i', c'⟩)) : p.run wi i = .ok (a, i') := by
  rw [← countw_transparent wi p i c, h]; rfl

/-- For a program without `flush` the counter increase is the growth of
    the reference stream. -/
theorem countw_exact_flushFree {α : Type} (p : WProg α) (hf : p.flushFree) (w w' : RefW) (c c' : Nat) (a : α)
    (h : p.run (CountW.impl RefW.impl) ⟨w, c⟩ = .ok (a, ⟨w', c'⟩)) :
    c' + w.bits.length = c + w'.bits.length := by
  obtain ⟨h1, h2⟩ := countw_dataBits p w c h
  have := h2 hf
  omega

/-- The specialised `GammaWrite`/… implementations (`forward`) add the value the program returns:
    they agree with the generic counting whenever the program returns the number of bits it wrote
    (which the `Writes` theorems state for every code). -/
theorem countw_forward_exact (p : WProg Nat) (hf : p.flushFree) (w : RefW) (c : Nat)
    (hlen : ∀ r w', p.run RefW.impl w = .ok (r, w') → w'.bits.length = w.bits.length + r) :
    CountW.forward RefW.impl p ⟨w, c⟩ = p.run (CountW.impl RefW.impl) ⟨w, c⟩ := by
  -- `forward` recomputes the counter of the counted run from its result
  show (p.run RefW.impl w).map _ = _
  rw [← countw_transparent RefW.impl p w c, Res.map_map]
  refine Res.map_eq_self fun ⟨r, w', c'⟩ hr => ?_
  have h1 := countw_exact_flushFree p hf w w' c c' r hr
  have h2 := hlen r w' (countw_inner_run _ p w w' c c' r hr)
  have : c' = c + r := by omega
  subst this; rfl

theorem countw_forward_transparent {ω : Type} (wi : WImpl ω) (p : WProg Nat) (i : ω) (c : Nat) :
    (CountW.forward wi p ⟨i, c⟩).map (fun (a, s) => (a, s.inner)) = p.run wi i :=
  (Res.map_map _ _ _).trans (Res.map_eq_self fun _ _ => rfl)

/-- every operation of `CountBitReader` is the inner reader's on the inner state -/
theorem CountR.impl_sim {ρ : Type} (ri : RImpl ρ) : RImpl.Sim (CountR.impl ri) ri fun s t => s.inner = t where
  readBits := by rintro s _ rfl n; exact ResRel.map_self _ fun _ => ⟨rfl, rfl⟩
  peekBits := by rintro s _ rfl n _; exact ResRel.map_self _ fun _ => ⟨rfl, rfl⟩
  skipAfterPeek := by rintro s _ rfl n; rfl
  skipBits := by rintro s _ rfl n; exact ResRel.map_self _ fun _ => rfl
  readUnary := by rintro s _ rfl; exact ResRel.map_self _ fun _ => ⟨rfl, rfl⟩

/-- Running any reader program (`peek_bits` included) through `CountBitReader` gives the same
    result and leaves the inner reader in the same state. -/
theorem countr_transparent {ρ α : Type} (ri : RImpl ρ) (p : RProg α) (r : ρ) (c : Nat) :
    (p.run (CountR.impl ri) ⟨r, c⟩).map (fun (a, s) => (a, s.inner)) = p.run ri r :=
  p.run_proj (CountR.impl_sim ri) ⟨r, c⟩

theorem countr_inner_run {ρ α : Type} (ri : RImpl ρ) (p : RProg α) (r r' : ρ) (c c' : Nat) (a : α)
    (h : p.run (CountR.impl ri) ⟨r, c⟩ = .ok (a, ⟨r', c'⟩)) : p.run ri r = .ok (a, r') := by
  rw [← countr_transparent ri p r c, h]; rfl

theorem countr_readBits_exact (r : RefR) (c n v : Nat) (s' : CountR RefR)
    (h : (CountR.impl RefR.impl).readBits ⟨r, c⟩ n = .ok (v, s')) :
    s'.bitsRead = c + n ∧ s'.inner.pos = r.pos + n := by
  obtain ⟨⟨v, r'⟩, hi, he⟩ := (Res.map_eq_ok (x := RefR.readBits r n)).1 h
  cases he
  exact ⟨rfl, congrArg RefR.pos (RefR.readBits_ok hi).2⟩

theorem countr_peek_exact (r : RefR) (c n v : Nat) (s' : CountR RefR)
    (h : (CountR.impl RefR.impl).peekBits ⟨r, c⟩ n = .ok (v, s')) :
    s'.bitsRead = c ∧ s'.inner.pos = r.pos := by
  obtain ⟨⟨v, r'⟩, hi, he⟩ := (Res.map_eq_ok (x := RefR.peekBits r n)).1 h
  cases he
  exact ⟨rfl, congrArg RefR.pos (RefR.peekBits_ok hi).2⟩

theorem countr_skipAfterPeek_exact (r : RefR) (c n : Nat) :
    ((CountR.impl RefR.impl).skipAfterPeek ⟨r, c⟩ n).bitsRead = c + n ∧
    ((CountR.impl RefR.impl).skipAfterPeek ⟨r, c⟩ n).inner.pos = r.pos + n := ⟨rfl, rfl⟩

theorem countr_skipBits_exact (r : RefR) (c n : Nat) (s' : CountR RefR)
    (h : (CountR.impl RefR.impl).skipBits ⟨r, c⟩ n = .ok s') :
    s'.bitsRead = c + n ∧ s'.inner.pos = r.pos + n := by
  obtain ⟨r', hi, rfl⟩ := (Res.map_eq_ok (x := RefR.skipBits r n)).1 h
  unfold RefR.skipBits at hi
  split at hi <;> cases hi
  exact ⟨rfl, rfl⟩

theorem countr_readUnary_exact (r : RefR) (c v : Nat) (s' : CountR RefR)
    (h : (CountR.impl RefR.impl).readUnary ⟨r, c⟩ = .ok (v, s')) :
    s'.bitsRead = c + v + 1 ∧ s'.inner.pos = r.pos + v + 1 := by
  obtain ⟨⟨v, r'⟩, hi, he⟩ := (Res.map_eq_ok (x := RefR.readUnary r)).1 h
  cases he
  exact ⟨rfl, congrArg RefR.pos (RefR.readUnary_ok hi).2⟩

theorem SmallL.moved_together {b b' p p' d : Nat} (h : b' = b + d ∧ p' = p + d) :
    b' + p = b + p' ∧ p ≤ p' := by omega

theorem countr_steps : RImpl.Steps (CountR.impl RefR.impl) fun s s' =>
    s'.bitsRead + s.inner.pos = s.bitsRead + s'.inner.pos ∧ s.inner.pos ≤ s'.inner.pos where
  refl := fun _ => ⟨rfl, Nat.le_refl _⟩
  trans := fun h1 h2 => by omega
  readBits := fun h => moved_together (countr_readBits_exact _ _ _ _ _ h)
  peekBits := fun _ h => moved_together (d := 0) (countr_peek_exact _ _ _ _ _ h)
  skipAfterPeek := fun _ _ => moved_together ⟨rfl, rfl⟩
  skipBits := fun h => moved_together (countr_skipBits_exact _ _ _ _ h)
  readUnary := fun h => moved_together (d := _ + 1) (countr_readUnary_exact _ _ _ _ h)

/-- After any program on the reference reader the counter has increased by exactly the number of
    bits consumed: `c' - c = r'.pos - r.pos` (stated without truncated subtraction). -/
theorem countr_exact {α : Type} (p : RProg α) (r r' : RefR) (c c' : Nat) (a : α)
    (h : p.run (CountR.impl RefR.impl) ⟨r, c⟩ = .ok (a, ⟨r', c'⟩)) :
    c' + r.pos = c + r'.pos ∧ r.pos ≤ r'.pos :=
  p.run_steps countr_steps (RProg.Peeks.any p) h

theorem countr_exact_sub {α : Type} (p : RProg α) (r r' : RefR) (c c' : Nat) (a : α)
    (h : p.run (CountR.impl RefR.impl) ⟨r, c⟩ = .ok (a, ⟨r', c'⟩)) :
    c' - c = r'.pos - r.pos := by
  have := countr_exact p r r' c c' a h
  omega

/-- `forward` (the specialised `GammaRead`/… implementations add `len_code(value)`) is transparent -/
theorem countr_forward_transparent {ρ : Type} (ri : RImpl ρ) (p : RProg Nat) (len : Nat → Nat) (r : ρ) (c : Nat) :
    (CountR.forward ri p len ⟨r, c⟩).map (fun (a, s) => (a, s.inner)) = p.run ri r :=
  (Res.map_map _ _ _).trans (Res.map_eq_self fun _ _ => rfl)

/-- `forward` is exact (agrees with the generic counting, hence with the bits consumed) whenever
    `len v` is the number of bits `p` consumes when it returns `v`. -/
theorem countr_forward_exact (p : RProg Nat) (len : Nat → Nat) (r : RefR) (c : Nat)
    (hlen : ∀ v r', p.run RefR.impl r = .ok (v, r') → r'.pos = r.pos + len v) :
    CountR.forward RefR.impl p len ⟨r, c⟩ = p.run (CountR.impl RefR.impl) ⟨r, c⟩ := by
  show (p.run RefR.impl r).map _ = _
  rw [← countr_transparent RefR.impl p r c, Res.map_map]
  refine Res.map_eq_self fun ⟨v, r', c'⟩ hr => ?_
  have h1 := countr_exact p r r' c c' v hr
  have h2 := hlen v r' (countr_inner_run _ p r r' c c' v hr)
  have : c' = c + len v := by omega
  subst this; rfl

theorem countr_forward_counts (p : RProg Nat) (len : Nat → Nat) (r r' : RefR) (c c' v : Nat)
    (hlen : ∀ v r', p.run RefR.impl r = .ok (v, r') → r'.pos = r.pos + len v)
    (h : CountR.forward RefR.impl p len ⟨r, c⟩ = .ok (v, ⟨r', c'⟩)) :
    c' + r.pos = c + r'.pos := by
  rw [countr_forward_exact p len r c hlen] at h
  exact (countr_exact p r r' c c' v h).1

/-- γ(5) then a flush on an 8-bit big-endian reference stream: 5 bits counted, 8 bits in the stream -/
example :
    (((writeGammaDefault false 5).bind fun a => WProg.flush fun _ => .ret a).run (CountW.impl RefW.impl)
        ⟨{ e := .be, W := 8 }, 0⟩).map (fun (a, s) => (a, s.bitsWritten, s.inner.bits.length)) =
      .ok (5, 5, 8) := by rfl

example (w' : RefW) (c' a : Nat)
    (h : (writeGammaDefault true 5).run (CountW.impl RefW.impl) ⟨{ e := .le, W := 64 }, 10⟩ = .ok (a, ⟨w', c'⟩)) :
    c' = 10 + w'.bits.length := by
  have hf : (writeGammaDefault true 5).flushFree := fun _ _ => trivial
  have := countw_exact_flushFree _ hf _ _ _ _ _ h
  simpa [Nat.add_comm] using this

/-- a peek, a skip of part of what was peeked, then a γ read: the counter is the position -/
example :
    ((RProg.peek 4 fun _ => .skipAfterPeek 2 readGammaDefault).run (CountR.impl RefR.impl)
        ⟨{ e := .be, stream := [true, false, false, false, true, true, false, true] }, 0⟩).map
        (fun (a, s) => (a, s.bitsRead, s.inner.pos)) = .ok (5, 7, 7) := by rfl

example (p : RProg Nat) (r r' : RefR) (a c' : Nat)
    (h : p.run (CountR.impl RefR.impl) ⟨r, 0⟩ = .ok (a, ⟨r', c'⟩)) : c' = r'.pos - r.pos := by
  have := countr_exact_sub p r r' 0 c' a h
  simpa using this

end Dsi
