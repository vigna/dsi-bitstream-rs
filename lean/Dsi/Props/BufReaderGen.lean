/-
  The method bodies of `BufBitReader` as TRANSLATED from src/impls/buf_bit_reader.rs on every run
  (lean/Dsi/Gen/BufReaderBodies.lean, emitted by tools/translate_bufr.py) are EQUAL to the
  hand-written model (lean/Dsi/Impl/BufReader.lean) every other reader theorem is about.

  The translated functions return the Rust types (`u64` → `BitVec 64`, the peek word
  `BB<WR>` → `BitVec (2 * W)`); the hand model returns `Nat`.  The equalities are therefore
  stated through `Res.map (fun p => (p.1.toNat, p.2))` (written `natOut`).

  Hypotheses, and why they are there:
  * `0 < W` (refill, peek_bits, read_bits): `refill` asserts `BB::BITS - bits_in_buffer >= W`,
    which the hand model writes `bib ≤ W`; the two differ for `W = 0 < bib` (truncated
    subtraction).  In `read_bits` the Rust asserts `0 < n_bits ≤ W` after the word loop, the hand
    model does not; the assertions always hold when the 64 units of fuel suffice, i.e. `0 < W`.
    The fuel lemmas (`read_bits_*_fuel`, `skip_bits_fuel`) need it too: a round must consume bits.
  * `s.bib < 2 * W` (read_bits, read_unary, skip_bits): these Rust bodies start with
    `debug_assert!(self.bits_in_buffer < BB::<WR>::BITS)`, which the translation keeps (outcome
    `dpanic`) and the hand model leaves out because it is the struct invariant ("It is always
    smaller than `BB::<WR>::BITS`"); it is the first conjunct of `BufR.Rel`.
  * `s.bib + (s.back.data.length + 2 - s.back.pos) * W < 2 ^ 64` (read_unary): the Rust counts in
    `u64` (`result += WR::Word::BITS as u64`), the hand model in `Nat`; the two agree as long as
    the count cannot wrap, i.e. the remaining stream is shorter than `2^64` bits.
  * `W < 2 ^ 64` (set_bit_pos): `WR::Word::BITS as u64`.
  * `s.back.pos * W < 2 ^ 64` and `s.bib ≤ s.back.pos * W` (bit_pos): `u64` multiplication and
    subtraction against `Nat` (truncated) ones; the second is part of `BufR.Rel`.
  No hypothesis is needed for `skip_bits_after_peek`.
-/
import Dsi.Gen.BufReaderBodies
import Dsi.Props.Reader
namespace Dsi
namespace GenBufR
variable {W : Nat}

def natOut {w : Nat} {σ : Type} (x : Res (BitVec w × σ)) : Res (Nat × σ) :=
  x.map fun p => (p.1.toNat, p.2)

def genImpl (e : Endian) : RImpl (BufR W) :=
  match e with
  | .be => { readBits := fun s n => natOut (Gen.BufR.read_bits_be s n),
             peekBits := fun s n => natOut (Gen.BufR.peek_bits_be s n),
             skipAfterPeek := fun s n =>
               match Gen.BufR.skip_bits_after_peek_be s n with
               | .ok s' => s'
               | _ => s,
             skipBits := Gen.BufR.skip_bits_be,
             readUnary := fun s => natOut (Gen.BufR.read_unary_be s) }
  | .le => { readBits := fun s n => natOut (Gen.BufR.read_bits_le s n),
             peekBits := fun s n => natOut (Gen.BufR.peek_bits_le s n),
             skipAfterPeek := fun s n =>
               match Gen.BufR.skip_bits_after_peek_le s n with
               | .ok s' => s'
               | _ => s,
             skipBits := Gen.BufR.skip_bits_le,
             readUnary := fun s => natOut (Gen.BufR.read_unary_le s) }

theorem gen_refill_eq (e : Endian) (s : BufR W) (hW : 0 < W) :
    (match e with | .be => Gen.BufR.refill_be s | .le => Gen.BufR.refill_le s) = BufR.refill e s := by
  have : (match e with | .be => Gen.BufR.refill_be s | .le => Gen.BufR.refill_le s) =
      if ¬ (2 * W - s.bib ≥ W) then .dpanic else
      Res.bind s.back.readWord fun rw =>
      .ok { buffer := s.buffer ||| BufR.wordAt e rw.1 s.bib, bib := s.bib + W, back := rw.2 } := by
    cases e <;> rfl
  rw [this, BufR.refill_eq]
  by_cases h : s.bib > W
  · rw [if_pos (by omega), if_pos h]
  · rw [if_neg (by omega), if_neg h]
    cases s.back.readWord with
    | ok p => rfl
    | _ => rfl

theorem refill_le_eq (s : BufR W) (hW : 0 < W) : Gen.BufR.refill_le s = BufR.refillLE s :=
  gen_refill_eq .le s hW

theorem refill_be_eq (s : BufR W) (hW : 0 < W) : Gen.BufR.refill_be s = BufR.refillBE s :=
  gen_refill_eq .be s hW

theorem gen_peekBits_eq (e : Endian) (s : BufR W) (n : Nat) :
    (genImpl e).peekBits s n = natOut (
      if ¬ n > 0 then .dpanic else
      if ¬ n ≤ 2 * W then .dpanic else
      Res.bind (if n > s.bib then
          Res.bind (match e with | .be => Gen.BufR.refill_be s | .le => Gen.BufR.refill_le s) .ok
        else .ok s) fun s =>
      if ¬ n ≤ s.bib then .dpanic else .ok (takeB e s.buffer n, s)) := by
  cases e <;> rfl

theorem genImpl_peekBits (e : Endian) (s : BufR W) (hW : 0 < W) (n : Nat) :
    (genImpl e).peekBits s n = (BufR.impl e).peekBits s n := by
  rw [gen_peekBits_eq, BufR.peekBits_eq, gen_refill_eq e s hW]
  unfold natOut
  by_cases h0 : n = 0 ∨ n > 2 * W
  · rw [if_pos h0]
    by_cases h1 : n > 0
    · rw [if_neg (fun h => h h1), if_pos (by omega)]; rfl
    · rw [if_pos h1]; rfl
  · rw [if_neg h0, if_neg (by omega), if_neg (by omega)]
    by_cases h2 : n > s.bib
    · simp only [if_pos h2]
      cases BufR.refill e s with
      | ok s' =>
        simp only [Res.bind, Nat.not_le]
        by_cases h3 : n > s'.bib
        · simp only [if_pos h3]; rfl
        · simp only [if_neg h3]; rfl
      | _ => rfl
    · simp only [if_neg h2, Res.bind, Nat.not_le]; rfl

theorem peek_bits_le_eq (s : BufR W) (n : Nat) (hW : 0 < W) :
    natOut (Gen.BufR.peek_bits_le s n) = BufR.peekBitsLE s n :=
  genImpl_peekBits .le s hW n

theorem peek_bits_be_eq (s : BufR W) (n : Nat) (hW : 0 < W) :
    natOut (Gen.BufR.peek_bits_be s n) = BufR.peekBitsBE s n :=
  genImpl_peekBits .be s hW n

theorem skip_bits_after_peek_le_eq (s : BufR W) (n : Nat) :
    Gen.BufR.skip_bits_after_peek_le s n = .ok (BufR.skipAfterPeekLE s n) := rfl

theorem skip_bits_after_peek_be_eq (s : BufR W) (n : Nat) :
    Gen.BufR.skip_bits_after_peek_be s n = .ok (BufR.skipAfterPeekBE s n) := rfl

theorem whileN_readWordsLE (n : Nat) (buf : BitVec (2 * W)) (bib : Nat)
    (c : BitVec 64 × Nat × BufR W → Bool) (f : BitVec 64 × Nat × BufR W → Res (BitVec 64 × Nat × BufR W))
    (hc : ∀ st, c st = decide (n > W + st.2.1))
    (hf : ∀ st, f st = Res.bind st.2.2.back.readWord fun rw =>
      .ok (st.1 ||| (rw.1.setWidth 64 <<< st.2.1), st.2.1 + W, { st.2.2 with back := rw.2 })) :
    ∀ k r b (bk : MemR W), whileN k (r, b, ⟨buf, bib, bk⟩) c f =
      (BufR.readWordsLE k bk r b n).map fun p => (p.1, p.2.1, ⟨buf, bib, p.2.2⟩)
  | 0, r, b, bk => rfl
  | k + 1, r, b, bk => by
    simp only [whileN, BufR.readWordsLE, hc, hf]
    by_cases h : n > W + b
    · simp only [h, decide_true, if_true]
      show Res.bind (Res.bind bk.readWord _) _ = _
      cases bk.readWord with
      | ok p =>
        obtain ⟨w, bk'⟩ := p
        exact whileN_readWordsLE n buf bib c f hc hf k _ _ bk'
      | _ => rfl
    · simp only [h, decide_false, if_false, Bool.false_eq_true]; rfl

/-- the fuel suffices: the word loop is left with `0 < n - b' ≤ W` -/
theorem readWordsLE_bound (n : Nat) : ∀ k (bk : MemR W) r b r' b' bk',
    BufR.readWordsLE k bk r b n = .ok (r', b', bk') → b < n → n ≤ b + k * W + W →
    b' < n ∧ n ≤ W + b' := fun k bk r b _ _ _ h h1 h2 => by
  have := BufR.readWordsLE_rule (n := n) (fun _ b _ => b < n) True (fun _ _ _ _ hc _ => by omega)
    (fun _ _ _ _ _ _ _ => trivial) k bk r b h1
  rw [h] at this
  exact ⟨this.1, this.2 h2⟩

theorem read_bits_le_eq (s : BufR W) (n : Nat) (hW : 0 < W) (hb : s.bib < 2 * W) :
    natOut (Gen.BufR.read_bits_le s n) = BufR.readBitsLE s n := by
  obtain ⟨buf, bib, bk⟩ := s
  simp only at hb
  unfold natOut Gen.BufR.read_bits_le BufR.readBitsLE
  by_cases hn : n > 64
  · rw [if_pos (Nat.not_le.2 hn), if_pos hn]; rfl
  · rw [if_neg (fun h => h (Nat.le_of_not_lt hn)), if_neg hn, if_neg (fun h => h hb)]
    by_cases hf : n ≤ bib
    · rw [if_pos hf, if_pos hf]; rfl
    · rw [if_neg hf, if_neg hf]
      simp only
      rw [whileN_readWordsLE n buf bib _ _ (fun _ => rfl) (fun _ => rfl)]
      cases hl : BufR.readWordsLE 64 bk (BitVec.setWidth 64 buf) bib n with
      | ok p =>
        obtain ⟨r', b', bk'⟩ := p
        have hbd := readWordsLE_bound n 64 bk _ bib r' b' bk' hl (by omega) (by have := hW; omega)
        simp only [Res.map, Res.bind]
        rw [if_neg (by omega), if_neg (by omega)]
        cases bk'.readWord with
        | ok q =>
          obtain ⟨w, bk2⟩ := q
          simp only [BitVec.setWidth_eq]
        | _ => rfl
      | _ => rfl

theorem whileN_readWordsBE (buf : BitVec (2 * W)) (bib : Nat)
    (c : Nat × BitVec 64 × BufR W → Bool) (f : Nat × BitVec 64 × BufR W → Res (Nat × BitVec 64 × BufR W))
    (hc : ∀ st, c st = decide (st.1 > W))
    (hf : ∀ st, f st = Res.bind st.2.2.back.readWord fun rw =>
      .ok (st.1 - W, (st.2.1 <<< W) ||| rw.1.setWidth 64, { st.2.2 with back := rw.2 })) :
    ∀ k n r (bk : MemR W), whileN k (n, r, ⟨buf, bib, bk⟩) c f =
      (BufR.readWordsBE k bk r n).map fun p => (p.2.1, p.1, ⟨buf, bib, p.2.2⟩)
  | 0, n, r, bk => rfl
  | k + 1, n, r, bk => by
    simp only [whileN, BufR.readWordsBE, hc, hf]
    by_cases h : n > W
    · simp only [h, decide_true, if_true]
      show Res.bind (Res.bind bk.readWord _) _ = _
      cases bk.readWord with
      | ok p =>
        obtain ⟨w, bk'⟩ := p
        exact whileN_readWordsBE buf bib c f hc hf k _ _ bk'
      | _ => rfl
    · simp only [h, decide_false, if_false, Bool.false_eq_true]; rfl

/-- the fuel suffices: the word loop is left with `0 < n' ≤ W` -/
theorem readWordsBE_bound : ∀ k (bk : MemR W) r n r' n' bk',
    BufR.readWordsBE k bk r n = .ok (r', n', bk') → 0 < n → n ≤ k * W + W → 0 < n' ∧ n' ≤ W :=
  fun k bk r n _ _ _ h h1 h2 => by
    have := BufR.readWordsBE_rule (fun _ n _ => 0 < n) True (fun _ _ _ _ hc _ => by omega)
      (fun _ _ _ _ _ _ _ => trivial) k bk r n h1
    rw [h] at this
    exact ⟨this.1, this.2 h2⟩

theorem read_bits_be_eq (s : BufR W) (n : Nat) (hW : 0 < W) (hb : s.bib < 2 * W) :
    natOut (Gen.BufR.read_bits_be s n) = BufR.readBitsBE s n := by
  obtain ⟨buf, bib, bk⟩ := s
  simp only at hb
  unfold natOut Gen.BufR.read_bits_be BufR.readBitsBE
  by_cases hn : n > 64
  · rw [if_pos (Nat.not_le.2 hn), if_pos hn]; rfl
  · rw [if_neg (fun h => h (Nat.le_of_not_lt hn)), if_neg hn, if_neg (fun h => h hb)]
    by_cases hf : n ≤ bib
    · rw [if_pos hf, if_pos hf]; rfl
    · rw [if_neg hf, if_neg hf]
      simp only
      rw [whileN_readWordsBE buf bib _ _ (fun _ => rfl) (fun _ => rfl)]
      cases hl : BufR.readWordsBE 64 bk (BitVec.setWidth 64 (buf >>> (2 * W - 1 - bib) >>> 1)) (n - bib) with
      | ok p =>
        obtain ⟨r', n', bk'⟩ := p
        have hbd := readWordsBE_bound 64 bk _ (n - bib) r' n' bk' hl (by omega) (by have := hW; omega)
        simp only [Res.map, Res.bind]
        rw [if_neg (by omega), if_neg (by omega)]
        cases bk'.readWord with
        | ok q =>
          obtain ⟨w, bk2⟩ := q
          simp only [BitVec.setWidth_eq]
        | _ => rfl
      | _ => rfl

theorem toNat_ofNat_add (a b : Nat) (h : a + b < 2 ^ 64) :
    (BitVec.ofNat 64 a + BitVec.ofNat 64 b).toNat = a + b := by
  rw [← BitVec.ofNat_add, BitVec.toNat_ofNat, Nat.mod_eq_of_lt h]

theorem ofNat_toNat_of_lt (x : Nat) (h : x < 2 ^ 64) : (BitVec.ofNat 64 x).toNat = x := by
  rw [BitVec.toNat_ofNat, Nat.mod_eq_of_lt h]

theorem loopN_unaryWords (e : Endian) (buf : BitVec (2 * W)) (bib : Nat)
    (f : BitVec 64 × BufR W → Res (Step (BitVec 64 × BufR W) (BitVec 64 × BufR W)))
    (hf : ∀ st, f st = Res.bind st.2.back.readWord fun rw =>
      if rw.1 ≠ (0 : BitVec W) then
        .ok (Step.ret (st.1 + BitVec.ofNat 64 (zerosB e rw.1),
          ⟨BufR.unaryTail e rw.1 (zerosB e rw.1), W - zerosB e rw.1 - 1, rw.2⟩))
      else .ok (Step.next (st.1 + BitVec.ofNat 64 W, { st.2 with back := rw.2 }))) :
    ∀ k (r : Nat) (bk : MemR W), r + k * W < 2 ^ 64 →
      natOut (loopN k (BitVec.ofNat 64 r, (⟨buf, bib, bk⟩ : BufR W)) f) = BufR.unaryWords e k bk r
  | 0, r, bk, _ => by cases e <;> rfl
  | k + 1, r, bk, h => by
    rw [Nat.succ_mul] at h
    rw [BufR.unaryWords_succ]
    simp only [natOut, loopN, hf]
    show Res.map _ (Res.bind (Res.bind bk.readWord _) _) = _
    cases bk.readWord with
    | ok p =>
      obtain ⟨w, bk'⟩ := p
      simp only [Res.bind]
      by_cases hw : w ≠ 0
      · simp only [hw, if_true, Res.map, ne_eq, not_false_eq_true]
        have := zerosB_le e w
        rw [toNat_ofNat_add r _ (by omega)]
      · simp only [hw, if_false]
        rw [← BitVec.ofNat_add]
        exact loopN_unaryWords e buf bib f hf k (r + W) bk' (by omega)
    | _ => rfl

theorem loopN_unaryWordsLE (buf : BitVec (2 * W)) (bib : Nat)
    (f : BitVec 64 × BufR W → Res (Step (BitVec 64 × BufR W) (BitVec 64 × BufR W)))
    (hf : ∀ st, f st = Res.bind st.2.back.readWord fun rw =>
      if rw.1 ≠ (0 : BitVec W) then
        .ok (Step.ret (st.1 + BitVec.ofNat 64 (BufR.ctz rw.1),
          ⟨(rw.1.setWidth (2 * W) >>> BufR.ctz rw.1) >>> 1, W - BufR.ctz rw.1 - 1, rw.2⟩))
      else .ok (Step.next (st.1 + BitVec.ofNat 64 W, { st.2 with back := rw.2 }))) :
    ∀ k (r : Nat) (bk : MemR W), r + k * W < 2 ^ 64 →
      natOut (loopN k (BitVec.ofNat 64 r, (⟨buf, bib, bk⟩ : BufR W)) f) = BufR.unaryWordsLE k bk r :=
  loopN_unaryWords .le buf bib f hf

theorem read_unary_le_eq (s : BufR W) (hb : s.bib < 2 * W)
    (hfit : s.bib + (s.back.data.length + 2 - s.back.pos) * W < 2 ^ 64) :
    natOut (Gen.BufR.read_unary_le s) = BufR.readUnaryLE s := by
  obtain ⟨buf, bib, bk⟩ := s
  simp only at hb hfit
  unfold Gen.BufR.read_unary_le BufR.readUnaryLE
  rw [if_neg (fun h => h hb)]
  by_cases hz : BufR.ctz buf < bib
  · simp only [hz, if_true, natOut, Res.map]
    rw [ofNat_toNat_of_lt _ (by omega)]
  · simp only [hz, if_false]
    exact loopN_unaryWordsLE buf bib _ (fun _ => rfl) _ bib bk hfit

theorem loopN_unaryWordsBE (buf : BitVec (2 * W)) (bib : Nat)
    (f : BitVec 64 × BufR W → Res (Step (BitVec 64 × BufR W) (BitVec 64 × BufR W)))
    (hf : ∀ st, f st = Res.bind st.2.back.readWord fun rw =>
      if rw.1 ≠ (0 : BitVec W) then
        .ok (Step.ret (st.1 + BitVec.ofNat 64 (BufR.clz rw.1),
          ⟨(rw.1.setWidth (2 * W) <<< (W + BufR.clz rw.1)) <<< 1, W - BufR.clz rw.1 - 1, rw.2⟩))
      else .ok (Step.next (st.1 + BitVec.ofNat 64 W, { st.2 with back := rw.2 }))) :
    ∀ k (r : Nat) (bk : MemR W), r + k * W < 2 ^ 64 →
      natOut (loopN k (BitVec.ofNat 64 r, (⟨buf, bib, bk⟩ : BufR W)) f) = BufR.unaryWordsBE k bk r :=
  loopN_unaryWords .be buf bib f hf

theorem read_unary_be_eq (s : BufR W) (hb : s.bib < 2 * W)
    (hfit : s.bib + (s.back.data.length + 2 - s.back.pos) * W < 2 ^ 64) :
    natOut (Gen.BufR.read_unary_be s) = BufR.readUnaryBE s := by
  obtain ⟨buf, bib, bk⟩ := s
  simp only at hb hfit
  unfold Gen.BufR.read_unary_be BufR.readUnaryBE
  rw [if_neg (fun h => h hb)]
  by_cases hz : BufR.clz buf < bib
  · simp only [hz, if_true, natOut, Res.map]
    rw [ofNat_toNat_of_lt _ (by omega)]
  · simp only [hz, if_false]
    exact loopN_unaryWordsBE buf bib _ (fun _ => rfl) _ bib bk hfit

theorem whileN_skipWords (buf : BitVec (2 * W)) (bib : Nat)
    (c : Nat × BufR W → Bool) (f : Nat × BufR W → Res (Nat × BufR W))
    (hc : ∀ st, c st = decide (st.1 > W))
    (hf : ∀ st, f st = Res.bind st.2.back.readWord fun rw =>
      .ok (st.1 - W, { st.2 with back := rw.2 })) :
    ∀ k n (bk : MemR W), whileN k (n, (⟨buf, bib, bk⟩ : BufR W)) c f =
      (BufR.skipWords k bk n).map fun p => (p.1, ⟨buf, bib, p.2⟩)
  | 0, n, bk => rfl
  | k + 1, n, bk => by
    simp only [whileN, BufR.skipWords, hc, hf]
    by_cases h : n > W
    · simp only [h, decide_true, if_true]
      show Res.bind (Res.bind bk.readWord _) _ = _
      cases bk.readWord with
      | ok p =>
        obtain ⟨w, bk'⟩ := p
        exact whileN_skipWords buf bib c f hc hf k _ bk'
      | _ => rfl
    · simp only [h, decide_false, if_false, Bool.false_eq_true]; rfl

theorem gen_skipBits_eq (e : Endian) (s : BufR W) (n : Nat) :
    (genImpl e).skipBits s n =
      if ¬ s.bib < 2 * W then .dpanic else
      if n ≤ s.bib then .ok { s with bib := s.bib - n, buffer := dropB e s.buffer n } else
      Res.bind (whileN (n - s.bib) (n - s.bib, s) (fun st => decide (st.1 > W)) fun st =>
        Res.bind st.2.back.readWord fun rw => .ok (st.1 - W, { st.2 with back := rw.2 })) fun st =>
      Res.bind st.2.back.readWord fun rw =>
      .ok { buffer := BufR.skipTail e rw.1 st.1, bib := W - st.1, back := rw.2 } := by
  cases e <;> rfl

theorem genImpl_skipBits (e : Endian) (s : BufR W) (hb : s.bib < 2 * W) (n : Nat) :
    (genImpl e).skipBits s n = (BufR.impl e).skipBits s n := by
  obtain ⟨buf, bib, bk⟩ := s
  rw [gen_skipBits_eq, BufR.skipBits_eq, if_neg (fun h => h hb)]
  by_cases hf : n ≤ bib
  · rw [if_pos hf, if_pos hf]
  · rw [if_neg hf, if_neg hf]
    simp only
    rw [whileN_skipWords buf bib _ _ (fun _ => rfl) (fun _ => rfl)]
    cases BufR.skipWords (n - bib) bk (n - bib) with
    | ok p =>
      simp only [Res.map, Res.bind]
      cases p.2.readWord with
      | ok q => rfl
      | _ => rfl
    | _ => rfl

theorem skip_bits_le_eq (s : BufR W) (n : Nat) (hb : s.bib < 2 * W) :
    Gen.BufR.skip_bits_le s n = BufR.skipBitsLE s n :=
  genImpl_skipBits .le s hb n

theorem skip_bits_be_eq (s : BufR W) (n : Nat) (hb : s.bib < 2 * W) :
    Gen.BufR.skip_bits_be s n = BufR.skipBitsBE s n :=
  genImpl_skipBits .be s hb n

def genSetBitPos (e : Endian) (s : BufR W) (p : BitVec 64) : Res (BufR W) :=
  match e with
  | .be => Gen.BufR.set_bit_pos_be s p
  | .le => Gen.BufR.set_bit_pos_le s p

theorem genSetBitPos_eq (e : Endian) (s : BufR W) (p : BitVec 64) (hW : W < 2 ^ 64) :
    genSetBitPos e s p = BufR.setBitPos e s p.toNat := by
  have : genSetBitPos e s p =
      Res.bind (s.back.setWordPos (p / BitVec.ofNat 64 W).toNat) fun bk =>
      Res.bind (if (p % BitVec.ofNat 64 W).toNat ≠ 0 then
          Res.bind bk.readWord fun rw =>
          .ok { buffer := BufR.seekTail e rw.1 (p % BitVec.ofNat 64 W).toNat,
                bib := W - (p % BitVec.ofNat 64 W).toNat, back := rw.2 }
        else .ok { buffer := 0, bib := 0, back := bk }) .ok := by
    cases e <;> rfl
  rw [this, BufR.setBitPos_eq]
  simp only [BitVec.toNat_udiv, BitVec.toNat_umod, ofNat_toNat_of_lt W hW]
  cases s.back.setWordPos (p.toNat / W) with
  | ok bk1 =>
    simp only [Res.bind]
    by_cases ho : p.toNat % W ≠ 0
    · simp only [ho, if_true, ne_eq, not_false_eq_true]
      cases bk1.readWord with
      | ok q => rfl
      | _ => rfl
    · simp only [ho, if_false]
  | _ => rfl

theorem set_bit_pos_le_eq (s : BufR W) (p : BitVec 64) (hW : W < 2 ^ 64) :
    Gen.BufR.set_bit_pos_le s p = BufR.setBitPosLE s p.toNat :=
  genSetBitPos_eq .le s p hW

theorem set_bit_pos_be_eq (s : BufR W) (p : BitVec 64) (hW : W < 2 ^ 64) :
    Gen.BufR.set_bit_pos_be s p = BufR.setBitPosBE s p.toNat :=
  genSetBitPos_eq .be s p hW

theorem bit_pos_le_eq (s : BufR W) (h1 : s.back.pos * W < 2 ^ 64) (h2 : s.bib ≤ s.back.pos * W) :
    natOut (Gen.BufR.bit_pos_le s) = .ok (s.bitPos, s) := by
  show Res.ok ((BitVec.ofNat 64 s.back.pos * BitVec.ofNat 64 W - BitVec.ofNat 64 s.bib).toNat, s) = _
  rw [← BitVec.ofNat_mul, BitVec.ofNat_sub_ofNat_of_le _ _ (Nat.lt_of_le_of_lt h2 h1) h2,
    ofNat_toNat_of_lt _ (Nat.lt_of_le_of_lt (Nat.sub_le _ _) h1)]
  rfl

theorem bit_pos_be_eq (s : BufR W) (h1 : s.back.pos * W < 2 ^ 64) (h2 : s.bib ≤ s.back.pos * W) :
    natOut (Gen.BufR.bit_pos_be s) = .ok (s.bitPos, s) :=
  bit_pos_le_eq s h1 h2

/-! `whileN` leaves the loop when the fuel runs out.  Whenever a run leaves the loop because the
condition became false (or by an error), more fuel changes nothing: -/

theorem whileN_fuel_irrelevant {σ : Type} (c : σ → Bool) (f : σ → Res σ) :
    ∀ k st, (∀ st', whileN k st c f = .ok st' → c st' = false) →
      ∀ m, whileN (k + m) st c f = whileN k st c f
  | 0, st, h, m => by
    have hc := h st rfl
    cases m with
    | zero => rfl
    | succ m => simp only [whileN, hc, Bool.false_eq_true, if_false]
  | k + 1, st, h, m => by
    rw [show k + 1 + m = (k + m) + 1 by omega]
    simp only [whileN] at h ⊢
    cases hc : c st with
    | false => simp only [Bool.false_eq_true, if_false]
    | true =>
      simp only [hc, if_true] at h ⊢
      cases hf : f st with
      | ok st1 =>
        simp only [hf, Res.bind] at h ⊢
        exact whileN_fuel_irrelevant c f k st1 h m
      | _ => rfl

theorem whileN_fuel_of_map {σ τ : Type} {c : σ → Bool} {f : σ → Res σ} {k : Nat} {st : σ} {x : Res τ}
    {φ : τ → σ} (heq : whileN k st c f = x.map φ) (hx : ∀ a, x = .ok a → c (φ a) = false) (m : Nat) :
    whileN (k + m) st c f = whileN k st c f :=
  whileN_fuel_irrelevant c f k st (fun st' h => by
    rw [heq] at h
    obtain ⟨a, ha, rfl⟩ := Res.map_eq_ok.1 h
    exact hx a ha) m

/-- the 64 units of fuel of the `read_bits` word loops suffice (LE) -/
theorem read_bits_le_fuel (n : Nat) (buf : BitVec (2 * W)) (bib : Nat) (hW : 0 < W) (hn : n ≤ 64)
    (hb : bib < n) (c : BitVec 64 × Nat × BufR W → Bool)
    (f : BitVec 64 × Nat × BufR W → Res (BitVec 64 × Nat × BufR W))
    (hc : ∀ st, c st = decide (n > W + st.2.1))
    (hf : ∀ st, f st = Res.bind st.2.2.back.readWord fun rw =>
      .ok (st.1 ||| (rw.1.setWidth 64 <<< st.2.1), st.2.1 + W, { st.2.2 with back := rw.2 }))
    (r : BitVec 64) (bk : MemR W) (m : Nat) :
    whileN (64 + m) (r, bib, ⟨buf, bib, bk⟩) c f = whileN 64 (r, bib, ⟨buf, bib, bk⟩) c f :=
  whileN_fuel_of_map (whileN_readWordsLE n buf bib c f hc hf 64 r bib bk) (fun ⟨r', b', bk'⟩ hl => by
    have hbd := readWordsLE_bound n 64 bk r bib r' b' bk' hl hb (by omega)
    rw [hc]
    exact decide_eq_false (by show ¬ n > W + b'; omega)) m

theorem read_bits_be_fuel (buf : BitVec (2 * W)) (bib : Nat) (hW : 0 < W) (n : Nat) (hn : n ≤ 64)
    (h0 : 0 < n) (c : Nat × BitVec 64 × BufR W → Bool)
    (f : Nat × BitVec 64 × BufR W → Res (Nat × BitVec 64 × BufR W))
    (hc : ∀ st, c st = decide (st.1 > W))
    (hf : ∀ st, f st = Res.bind st.2.2.back.readWord fun rw =>
      .ok (st.1 - W, (st.2.1 <<< W) ||| rw.1.setWidth 64, { st.2.2 with back := rw.2 }))
    (r : BitVec 64) (bk : MemR W) (m : Nat) :
    whileN (64 + m) (n, r, ⟨buf, bib, bk⟩) c f = whileN 64 (n, r, ⟨buf, bib, bk⟩) c f :=
  whileN_fuel_of_map (whileN_readWordsBE buf bib c f hc hf 64 n r bk) (fun ⟨r', n', bk'⟩ hl => by
    have hbd := readWordsBE_bound 64 bk r n r' n' bk' hl h0 (by omega)
    rw [hc]
    exact decide_eq_false (by show ¬ n' > W; omega)) m

theorem skipWords_bound : ∀ k (bk : MemR W) n n' bk',
    BufR.skipWords k bk n = .ok (n', bk') → n ≤ k * W + W → n' ≤ W := fun k bk n _ _ h h2 => by
  have := BufR.skipWords_rule (fun _ _ => True) True (fun _ _ _ _ _ => trivial)
    (fun _ _ _ _ _ _ => trivial) k bk n trivial
  rw [h] at this
  exact this.2 h2

/-- the `n` units of fuel of the `skip_bits` word loop suffice (`0 < W`) -/
theorem skip_bits_fuel (buf : BitVec (2 * W)) (bib : Nat) (hW : 0 < W)
    (c : Nat × BufR W → Bool) (f : Nat × BufR W → Res (Nat × BufR W))
    (hc : ∀ st, c st = decide (st.1 > W))
    (hf : ∀ st, f st = Res.bind st.2.back.readWord fun rw =>
      .ok (st.1 - W, { st.2 with back := rw.2 }))
    (n : Nat) (bk : MemR W) (m : Nat) :
    whileN (n + m) (n, (⟨buf, bib, bk⟩ : BufR W)) c f = whileN n (n, ⟨buf, bib, bk⟩) c f :=
  whileN_fuel_of_map (whileN_skipWords buf bib c f hc hf n n bk) (fun ⟨n', bk'⟩ hl => by
    have hbd := skipWords_bound n bk n n' bk' hl (by
      have : n ≤ n * W := Nat.le_mul_of_pos_right n hW
      omega)
    rw [hc]
    exact decide_eq_false (Nat.not_lt.2 hbd)) m

/-! `Dsi.readBits_sim`, `Dsi.peekBits_sim`, … (lean/Dsi/Props/Reader.lean) are about the hand model;
through the equalities above they hold of the text translated from the Rust source on this run. -/

def genBitPos (e : Endian) (s : BufR W) : Res (Nat × BufR W) :=
  match e with
  | .be => natOut (Gen.BufR.bit_pos_be s)
  | .le => natOut (Gen.BufR.bit_pos_le s)

theorem genImpl_readBits (e : Endian) (s : BufR W) (hW : 0 < W) (hb : s.bib < 2 * W) (n : Nat) :
    (genImpl e).readBits s n = (BufR.impl e).readBits s n := by
  cases e
  · exact read_bits_be_eq s n hW hb
  · exact read_bits_le_eq s n hW hb

theorem genImpl_skipAfterPeek (e : Endian) (s : BufR W) (n : Nat) :
    (genImpl e).skipAfterPeek s n = (BufR.impl e).skipAfterPeek s n := by
  cases e <;> rfl

theorem genImpl_readUnary (e : Endian) (s : BufR W) (hb : s.bib < 2 * W)
    (hfit : s.bib + (s.back.data.length + 2 - s.back.pos) * W < 2 ^ 64) :
    (genImpl e).readUnary s = (BufR.impl e).readUnary s := by
  cases e
  · exact read_unary_be_eq s hb hfit
  · exact read_unary_le_eq s hb hfit

theorem gen_readBits_sim {e : Endian} (hW64 : e = .be → W ≤ 64) {s : BufR W} {r : RefR}
    (h : BufR.Rel e s r) (n : Nat) :
    ResRel (fun (a, s') (b, r') => a = b ∧ BufR.Rel e s' r')
      ((genImpl e).readBits s n) (RefR.readBits r n) := by
  rw [genImpl_readBits e s (Rel.pos_W h) h.1]
  exact readBits_sim hW64 h n

theorem gen_peekBits_sim {e : Endian} {s : BufR W} {r : RefR} (h : BufR.Rel e s r) {n : Nat}
    (hn : n ≤ W) :
    ResRel (fun (a, s') (b, r') => a = b ∧ BufR.Rel e s' r')
      ((genImpl e).peekBits s n) (RefR.peekBits r n) := by
  rw [genImpl_peekBits e s (Rel.pos_W h)]
  exact peekBits_sim h hn

theorem gen_skipBits_sim {e : Endian} {s : BufR W} {r : RefR} (h : BufR.Rel e s r) (n : Nat) :
    ResRel (fun s' r' => BufR.Rel e s' r') ((genImpl e).skipBits s n) (RefR.skipBits r n) := by
  rw [genImpl_skipBits e s h.1]
  exact skipBits_sim h n

/-- `hfit`: the unread part of the stream is shorter than `2^64` bits (the Rust counts in `u64`) -/
theorem gen_readUnary_sim {e : Endian} {s : BufR W} {r : RefR} (h : BufR.Rel e s r)
    (hfit : s.bib + (s.back.data.length + 2 - s.back.pos) * W < 2 ^ 64) :
    ResRel (fun (a, s') (b, r') => a = b ∧ BufR.Rel e s' r')
      ((genImpl e).readUnary s) (RefR.readUnary r) := by
  rw [genImpl_readUnary e s h.1 hfit]
  exact readUnary_sim h

theorem gen_setBitPos_sim {e : Endian} {s : BufR W} {r : RefR} (h : BufR.Rel e s r)
    (hW : W < 2 ^ 64) {p : BitVec 64} (hp : p.toNat ≤ r.stream.length) :
    ResRel (fun s' r' => BufR.Rel e s' r') (genSetBitPos e s p) (.ok (r.seek p.toNat)) := by
  rw [genSetBitPos_eq e s p hW]
  exact setBitPos_sim h hp

/-- `hfit`: the backend position in bits fits a `u64` -/
theorem gen_bitPos_eq {e : Endian} {s : BufR W} {r : RefR} (h : BufR.Rel e s r)
    (hfit : s.back.pos * W < 2 ^ 64) : genBitPos e s = .ok (r.pos, s) := by
  have h2 : s.bib ≤ s.back.pos * W := by have := h.2.2.2.2.2.2.1; omega
  rw [← bitPos_eq h]
  cases e
  · exact bit_pos_be_eq s hfit h2
  · exact bit_pos_le_eq s hfit h2

end GenBufR
end Dsi
