/-
  With the sizes of the shipped tables (`gammaRTab_sizes`, … of Dsi/Props/C05.lean) the generated
  `read_table_be/le` followed by the caller's fallback *is* `readTable (xRTab e) fb`, and
  `len_table_be/le` *is* `read_table_be/le` with the value dropped.
-/
import Dsi.Props.TableFnsGen
import Dsi.Props.C05
namespace Dsi
namespace TableFnsGen
open Gen

theorem gamma_rtab_sizes (e : Endian) : (gammaRTab e).vals.size = (gammaRTab e).lens.size :=
  (gammaRTab_sizes e).1.trans (gammaRTab_sizes e).2.symm
theorem delta_rtab_sizes (e : Endian) : (deltaRTab e).vals.size = (deltaRTab e).lens.size :=
  (deltaRTab_sizes e).1.trans (deltaRTab_sizes e).2.symm
theorem zeta_rtab_sizes (e : Endian) : (zetaRTab e).vals.size = (zetaRTab e).lens.size :=
  (zetaRTab_sizes e).1.trans (zetaRTab_sizes e).2.symm

theorem gamma_read_table_eq' (e : Endian) (fb : RProg Nat) :
    (gammaReadTable e).bind (orElseR fb) = readTable (gammaRTab e) fb :=
  gamma_read_table_eq e (gamma_rtab_sizes e) fb
theorem delta_read_table_eq' (e : Endian) (fb : RProg Nat) :
    (deltaReadTable e).bind (orElseR fb) = readTable (deltaRTab e) fb :=
  delta_read_table_eq e (delta_rtab_sizes e) fb
theorem zeta_read_table_eq' (e : Endian) (fb : RProg Nat) :
    (zetaReadTable e).bind (orElseR fb) = readTable (zetaRTab e) fb :=
  zeta_read_table_eq e (zeta_rtab_sizes e) fb

theorem gamma_len_table_eq' (e : Endian) :
    gammaLenTable e = (gammaReadTable e).bind fun o => .ret (o.map Prod.snd) :=
  gamma_len_table_eq e (gamma_rtab_sizes e)
theorem delta_len_table_eq' (e : Endian) :
    deltaLenTable e = (deltaReadTable e).bind fun o => .ret (o.map Prod.snd) :=
  delta_len_table_eq e (delta_rtab_sizes e)
theorem zeta_len_table_eq' (e : Endian) :
    zetaLenTable e = (zetaReadTable e).bind fun o => .ret (o.map Prod.snd) :=
  zeta_len_table_eq e (zeta_rtab_sizes e)

end TableFnsGen
end Dsi
