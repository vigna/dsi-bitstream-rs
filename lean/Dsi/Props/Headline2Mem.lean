/-
  Headline theorem for C13 (in-memory word streams behave as an array with a cursor), stated over
  the method bodies regenerated from src/impls/mem_word_reader.rs / mem_word_writer.rs on this run
  (lean/Dsi/Gen/MemWordBodies.lean) only.

  * `genStepR strict`, `genStepW growable`: one call (`read_word`, `write_word`, `set_word_pos`,
    `word_pos`, `len`) on the *generated* bodies of the stream of that kind; as in the Rust a call
    that returns an error leaves the stream as it was;
  * `ArrCur` (lean/Dsi/Impl/MemWordSpec.lean): the specification "array + cursor";
  * `absR` / `absW`: the words of the stream as numbers and its cursor (not generated: it is the
    observation `into_inner()` / `word_pos()` gives of the stream);
  * `runMem`: run a list of calls, collecting the answers.

  `gen_memr_ops_refine`, `gen_memw_ops_refine`: ANY sequence of calls on the generated streams gives
  the answers of the specification and ends in the specification's final state.

  Hypotheses (none in the hand-written `memr_ops_refine` / `memw_ops_refine`), and why: positions
  and lengths are `usize` in the Rust and reported as `u64`; the model counts in `Nat`.  `B` bounds
  the cursor, the length and every requested position, and `B + ops.length < 2^64` (a sequence of
  `k` calls moves the cursor / grows the vector by at most `k`).
-/
import Dsi.Props.MemWordGen
import Dsi.Props.C13
namespace Dsi
namespace Headline2
variable {W : Nat}

def ansV {σ : Type} (m : σ) : Res (Nat × σ) → MemAns × σ
  | .ok (v, m') => (.ok (some v), m')
  | .err e => (.err e, m)
  | .panic => (.panic, m)
  | .dpanic => (.dpanic, m)

def ansU {σ : Type} (m : σ) : Res σ → MemAns × σ
  | .ok m' => (.ok none, m')
  | .err e => (.err e, m)
  | .panic => (.panic, m)
  | .dpanic => (.dpanic, m)

/-- one call on the generated `MemWordReader` (`strict = false`: zero-extended) or
    `MemWordReaderStrict` (`strict = true`); the readers have no `write_word` / `len` -/
def genStepR (strict : Bool) (m : MemR W) : MemOp W → MemAns × MemR W
  | .read => ansV m (GenMem.natOut (if strict then Gen.MemR.read_word_strict m else Gen.MemR.read_word_inf m))
  | .seek p => ansU m (if strict then Gen.MemR.set_word_pos_strict m (BitVec.ofNat 64 p)
      else Gen.MemR.set_word_pos_inf m (BitVec.ofNat 64 p))
  | .pos => ansV m (GenMem.natOut (if strict then Gen.MemR.word_pos_strict m else Gen.MemR.word_pos_inf m))
  | .write _ => (.panic, m)
  | .len => (.panic, m)

/-- one call on the generated `MemWordWriterVec` (`growable = true`) or `MemWordWriterSlice` -/
def genStepW (growable : Bool) (m : MemW W) : MemOp W → MemAns × MemW W
  | .read => ansV m (GenMem.natOut (if growable then Gen.MemW.read_word_vec m else Gen.MemW.read_word_slice m))
  | .write w => ansU m (if growable then Gen.MemW.write_word_vec m w else Gen.MemW.write_word_slice m w)
  | .seek p => ansU m (if growable then Gen.MemW.set_word_pos_vec m (BitVec.ofNat 64 p)
      else Gen.MemW.set_word_pos_slice m (BitVec.ofNat 64 p))
  | .pos => ansV m (GenMem.natOut (if growable then Gen.MemW.word_pos_vec m else Gen.MemW.word_pos_slice m))
  | .len => (.ok (some (if growable then Gen.MemW.len_vec m else Gen.MemW.len_slice m)), m)

def SeeksLe (B : Nat) (ops : List (MemOp W)) : Prop := ∀ p, MemOp.seek p ∈ ops → p ≤ B

theorem SeeksLe.tail {B : Nat} {op : MemOp W} {ops : List (MemOp W)} (h : SeeksLe B (op :: ops)) :
    SeeksLe (B + 1) ops := fun p hp => Nat.le_succ_of_le (h p (List.mem_cons_of_mem _ hp))

theorem genStepR_eq (m : MemR W) (op : MemOp W) (hop : op.forReader = true) {B : Nat}
    (hp : m.pos ≤ B) (hl : m.data.length ≤ B) (hs : ∀ p, op = .seek p → p ≤ B) (hB : B < 2 ^ 64) :
    genStepR m.strict m op = m.step op := by
  cases op with
  | read =>
    have : (if m.strict then Gen.MemR.read_word_strict m else Gen.MemR.read_word_inf m) = m.readWord := by
      cases h : m.strict
      · exact GenMem.read_word_inf_eq m h
      · exact GenMem.read_word_strict_eq m h
    simp only [genStepR, MemR.step, this]
    cases m.readWord <;> rfl
  | seek p =>
    have : (if m.strict then Gen.MemR.set_word_pos_strict m (BitVec.ofNat 64 p)
        else Gen.MemR.set_word_pos_inf m (BitVec.ofNat 64 p)) = m.setWordPos p := by
      have hp64 := GenMem.ofNat64_toNat p (Nat.lt_of_le_of_lt (hs p rfl) hB)
      cases h : m.strict
      · exact (GenMem.set_word_pos_inf_eq m _ h).trans (congrArg m.setWordPos hp64)
      · exact (GenMem.set_word_pos_strict_eq m _ h (Nat.lt_of_le_of_lt hl hB)).trans (congrArg m.setWordPos hp64)
    simp only [genStepR, MemR.step, this]
    cases m.setWordPos p <;> rfl
  | pos =>
    have : GenMem.natOut (if m.strict then Gen.MemR.word_pos_strict m else Gen.MemR.word_pos_inf m)
        = .ok (m.wordPos, m) := by
      cases m.strict
      · exact GenMem.word_pos_inf_eq m (Nat.lt_of_le_of_lt hp hB)
      · exact GenMem.word_pos_strict_eq m (Nat.lt_of_le_of_lt hp hB)
    simp only [genStepR, MemR.step, this]; rfl
  | write w => cases hop
  | len => cases hop

theorem genStepW_eq (m : MemW W) (op : MemOp W) {B : Nat}
    (hp : m.pos ≤ B) (hl : m.data.length ≤ B) (hs : ∀ p, op = .seek p → p ≤ B) (hB : B < 2 ^ 64) :
    genStepW m.growable m op = m.step op := by
  cases op with
  | read =>
    have : (if m.growable then Gen.MemW.read_word_vec m else Gen.MemW.read_word_slice m) = m.readWord := by
      cases m.growable
      · exact GenMem.read_word_slice_eq m
      · exact GenMem.read_word_vec_eq m
    simp only [genStepW, MemW.step, this]
    cases m.readWord <;> rfl
  | write w =>
    have : (if m.growable then Gen.MemW.write_word_vec m w else Gen.MemW.write_word_slice m w)
        = m.writeWord w := by
      cases h : m.growable
      · exact GenMem.write_word_slice_eq m w h
      · exact GenMem.write_word_vec_eq m w h
    simp only [genStepW, MemW.step, this]
    cases m.writeWord w <;> rfl
  | seek p =>
    have : (if m.growable then Gen.MemW.set_word_pos_vec m (BitVec.ofNat 64 p)
        else Gen.MemW.set_word_pos_slice m (BitVec.ofNat 64 p)) = m.setWordPos p := by
      have hp64 := GenMem.ofNat64_toNat p (Nat.lt_of_le_of_lt (hs p rfl) hB)
      cases m.growable
      · exact (GenMem.set_word_pos_slice_eq m _ (Nat.lt_of_le_of_lt hl hB)).trans (congrArg m.setWordPos hp64)
      · exact (GenMem.set_word_pos_vec_eq m _ (Nat.lt_of_le_of_lt hl hB)).trans (congrArg m.setWordPos hp64)
    simp only [genStepW, MemW.step, this]
    cases m.setWordPos p <;> rfl
  | pos =>
    have : GenMem.natOut (if m.growable then Gen.MemW.word_pos_vec m else Gen.MemW.word_pos_slice m)
        = .ok (m.wordPos, m) := by
      cases m.growable
      · exact GenMem.word_pos_slice_eq m (Nat.lt_of_le_of_lt hp hB)
      · exact GenMem.word_pos_vec_eq m (Nat.lt_of_le_of_lt hp hB)
    simp only [genStepW, MemW.step, this]; rfl
  | len =>
    simp only [genStepW, MemW.step]
    cases m.growable <;> rfl

/-! ### what one call does to the kind, the cursor and the length: read off the specification -/

theorem arrCur_step_bound (a : ArrCur) (op : MemOp W) {B : Nat} (hc : a.cur ≤ B)
    (hl : a.arr.length ≤ B) (hs : ∀ p, op = .seek p → p ≤ B) :
    (a.step op).2.kind = a.kind ∧ (a.step op).2.cur ≤ B + 1 ∧ (a.step op).2.arr.length ≤ B + 1 := by
  obtain ⟨k, arr, cur⟩ := a
  have keep : k = k ∧ cur ≤ B + 1 ∧ arr.length ≤ B + 1 :=
    ⟨rfl, Nat.le_succ_of_le hc, Nat.le_succ_of_le hl⟩
  have adv : k = k ∧ cur + 1 ≤ B + 1 ∧ arr.length ≤ B + 1 :=
    ⟨rfl, Nat.succ_le_succ hc, Nat.le_succ_of_le hl⟩
  cases op with
  | read =>
    simp only [ArrCur.step, ArrCur.read, ArrCur.under]
    cases arr[cur]? with
    | some w => exact adv
    | none =>
      cases k
      case readerZeroExt => exact adv
      all_goals exact keep
  | write w =>
    simp only [ArrCur.step, ArrCur.write]
    by_cases hlt : cur < arr.length
    · rw [if_pos hlt]
      exact ⟨rfl, Nat.succ_le_succ hc, by rw [List.length_set]; exact Nat.le_succ_of_le hl⟩
    · rw [if_neg hlt]
      have hlen : (arr ++ List.replicate (cur - arr.length) 0 ++ [w.toNat]).length ≤ B + 1 := by
        rw [List.length_append, List.length_append, List.length_replicate, List.length_singleton,
          Nat.add_sub_cancel' (Nat.le_of_not_lt hlt)]
        exact Nat.succ_le_succ hc
      cases k
      case writerVec => exact ⟨rfl, Nat.succ_le_succ hc, hlen⟩
      all_goals exact keep
  | seek p =>
    have seeked : k = k ∧ p ≤ B + 1 ∧ arr.length ≤ B + 1 :=
      ⟨rfl, Nat.le_succ_of_le (hs p rfl), Nat.le_succ_of_le hl⟩
    simp only [ArrCur.step, ArrCur.seek]
    cases k
    case readerZeroExt => exact seeked
    all_goals
      by_cases hp : p ≤ arr.length
      · rw [if_pos hp]; exact seeked
      · rw [if_neg hp]; exact keep
  | pos => exact keep
  | len => exact keep

theorem memr_step_frame (m : MemR W) (op : MemOp W) (hop : op.forReader = true) {B : Nat}
    (hp : m.pos ≤ B) (hl : m.data.length ≤ B) (hs : ∀ p, op = .seek p → p ≤ B) :
    (m.step op).2.strict = m.strict ∧ (m.step op).2.pos ≤ B + 1 ∧ (m.step op).2.data.length ≤ B + 1 := by
  have hb := arrCur_step_bound (absR m) op hp (by rw [absR, List.length_map]; exact hl) hs
  rw [← (memr_step_refines m op hop).2] at hb
  refine ⟨?_, hb.2.1, by rw [← List.length_map (f := BitVec.toNat)]; exact hb.2.2⟩
  have hk := hb.1
  simp only [absR] at hk
  cases h1 : (m.step op).2.strict <;> cases h2 : m.strict <;> rw [h1, h2] at hk <;>
    first | rfl | cases hk

theorem memw_step_frame (m : MemW W) (op : MemOp W) {B : Nat} (hp : m.pos ≤ B) (hl : m.data.length ≤ B)
    (hs : ∀ p, op = .seek p → p ≤ B) :
    (m.step op).2.growable = m.growable ∧ (m.step op).2.pos ≤ B + 1 ∧ (m.step op).2.data.length ≤ B + 1 := by
  have hb := arrCur_step_bound (absW m) op hp (by rw [absW, List.length_map]; exact hl) hs
  rw [← (memw_step_refines m op).2] at hb
  refine ⟨?_, hb.2.1, by rw [← List.length_map (f := BitVec.toNat)]; exact hb.2.2⟩
  have hk := hb.1
  simp only [absW] at hk
  cases h1 : (m.step op).2.growable <;> cases h2 : m.growable <;> rw [h1, h2] at hk <;>
    first | rfl | cases hk

theorem gen_memr_run_eq (strict : Bool) : ∀ (ops : List (MemOp W)) (m : MemR W) (B : Nat),
    m.strict = strict → (∀ op ∈ ops, op.forReader = true) → m.pos ≤ B → m.data.length ≤ B →
    SeeksLe B ops → B + ops.length < 2 ^ 64 →
    runMem (genStepR strict) m ops = runMem MemR.step m ops
  | [], m, B, _, _, _, _, _, _ => rfl
  | op :: ops, m, B, hs, hops, hp, hl, hsk, hB => by
    simp only [List.length_cons] at hB
    have hsk1 : ∀ p, op = .seek p → p ≤ B := fun p h => hsk p (by rw [h]; exact List.mem_cons_self)
    have h1 : genStepR strict m op = m.step op := by
      rw [← hs]; exact genStepR_eq m op (hops op List.mem_cons_self) hp hl hsk1
        (Nat.lt_of_le_of_lt (Nat.le_add_right _ _) hB)
    obtain ⟨f1, f2, f3⟩ := memr_step_frame m op (hops op List.mem_cons_self) hp hl hsk1
    have ih := gen_memr_run_eq strict ops (m.step op).2 (B + 1) (by rw [f1, hs])
      (fun o ho => hops o (List.mem_cons_of_mem _ ho)) f2 f3 hsk.tail
      (by rwa [Nat.add_assoc, Nat.add_comm 1])
    simp only [runMem, h1, ih]

theorem gen_memw_run_eq (growable : Bool) : ∀ (ops : List (MemOp W)) (m : MemW W) (B : Nat),
    m.growable = growable → m.pos ≤ B → m.data.length ≤ B →
    SeeksLe B ops → B + ops.length < 2 ^ 64 →
    runMem (genStepW growable) m ops = runMem MemW.step m ops
  | [], m, B, _, _, _, _, _ => rfl
  | op :: ops, m, B, hs, hp, hl, hsk, hB => by
    simp only [List.length_cons] at hB
    have hsk1 : ∀ p, op = .seek p → p ≤ B := fun p h => hsk p (by rw [h]; exact List.mem_cons_self)
    have h1 : genStepW growable m op = m.step op := by
      rw [← hs]; exact genStepW_eq m op hp hl hsk1 (Nat.lt_of_le_of_lt (Nat.le_add_right _ _) hB)
    obtain ⟨f1, f2, f3⟩ := memw_step_frame m op hp hl hsk1
    have ih := gen_memw_run_eq growable ops (m.step op).2 (B + 1) (by rw [f1, hs]) f2 f3 hsk.tail
      (by rwa [Nat.add_assoc, Nat.add_comm 1])
    simp only [runMem, h1, ih]

/-- **C13, readers, generated bodies.**  Any sequence of `read_word` / `set_word_pos` / `word_pos`
    calls on the generated `MemWordReader` (zero-extended or strict) answers as the specification
    "array + cursor" does, and ends in the specification's final state. -/
theorem gen_memr_ops_refine (strict : Bool) (m : MemR W) (hs : m.strict = strict) (ops : List (MemOp W))
    (hops : ∀ op ∈ ops, op.forReader = true) (B : Nat) (hp : m.pos ≤ B) (hl : m.data.length ≤ B)
    (hsk : SeeksLe B ops) (hB : B + ops.length < 2 ^ 64) :
    (runMem (genStepR strict) m ops).1 = (runMem ArrCur.step (absR m) ops).1 ∧
    absR (runMem (genStepR strict) m ops).2 = (runMem ArrCur.step (absR m) ops).2 := by
  rw [gen_memr_run_eq strict ops m B hs hops hp hl hsk hB]
  exact memr_ops_refine m ops hops

/-- **C13, writers, generated bodies.**  Any sequence of `read_word` / `write_word` /
    `set_word_pos` / `word_pos` / `len` calls on the generated `MemWordWriterVec` /
    `MemWordWriterSlice` answers as the specification does, and ends in its final state. -/
theorem gen_memw_ops_refine (growable : Bool) (m : MemW W) (hg : m.growable = growable)
    (ops : List (MemOp W)) (B : Nat) (hp : m.pos ≤ B) (hl : m.data.length ≤ B)
    (hsk : SeeksLe B ops) (hB : B + ops.length < 2 ^ 64) :
    (runMem (genStepW growable) m ops).1 = (runMem ArrCur.step (absW m) ops).1 ∧
    absW (runMem (genStepW growable) m ops).2 = (runMem ArrCur.step (absW m) ops).2 := by
  rw [gen_memw_run_eq growable ops m B hg hp hl hsk hB]
  exact memw_ops_refine m ops

/-- strict reader over `[7, 9]`: read, read, read (error, cursor stays), seek beyond the end
    (rejected), position, seek 1, read -/
example : (runMem (genStepR true) ({ data := [7#8, 9#8], strict := true } : MemR 8)
      [.read, .read, .read, .seek 3, .pos, .seek 1, .read]).1
    = [.ok (some 7), .ok (some 9), .err .eof, .err .eof, .ok (some 2), .ok none, .ok (some 9)] := rfl

example : (runMem (genStepR true) ({ data := [7#8, 9#8], strict := true } : MemR 8)
      [.read, .read, .read, .seek 3, .pos, .seek 1, .read]).1
    = (runMem ArrCur.step (absR ({ data := [7#8, 9#8], strict := true } : MemR 8))
      ([.read, .read, .read, .seek 3, .pos, .seek 1, .read] : List (MemOp 8))).1 :=
  (gen_memr_ops_refine true _ rfl _ (by decide) 3 (by decide) (by decide)
    (by intro p hp; simp at hp; omega) (by decide)).1

/-- zero-extended reader: zeros beyond the end, any position accepted -/
example : (runMem (genStepR false) ({ data := [7#8], strict := false } : MemR 8)
      [.seek 5, .read, .pos]).1 = [.ok none, .ok (some 0), .ok (some 6)] := rfl

/-- vector writer: a write at the end grows the vector; slice writer: an error, cursor unchanged -/
example : (runMem (genStepW true) ({ data := [1#8], growable := true } : MemW 8)
      [.seek 1, .write 5#8, .len, .seek 0, .read, .pos]).1
    = [.ok none, .ok none, .ok (some 2), .ok none, .ok (some 1), .ok (some 1)] := rfl

example : (runMem (genStepW false) ({ data := [1#8], growable := false } : MemW 8)
      [.seek 1, .write 5#8, .pos, .len]).1 = [.ok none, .err .eof, .ok (some 1), .ok (some 1)] := rfl

example (ops : List (MemOp 8)) (h1 : SeeksLe 1000 ops) (h2 : ops.length < 1000) :
    (runMem (genStepW true) ({ data := [1#8], growable := true } : MemW 8) ops).1
      = (runMem ArrCur.step (absW ({ data := [1#8], growable := true } : MemW 8)) ops).1 :=
  (gen_memw_ops_refine true _ rfl ops 1000 (by decide) (by decide) h1 (by omega)).1

end Headline2
end Dsi
