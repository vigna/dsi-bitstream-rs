/-
  The generated VByte readers / writers over bit streams (lean/Dsi/Gen/VByteBodies.lean, produced
  by tools/translate_codes2.py from src/codes/vbyte.rs on every run) against the hand-written
  programs `readVByteBe/Le`, `writeVByteBe/Le` of Dsi/Codes.lean.

  * readers: `Guarded` — the hand-written loops are the generated ones plus the overflow panic
    points (`value + 1`, `shift ≥ 64`, `result + ..`), for every bound `fuel` on the bytes followed;
  * writers: equal for every u64 argument (the fixed 10-byte buffer filled from the end holds
    exactly `vbyteBeBytes v`; the byte count times 8 is what `writeBytesP` adds up).
-/
import Dsi.Codes
import Dsi.Gen.VByteBodies
import Dsi.Props.CodeBodiesGen
import Dsi.Lemmas.CodesBVByteBits
namespace Dsi
namespace VByteGen
open Gen CodeBodiesGen

theorem and127 (b : Nat) : b &&& 127 = b % 128 := Nat.and_two_pow_sub_one_eq_mod b 7
theorem shr7 (b : Nat) : b >>> 7 = b / 128 := by rw [Nat.shiftRight_eq_div_pow]
theorem low7_u8 (b : Nat) : (b &&& 127) % 256 = b % 128 := by
  rw [and127]; exact Nat.mod_eq_of_lt (Nat.lt_trans (Nat.mod_lt _ (by decide)) (by decide))

/-- `(value << 7) | (byte & 0x7F)` on a u64 -/
theorem shl7_or (x b : Nat) : ((x <<< 7) % 2 ^ 64) ||| (b % 128) = shl64 x 7 + b % 128 := by
  have h : (x <<< 7) % 2 ^ 64 = (x % 2 ^ 57) <<< 7 := by
    rw [Nat.shiftLeft_eq, Nat.shiftLeft_eq]; exact Nat.mul_mod_mul_right (2 ^ 7) x (2 ^ 57)
  rw [shl64, ← Nat.shiftLeft_eq, h]
  exact (Nat.shiftLeft_add_eq_or_of_lt (Nat.mod_lt _ (by decide)) _).symm

/-- `0x80 | low7` on a u8 -/
theorem or128 {y : Nat} (hy : y < 128) : 128 ||| y = 128 + y := by
  have := Nat.two_pow_add_eq_or_of_lt (i := 7) (b := y) hy 1
  simpa using this.symm
theorem or128' {y : Nat} (hy : y < 128) : y ||| 128 = y + 128 := by
  rw [Nat.or_comm, or128 hy, Nat.add_comm]

theorem shl_mod (x s : Nat) : (x <<< s) % 2 ^ 64 = shl64 x s := by rw [shl64, Nat.shiftLeft_eq]

theorem read_vbyte_be_loop_guarded (fuel : Nat) : ∀ byte value,
    Guarded (vbyteBeReadLoop fuel value byte)
      (Gen.read_vbyte_be_while1 fuel byte value fun _ value => .ret value) := by
  induction fuel with
  | zero => intro _ _; exact Guarded.dpanic _
  | succ fuel ih =>
    intro byte value
    rw [CodesB.beRead_succ, Gen.read_vbyte_be_while1, shr7]
    by_cases hb : byte / 128 = 0
    · rw [if_pos hb, if_neg (not_not_intro hb)]; exact Guarded.refl _
    · rw [if_neg hb, if_pos hb]
      refine Guarded.guard fun _ => Guarded.readBits _ fun b _ => ?_
      rw [and127, shl7_or]
      exact ih b _

theorem read_vbyte_be_guarded (fuel : Nat) : Guarded (readVByteBe fuel) (Gen.read_vbyte_be fuel) := by
  unfold readVByteBe Gen.read_vbyte_be
  refine Guarded.readBits _ fun b _ => ?_
  rw [and127]
  exact read_vbyte_be_loop_guarded fuel b _

theorem read_vbyte_le_loop_guarded (fuel : Nat) : ∀ result shift,
    Guarded (vbyteLeReadLoop fuel result shift)
      (Gen.read_vbyte_le_loop1 fuel result shift fun result _ => .ret result) := by
  induction fuel with
  | zero => intro _ _; exact Guarded.dpanic _
  | succ fuel ih =>
    intro result shift
    rw [CodesB.leRead_succ, Gen.read_vbyte_le_loop1]
    refine Guarded.guard fun _ => Guarded.readBits _ fun b _ => ?_
    simp only [and127, shr7]
    rw [shl_mod]
    refine Guarded.guard fun _ => ?_
    by_cases hb : b / 128 = 0
    · rw [if_pos hb, if_pos hb]; exact Guarded.refl _
    rw [if_neg hb, if_neg hb]
    refine Guarded.guard fun h7 => ?_
    rw [one_shl_mod (Nat.lt_of_not_le (not_or.1 h7).1)]
    exact ih _ _

theorem read_vbyte_le_guarded (fuel : Nat) : Guarded (readVByteLe fuel) (Gen.read_vbyte_le fuel) := by
  unfold readVByteLe Gen.read_vbyte_le
  exact read_vbyte_le_loop_guarded fuel 0 0

theorem wbind_assoc {α β γ : Type} (p : WProg α) (f : α → WProg β) (g : β → WProg γ) :
    (p.bind f).bind g = p.bind fun a => (f a).bind g := by
  induction p with
  | ret a => rfl
  | panic => rfl
  | dpanic => rfl
  | writeBits v n k ih => exact congrArg (WProg.writeBits v n) (funext ih)
  | writeUnary x k ih => exact congrArg (WProg.writeUnary x) (funext ih)
  | flush k ih => exact congrArg WProg.flush (funext ih)

theorem wbind_ret {α : Type} (p : WProg α) : p.bind .ret = p := by
  induction p with
  | ret a => rfl
  | panic => rfl
  | dpanic => rfl
  | writeBits v n k ih => exact congrArg (WProg.writeBits v n) (funext ih)
  | writeUnary x k ih => exact congrArg (WProg.writeUnary x) (funext ih)
  | flush k ih => exact congrArg WProg.flush (funext ih)

/-- `for &byte in l { write_bits(byte, 8)?; }  Ok(c)` against `writeBytesP l` -/
theorem for_eq (l : List Nat) : ∀ c, Gen.write_vbyte_be_for1 l (.ret (l.length * 8 + c))
    = (writeBytesP l).bind fun r => .ret (r + c) := by
  induction l with
  | nil => intro c; rw [List.length_nil, Nat.zero_mul]; rfl
  | cons b l ih =>
    intro c
    rw [Gen.write_vbyte_be_for1, writeBytesP, List.length_cons, Nat.succ_mul, Nat.add_assoc, ih]
    refine congrArg (WProg.writeBits b 8) (funext fun _ => ?_)
    rw [wbind_assoc]
    exact congrArg _ (funext fun r => congrArg WProg.ret (Nat.add_assoc r 8 c).symm)

theorem set_replicate (p x : Nat) (acc : List Nat) :
    (List.replicate (p + 1) 0 ++ acc).set p x = List.replicate p 0 ++ x :: acc := by
  induction p with
  | zero => rfl
  | succ p ih =>
    rw [List.replicate_succ, List.cons_append, List.set_cons_succ, ih]
    rfl

theorem beLoop_len_ge : ∀ f u (a : List Nat), a.length ≤ (vbyteBeBytesLoop f u a).length := by
  intro f
  induction f with
  | zero => intro u a; exact Nat.le_refl _
  | succ f ihf =>
    intro u a
    unfold vbyteBeBytesLoop
    split
    · exact Nat.le_refl _
    · exact Nat.le_trans (Nat.le_succ _) (ihf ((u - 1) / 128) ((128 + (u - 1) % 128) :: a))

theorem beLoop_succ {f value : Nat} (acc : List Nat) (h0 : value ≠ 0) :
    vbyteBeBytesLoop (f + 1) value acc
      = vbyteBeBytesLoop f ((value - 1) / 128) ((128 + (value - 1) % 128) :: acc) := by
  conv => lhs; unfold vbyteBeBytesLoop
  rw [if_neg h0]

theorem sub_sub_succ {p L a : Nat} (h : a + 1 ≤ L) : p - (L - (a + 1)) = p + 1 - (L - a) := by
  obtain ⟨y, hy⟩ := Nat.exists_eq_succ_of_ne_zero (Nat.sub_ne_zero_of_lt h)
  rw [Nat.sub_add_eq, hy, Nat.succ_sub_one, Nat.add_sub_add_right]

/-- `F` is the `while value != 0` loop of `write_vbyte_be` / `vbyte_write_be`, whatever kind of
    program `M` it builds -/
def BeWhile {M : Type} (F : Nat → Nat → List Nat → Nat → (Nat → List Nat → Nat → M) → M) : Prop :=
  ∀ f v buf pos k, F (f + 1) v buf pos k =
    if v ≠ 0 then
      F f ((v - 1) >>> 7) (buf.set (pos - 1) (128 ||| (((v - 1) &&& 127) % 256))) (pos - 1) k
    else k v buf pos

/-- The loop on a buffer `0^pos ++ acc`: it ends with the bytes that `vbyteBeBytesLoop` conses onto
    `acc` in place of the last zeros. -/
theorem be_while_gen {M : Type} {F : Nat → Nat → List Nat → Nat → (Nat → List Nat → Nat → M) → M}
    (hF : BeWhile F)
    (k : Nat → List Nat → Nat → M) (m : Nat) :
    ∀ fuel value pos acc, value < 128 ^ m → m ≤ pos → m < fuel →
      F fuel value (List.replicate pos 0 ++ acc) pos k
        = k 0 (List.replicate (pos - ((vbyteBeBytesLoop fuel value acc).length - acc.length)) 0
                ++ vbyteBeBytesLoop fuel value acc)
            (pos - ((vbyteBeBytesLoop fuel value acc).length - acc.length)) := by
  have stop : ∀ f pos acc, F (f + 1) 0 (List.replicate pos 0 ++ acc) pos k
      = k 0 (List.replicate (pos - ((vbyteBeBytesLoop (f + 1) 0 acc).length - acc.length)) 0
                ++ vbyteBeBytesLoop (f + 1) 0 acc)
            (pos - ((vbyteBeBytesLoop (f + 1) 0 acc).length - acc.length)) := by
    intro f pos acc
    rw [hF, if_neg (not_not_intro rfl), show vbyteBeBytesLoop (f + 1) 0 acc = acc from rfl,
      Nat.sub_self, Nat.sub_zero]
  induction m with
  | zero =>
    intro fuel value pos acc hv _ hf
    obtain ⟨f, rfl⟩ := Nat.exists_eq_succ_of_ne_zero (Nat.ne_of_gt hf)
    obtain rfl : value = 0 := Nat.lt_one_iff.1 hv
    exact stop f pos acc
  | succ m ih =>
    intro fuel value pos acc hv hp hf
    obtain ⟨f, rfl⟩ :=
      Nat.exists_eq_succ_of_ne_zero (Nat.ne_of_gt (Nat.lt_of_le_of_lt (Nat.zero_le _) hf))
    by_cases h0 : value = 0
    · subst h0; exact stop f pos acc
    · obtain ⟨p, rfl⟩ :=
        Nat.exists_eq_succ_of_ne_zero (Nat.ne_of_gt (Nat.lt_of_lt_of_le m.succ_pos hp))
      have hv' : (value - 1) / 128 < 128 ^ m :=
        Nat.div_lt_of_lt_mul (Nat.lt_of_le_of_lt (Nat.sub_le _ _) (Nat.pow_succ' ▸ hv))
      have hlen := beLoop_len_ge f ((value - 1) / 128) ((128 + (value - 1) % 128) :: acc)
      rw [hF, if_pos h0, Nat.succ_sub_one, low7_u8, or128 (Nat.mod_lt _ (by decide)), shr7,
        set_replicate, beLoop_succ acc h0,
        ih f _ p _ hv' (Nat.le_of_succ_le_succ hp) (Nat.lt_of_succ_lt_succ hf)]
      rw [List.length_cons] at hlen ⊢
      rw [sub_sub_succ hlen]

theorem be_while_eq (k : Nat → List Nat → Nat → WProg Nat) (m : Nat) :
    ∀ fuel value pos acc, value < 128 ^ m → m ≤ pos → m < fuel →
      Gen.write_vbyte_be_while1 fuel value (List.replicate pos 0 ++ acc) pos k
        = k 0 (List.replicate (pos - ((vbyteBeBytesLoop fuel value acc).length - acc.length)) 0
                ++ vbyteBeBytesLoop fuel value acc)
            (pos - ((vbyteBeBytesLoop fuel value acc).length - acc.length)) :=
  be_while_gen (F := Gen.write_vbyte_be_while1) (fun _ _ _ _ _ => rfl) k m

/-- the first byte and the loop of either big-endian writer, for a u64: the 10-byte buffer ends
    with `vbyteBeBytes v`, and `pos` points at its first byte -/
theorem be_fill {M : Type} {F : Nat → Nat → List Nat → Nat → (Nat → List Nat → Nat → M) → M}
    (hF : BeWhile F)
    (k : Nat → List Nat → Nat → M) {v : Nat} (hv : v < 2 ^ 64) :
    ∃ q, F 10 (v >>> 7) ((List.replicate 10 0).set ((List.replicate 10 0).length - 1) ((v &&& 127) % 256))
          ((List.replicate 10 0).length - 1) k
        = k 0 (List.replicate q 0 ++ vbyteBeBytes v) q := by
  have hv' : v / 128 < 128 ^ 9 := by rw [CodesB.pow128_9]; omega
  refine ⟨9 - ((vbyteBeBytesLoop 10 (v / 128) [v % 128]).length - [v % 128].length), ?_⟩
  rw [List.length_replicate, low7_u8, shr7, show (10 : Nat) - 1 = 9 from rfl,
    show List.replicate 10 0 = List.replicate (9 + 1) 0 ++ [] from rfl, set_replicate]
  exact be_while_gen hF k 9 10 (v / 128) 9 [v % 128] hv' (Nat.le_refl _) (by decide)

theorem write_vbyte_be_eq {v : Nat} (hv : v < 2 ^ 64) : Gen.write_vbyte_be v = writeVByteBe v := by
  obtain ⟨q, hq⟩ := be_fill (F := Gen.write_vbyte_be_while1) (fun _ _ _ _ _ => rfl)
    (fun _ buf pos => Gen.write_vbyte_be_for1 (buf.drop pos) (.ret ((buf.length - pos) * 8))) hv
  rw [Gen.write_vbyte_be, hq, List.drop_left' List.length_replicate, List.length_append,
    List.length_replicate, Nat.add_sub_cancel_left]
  exact (for_eq _ 0).trans (wbind_ret _)

/-- the `loop` of `write_vbyte_le`, `l` bytes already counted -/
theorem le_loop_eq (fuel : Nat) : ∀ v l, v < 128 ^ (fuel + 1) →
    Gen.write_vbyte_le_loop1 (fuel + 1) v (l + 1) (fun _ len => .ret (len * 8))
      = (writeBytesP (vbyteLeBytesLoop (fuel + 1) v)).bind fun r => .ret (r + l * 8) := by
  have stop : ∀ f v l, v / 128 = 0 →
      Gen.write_vbyte_le_loop1 (f + 1) v (l + 1) (fun _ len => .ret (len * 8))
        = (writeBytesP (vbyteLeBytesLoop (f + 1) v)).bind fun r => .ret (r + l * 8) := by
    intro f v l h0
    rw [Gen.write_vbyte_le_loop1, vbyteLeBytesLoop, low7_u8, shr7, h0, if_neg (not_not_intro rfl),
      if_neg (not_not_intro rfl), Nat.succ_mul, Nat.add_comm]
    rfl
  induction fuel with
  | zero => intro v l hv; exact stop 0 v l (Nat.div_eq_of_lt hv)
  | succ fuel ih =>
    intro v l hv
    by_cases h0 : v / 128 = 0
    · exact stop _ v l h0
    · have hv' : v / 128 - 1 < 128 ^ (fuel + 1) :=
        Nat.lt_of_le_of_lt (Nat.sub_le _ _) (Nat.div_lt_of_lt_mul (Nat.pow_succ' ▸ hv))
      rw [Gen.write_vbyte_le_loop1, vbyteLeBytesLoop, low7_u8, shr7, if_pos h0, if_pos h0,
        or128' (Nat.mod_lt _ (by decide)), ih _ (l + 1) hv', writeBytesP, Nat.succ_mul]
      refine congrArg (WProg.writeBits _ 8) (funext fun _ => ?_)
      rw [wbind_assoc]
      exact congrArg _ (funext fun r => congrArg WProg.ret
        ((Nat.add_assoc r (l * 8) 8).symm.trans (Nat.add_right_comm r (l * 8) 8)))

theorem pow128_10 : (128 : Nat) ^ 10 = 2 ^ 70 := by decide

theorem write_vbyte_le_eq {v : Nat} (hv : v < 2 ^ 64) : Gen.write_vbyte_le v = writeVByteLe v := by
  have hv' : v < 128 ^ (9 + 1) := by rw [pow128_10]; omega
  have := le_loop_eq 9 v 0 hv'
  rw [Nat.zero_mul] at this
  exact this.trans (wbind_ret _)

end VByteGen
end Dsi
