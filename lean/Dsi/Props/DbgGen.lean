/-
  The tracing wrappers `DbgBitReader` / `DbgBitWriter` as TRANSLATED from src/utils/dbg_codes.rs on
  every run (lean/Dsi/Gen/DbgBodies.lean, produced statement by statement by tools/translate_dbg.py)
  are the identity the hand model takes them for (lean/Dsi/Glue/Wrappers.lean: "forward every method
  unchanged"; the driver runs `wrap=dbg` sessions on the bare machines):

  * `DbgR.impl ri = ri`, `DbgW.impl wi = wi`: the `BitRead` / `BitWrite` impls, method by method;
  * every specialised code-trait method (`GammaRead`, `DeltaRead`, `ZetaRead` and the `Write`
    counterparts) is the wrapped object's method (`inner_m`, bound BY NAME in the statements below:
    a body that forwarded to another method of the wrapped object would have another parameter);
  * transparency: running any `RProg` / `WProg` through the wrapper is running it on the wrapped
    implementation, and the code operations of a `wrap=dbg` session are those of the bare machine;
  * the set of translated methods is pinned, so that a method that appears in (or disappears from)
    an impl block of the wrappers cannot go unnoticed.
  No hypothesis is needed anywhere.
-/
import Dsi.Gen.DbgBodies
import Dsi.Session
import Dsi.Lemmas.Res
namespace Dsi
namespace DbgGen
open Gen

/-! The per-method proofs all use the same `simp only` call; it covers the three shapes of a Rust
    body (`let v = inner.m(..)?; ..; Ok(v)`, `Ok(inner.m(..)?)` or `inner.m(..)` forwarded as it is),
    so some of its arguments are unused in each proof. -/
set_option linter.unusedSimpArgs false

theorem bind_ok_eta {α β : Type} (x : Res (α × β)) : Res.bind x (fun p => Res.ok (p.1, p.2)) = x :=
  Res.bind_ok_right x

theorem bind_ok_id {α : Type} (x : Res α) : Res.bind x (fun p => Res.ok p) = x :=
  Res.bind_ok_right x

theorem reader_new_eq {ρ : Type} (r : ρ) : Gen.DbgBitReader.new r = r := rfl
theorem writer_new_eq {ω : Type} (w : ω) : Gen.DbgBitWriter.new w = w := rfl

theorem read_bits_eq {ρ : Type} (ri : RImpl ρ) (s : ρ) (n : Nat) :
    Gen.DbgBitReader.read_bits ri s n = ri.readBits s n := by
  simp only [Gen.DbgBitReader.read_bits, bind_ok_eta, bind_ok_id]

theorem peek_bits_eq {ρ : Type} (ri : RImpl ρ) (s : ρ) (n : Nat) :
    Gen.DbgBitReader.peek_bits ri s n = ri.peekBits s n := by
  simp only [Gen.DbgBitReader.peek_bits, bind_ok_eta, bind_ok_id]

theorem read_unary_eq {ρ : Type} (ri : RImpl ρ) (s : ρ) :
    Gen.DbgBitReader.read_unary ri s = ri.readUnary s := by
  simp only [Gen.DbgBitReader.read_unary, bind_ok_eta, bind_ok_id]

theorem skip_bits_eq {ρ : Type} (ri : RImpl ρ) (s : ρ) (n : Nat) :
    Gen.DbgBitReader.skip_bits ri s n = ri.skipBits s n := by
  simp only [Gen.DbgBitReader.skip_bits, bind_ok_eta, bind_ok_id]

theorem skip_bits_after_peek_eq {ρ : Type} (ri : RImpl ρ) (s : ρ) (n : Nat) :
    Gen.DbgBitReader.skip_bits_after_peek ri s n = ri.skipAfterPeek s n := by
  simp only [Gen.DbgBitReader.skip_bits_after_peek, bind_ok_eta, bind_ok_id]

/-- the `BitRead` impl of `DbgBitReader<E, R>` is `R`'s -/
theorem reader_impl_eq {ρ : Type} (ri : RImpl ρ) : Gen.DbgR.impl ri = ri := by
  cases ri
  simp only [Gen.DbgR.impl, RImpl.mk.injEq]
  refine ⟨?_, ?_, ?_, ?_, ?_⟩
  · funext s n; exact read_bits_eq _ s n
  · funext s n; exact peek_bits_eq _ s n
  · funext s n; exact skip_bits_after_peek_eq _ s n
  · funext s n; exact skip_bits_eq _ s n
  · funext s; exact read_unary_eq _ s

theorem write_bits_eq {ω : Type} (wi : WImpl ω) (s : ω) (v n : Nat) :
    Gen.DbgBitWriter.write_bits wi s v n = wi.writeBits s v n := by
  simp only [Gen.DbgBitWriter.write_bits, bind_ok_eta, bind_ok_id]

theorem write_unary_eq {ω : Type} (wi : WImpl ω) (s : ω) (x : Nat) :
    Gen.DbgBitWriter.write_unary wi s x = wi.writeUnary s x := by
  simp only [Gen.DbgBitWriter.write_unary, bind_ok_eta, bind_ok_id]

theorem flush_eq {ω : Type} (wi : WImpl ω) (s : ω) :
    Gen.DbgBitWriter.flush wi s = wi.flush s := by
  simp only [Gen.DbgBitWriter.flush, bind_ok_eta, bind_ok_id]

/-- the `BitWrite` impl of `DbgBitWriter<E, W>` is `W`'s -/
theorem writer_impl_eq {ω : Type} (wi : WImpl ω) : Gen.DbgW.impl wi = wi := by
  cases wi
  simp only [Gen.DbgW.impl, WImpl.mk.injEq]
  refine ⟨?_, ?_, ?_⟩
  · funext s v n; exact write_bits_eq _ s v n
  · funext s x; exact write_unary_eq _ s x
  · funext s; exact flush_eq _ s

theorem read_gamma_eq {ρ : Type} (f : ρ → Res (Nat × ρ)) (s : ρ) :
    Gen.DbgBitReader.read_gamma (inner_read_gamma := f) s = f s := by
  simp only [Gen.DbgBitReader.read_gamma, bind_ok_eta, bind_ok_id]

theorem read_delta_eq {ρ : Type} (f : ρ → Res (Nat × ρ)) (s : ρ) :
    Gen.DbgBitReader.read_delta (inner_read_delta := f) s = f s := by
  simp only [Gen.DbgBitReader.read_delta, bind_ok_eta, bind_ok_id]

theorem read_zeta_eq {ρ : Type} (f : ρ → Nat → Res (Nat × ρ)) (s : ρ) (k : Nat) :
    Gen.DbgBitReader.read_zeta (inner_read_zeta := f) s k = f s k := by
  simp only [Gen.DbgBitReader.read_zeta, bind_ok_eta, bind_ok_id]

theorem read_zeta3_eq {ρ : Type} (f : ρ → Res (Nat × ρ)) (s : ρ) :
    Gen.DbgBitReader.read_zeta3 (inner_read_zeta3 := f) s = f s := by
  simp only [Gen.DbgBitReader.read_zeta3, bind_ok_eta, bind_ok_id]

theorem write_gamma_eq {ω : Type} (f : ω → Nat → Res (Nat × ω)) (s : ω) (v : Nat) :
    Gen.DbgBitWriter.write_gamma (inner_write_gamma := f) s v = f s v := by
  simp only [Gen.DbgBitWriter.write_gamma, bind_ok_eta, bind_ok_id]

theorem write_delta_eq {ω : Type} (f : ω → Nat → Res (Nat × ω)) (s : ω) (v : Nat) :
    Gen.DbgBitWriter.write_delta (inner_write_delta := f) s v = f s v := by
  simp only [Gen.DbgBitWriter.write_delta, bind_ok_eta, bind_ok_id]

theorem write_zeta_eq {ω : Type} (f : ω → Nat → Nat → Res (Nat × ω)) (s : ω) (v k : Nat) :
    Gen.DbgBitWriter.write_zeta (inner_write_zeta := f) s v k = f s v k := by
  simp only [Gen.DbgBitWriter.write_zeta, bind_ok_eta, bind_ok_id]

theorem write_zeta3_eq {ω : Type} (f : ω → Nat → Res (Nat × ω)) (s : ω) (v : Nat) :
    Gen.DbgBitWriter.write_zeta3 (inner_write_zeta3 := f) s v = f s v := by
  simp only [Gen.DbgBitWriter.write_zeta3, bind_ok_eta, bind_ok_id]

theorem reader_methods :
    Gen.DbgBitReader.methods =
      ["BitRead::peek_bits", "BitRead::read_bits", "BitRead::read_unary", "BitRead::skip_bits",
       "BitRead::skip_bits_after_peek", "DeltaRead::read_delta", "GammaRead::read_gamma", "Self::new",
       "ZetaRead::read_zeta", "ZetaRead::read_zeta3"] := rfl

theorem writer_methods :
    Gen.DbgBitWriter.methods =
      ["BitWrite::flush", "BitWrite::write_bits", "BitWrite::write_unary", "DeltaWrite::write_delta",
       "GammaWrite::write_gamma", "Self::new", "ZetaWrite::write_zeta", "ZetaWrite::write_zeta3"] := rfl

/-- Running ANY reader program through `DbgBitReader` is running it on the wrapped reader. -/
theorem rprog_transparent {ρ α : Type} (ri : RImpl ρ) (p : RProg α) (s : ρ) :
    p.run (Gen.DbgR.impl ri) s = p.run ri s := by
  rw [reader_impl_eq]

/-- Running ANY writer program through `DbgBitWriter` is running it on the wrapped writer. -/
theorem wprog_transparent {ω α : Type} (wi : WImpl ω) (p : WProg α) (s : ω) :
    p.run (Gen.DbgW.impl wi) s = p.run wi s := by
  rw [writer_impl_eq]

/-- the generic bulk copy (the wrappers do not override `copy_to` / `copy_from`: the trait's default
    loop runs through them) -/
theorem copyGeneric_transparent {ρ ω : Type} (ri : RImpl ρ) (wi : WImpl ω) (fuel : Nat) (r : ρ) (w : ω) (n : Nat) :
    copyGeneric (Gen.DbgR.impl ri) (Gen.DbgW.impl wi) fuel r w n = copyGeneric ri wi fuel r w n := by
  rw [reader_impl_eq, writer_impl_eq]

/-! ### the code operations of a `wrap=dbg` session

  What `r.read_<code>()` / `w.write_<code>(v)` run on a wrapped object: for the code traits the
  wrappers implement themselves (`forwardedLen` lists them: γ, δ, ζ with the default parameters)
  the translated method, whose `inner_m` is the wrapped object running the method's program; every
  other code is a blanket impl over `BitRead` / `BitWrite` and runs its program through the wrapper's
  `BitRead` / `BitWrite` impl. -/

def dbgRcode {ρ : Type} (ri : RImpl ρ) (e : Endian) (code flags : String) (p : Nat) (r : ρ) :
    Option (Res (Nat × ρ)) :=
  match forwardedLen code flags p, readProg e code flags p with
  | some _, some prog =>
    some (match code with
      | "gamma" => Gen.DbgBitReader.read_gamma (inner_read_gamma := fun i => prog.run ri i) r
      | "delta" => Gen.DbgBitReader.read_delta (inner_read_delta := fun i => prog.run ri i) r
      | "zeta3" => Gen.DbgBitReader.read_zeta3 (inner_read_zeta3 := fun i => prog.run ri i) r
      | _ => Gen.DbgBitReader.read_zeta (inner_read_zeta := fun i _ => prog.run ri i) r p)
  | none, some prog => some (prog.run (Gen.DbgR.impl ri) r)
  | _, none => none

def dbgWcode {ω : Type} (wi : WImpl ω) (e : Endian) (checks : Bool) (code flags : String) (p v : Nat) (w : ω) :
    Option (Res (Nat × ω)) :=
  match forwardedLen code flags p, writeProg e checks code flags p v with
  | some _, some prog =>
    some (match code with
      | "gamma" => Gen.DbgBitWriter.write_gamma (inner_write_gamma := fun i _ => prog.run wi i) w v
      | "delta" => Gen.DbgBitWriter.write_delta (inner_write_delta := fun i _ => prog.run wi i) w v
      | "zeta3" => Gen.DbgBitWriter.write_zeta3 (inner_write_zeta3 := fun i _ => prog.run wi i) w v
      | _ => Gen.DbgBitWriter.write_zeta (inner_write_zeta := fun i _ _ => prog.run wi i) w v p)
  | none, some prog => some (prog.run (Gen.DbgW.impl wi) w)
  | _, none => none

/-- every code read through `DbgBitReader` is the code's program run on the wrapped reader (the
    right side is the `rcode` field of `machL3`, lean/Dsi/Session.lean, written out) -/
theorem rcode_transparent {ρ : Type} (ri : RImpl ρ) (e : Endian) (code flags : String) (p : Nat) (r : ρ) :
    dbgRcode ri e code flags p r = (readProg e code flags p).map fun prog => prog.run ri r := by
  unfold dbgRcode
  cases hp : readProg e code flags p with
  | none => cases forwardedLen code flags p <;> rfl
  | some prog =>
    cases forwardedLen code flags p with
    | none => simp only [Option.map, rprog_transparent]
    | some len =>
      simp only [Option.map, Option.some.injEq]
      split <;> simp only [read_gamma_eq, read_delta_eq, read_zeta3_eq, read_zeta_eq]

/-- every code write through `DbgBitWriter` is the code's program run on the wrapped writer (the
    right side is the `wcode` field of `machL3`, lean/Dsi/Session.lean, written out) -/
theorem wcode_transparent {ω : Type} (wi : WImpl ω) (e : Endian) (checks : Bool) (code flags : String)
    (p v : Nat) (w : ω) :
    dbgWcode wi e checks code flags p v w
      = (writeProg e checks code flags p v).map fun prog => prog.run wi w := by
  unfold dbgWcode
  cases hp : writeProg e checks code flags p v with
  | none => cases forwardedLen code flags p <;> rfl
  | some prog =>
    cases forwardedLen code flags p with
    | none => simp only [Option.map, wprog_transparent]
    | some len =>
      simp only [Option.map, Option.some.injEq]
      split <;> simp only [write_gamma_eq, write_delta_eq, write_zeta3_eq, write_zeta_eq]

end DbgGen
end Dsi
