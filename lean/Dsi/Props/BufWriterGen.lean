/-
  The method bodies of `BufBitWriter` as TRANSLATED from src/impls/buf_bit_writer.rs on every run
  (lean/Dsi/Gen/BufWriterBodies.lean, emitted by tools/translate_bufw.py) are EQUAL to the
  hand-written model (lean/Dsi/Impl/BufWriter.lean) every other writer theorem is about.

  Hypotheses, and why they are there:
  * `0 < s.space` (write_bits, write_unary): the Rust bodies start with
    `debug_assert!(self.space_left_in_buffer > 0)`, which the translation keeps (outcome `dpanic`)
    and the hand model leaves out because it is the struct invariant ("It is always greater than
    zero").  On a state with `space = 0` the two sides really differ.
  * `s.space ≤ W` and `W < 2 ^ 64` (write_unary only): `write_unary` computes in `u64`
    (`self.space_left_in_buffer as u64`, `WW::Word::BITS as u64`, wrapping subtraction, unsigned
    division) where the hand model computes in `Nat`; the two agree when the `usize` quantities fit
    64 bits (`W ≤ 128` for every word type); `W ≠ 0` follows from `0 < s.space ≤ W`.
  No hypothesis is needed for `flush`.
-/
import Dsi.Gen.BufWriterBodies
import Dsi.Props.Writer
import Dsi.Lemmas.U64
namespace Dsi
namespace GenBufW
variable {W : Nat}

def capOk (cap : Option Nat) (len : Nat) : Bool :=
  match cap with
  | some c => decide (len < c)
  | none => true

theorem emit_mk (b : BitVec W) (sp : Nat) (out : List (BitVec W)) (cap : Option Nat) (ch : Bool)
    (w : BitVec W) :
    BufW.emit ⟨b, sp, out, cap, ch⟩ w =
      if capOk cap out.length then .ok ⟨b, sp, out ++ [w], cap, ch⟩ else .err .eof := by
  cases cap <;> simp [BufW.emit, capOk]

/-- overwrite the two fields the backend never looks at -/
def upd (b : BitVec W) (sp : Nat) (s : BufW W) : BufW W := { s with buffer := b, space := sp }

theorem emit_upd (b : BitVec W) (sp : Nat) (s : BufW W) (w : BitVec W) :
    (upd b sp s).emit w = (s.emit w).map (upd b sp) := by
  obtain ⟨b0, sp0, out, cap, ch⟩ := s
  simp only [upd, emit_mk]
  cases capOk cap out.length <;> rfl

theorem flush_be_eq (s : BufW W) : Gen.BufW.flush_be s = BufW.flush .be s := by
  obtain ⟨b, sp, out, cap, ch⟩ := s
  unfold Gen.BufW.flush_be BufW.flush BufW.shiftIn
  dsimp only
  split
  · rw [emit_mk, emit_mk]; split <;> rfl
  · rfl

theorem flush_le_eq (s : BufW W) : Gen.BufW.flush_le s = BufW.flush .le s := by
  obtain ⟨b, sp, out, cap, ch⟩ := s
  unfold Gen.BufW.flush_le BufW.flush BufW.shiftIn
  dsimp only
  split
  · rw [emit_mk, emit_mk]; split <;> rfl
  · rfl

theorem forN_eq {σ : Type} {f : σ → Res σ} (g : Nat → σ → Res σ) (h0 : ∀ st, g 0 st = .ok st)
    (hs : ∀ k st, g (k + 1) st = (f st).bind (g k)) : ∀ k st, forN k st f = g k st
  | 0, st => (h0 st).symm
  | k + 1, st => by
    rw [forN, hs]
    exact Res.bind_congr fun st' _ => forN_eq g h0 hs k st'

theorem spillBE_upd (v : BitVec 64) (b : BitVec W) (sp : Nat) (k tw : Nat) (s : BufW W) :
    BufW.spillBE v k tw (upd b sp s) = (BufW.spillBE v k tw s).map fun p => (p.1, upd b sp p.2) := by
  rw [BufW.spillBE_eq, BufW.spillBE_eq, upd, BufW.emitAll_upd]
  cases BufW.emitAll s _ <;> rfl

theorem forN_spillBE (v : BitVec 64) (k tw : Nat) (s : BufW W) :
    forN k (tw, s) (fun st =>
        Res.bind (st.2.emit ((v >>> (st.1 - W)).setWidth W)) fun s => .ok (st.1 - W, s))
      = BufW.spillBE v k tw s :=
  forN_eq (fun k st => BufW.spillBE v k st.1 st.2) (fun _ => rfl)
    (fun k st => by rw [BufW.spillBE]; cases st.2.emit _ <;> rfl) k (tw, s)

theorem mask_toNat (n : Nat) (hn : n ≤ 64) :
    ((((1 : BitVec 128) <<< n) - 1).setWidth 64).toNat = 2 ^ n - 1 := by
  have h1 : (2:Nat) ^ n < 2 ^ 128 :=
    Nat.lt_of_le_of_lt (Nat.pow_le_pow_right (by decide) hn) (by decide)
  rw [BitVec.toNat_setWidth, BitVec.toNat_sub, BitVec.toNat_shiftLeft,
    show (1 : BitVec 128).toNat = 1 from rfl, Nat.shiftLeft_eq, Nat.one_mul, Nat.mod_eq_of_lt h1,
    wrap_sub (Nat.two_pow_pos n) h1]
  exact Nat.mod_eq_of_lt (Nat.lt_of_lt_of_le (Nat.sub_lt (Nat.two_pow_pos n) Nat.one_pos)
    (Nat.pow_le_pow_right (by decide) hn))

theorem fits_iff (v : BitVec 64) (n : Nat) (hn : n ≤ 64) :
    (v &&& (((1 : BitVec 128) <<< n) - 1).setWidth 64 = v) ↔ v.toNat < 2 ^ n := by
  rw [← BitVec.toNat_inj, BitVec.toNat_and, mask_toNat n hn, Nat.and_two_pow_sub_one_eq_mod]
  constructor
  · intro h; rw [← h]; exact Nat.mod_lt _ (Nat.two_pow_pos n)
  · exact Nat.mod_eq_of_lt

theorem checks_iff (ch : Bool) (b : BitVec W) (sp : Nat) (out : List (BitVec W)) (cap : Option Nat)
    (v : BitVec 64) (n : Nat) (hn : n ≤ 64) :
    (ch = true ∧ ¬(v &&& (((1 : BitVec 128) <<< n) - 1).setWidth 64 = v)) ↔
      BufW.dirty ⟨b, sp, out, cap, ch⟩ v n = true := by
  simp only [BufW.dirty, fits_iff v n hn, Bool.and_eq_true, decide_eq_true_eq, Nat.not_lt, ge_iff_le]

theorem write_bits_be_eq (s : BufW W) (v : BitVec 64) (n : Nat) (hs : 0 < s.space) :
    Gen.BufW.write_bits_be s v n = BufW.writeBitsBE s v n := by
  obtain ⟨b, sp, out, cap, ch⟩ := s
  unfold Gen.BufW.write_bits_be BufW.writeBitsBE
  by_cases hn : n ≤ 64
  · have hck := checks_iff ch b sp out cap v n hn
    rw [if_neg (fun h => h hn), if_neg (Nat.not_lt.mpr hn)]
    by_cases hd : BufW.dirty ⟨b, sp, out, cap, ch⟩ v n = true
    · rw [if_pos (hck.2 hd), if_pos hd]
    · rw [if_neg (fun h => hd (hck.1 h)), if_neg hd, if_neg (fun h => h hs)]
      by_cases hf : n < sp
      · rw [if_pos hf, if_pos hf, Nat.mod_eq_of_lt (Nat.lt_of_le_of_lt hn (by decide))]
      · rw [if_neg hf, if_neg hf]
        dsimp only
        rw [emit_mk, emit_mk]
        by_cases hc : capOk cap out.length = true
        · rw [if_pos hc, if_pos hc, Res.bind_ok]
          dsimp only
          generalize b <<< (sp - 1) <<< 1 ||| BitVec.setWidth W (v <<< (64 - n) >>> (64 - sp)) = b1
          rw [forN_spillBE, show (⟨b1, sp, out ++ [b1], cap, ch⟩ : BufW W)
            = upd b1 sp ⟨b, sp, out ++ [b1], cap, ch⟩ from rfl, spillBE_upd]
          cases BufW.spillBE v ((n - sp) / W) (n - sp) _ <;> rfl
        · rw [if_neg hc, if_neg hc]; rfl
  · rw [if_pos hn, if_pos (Nat.lt_of_not_le hn)]

theorem spillLE_upd (b : BitVec W) (sp : Nat) (k : Nat) (v : BitVec 64) (s : BufW W) :
    BufW.spillLE k v (upd b sp s) = (BufW.spillLE k v s).map fun p => (p.1, upd b sp p.2) := by
  rw [BufW.spillLE_eq, BufW.spillLE_eq, upd, BufW.emitAll_upd]
  cases BufW.emitAll s _ <;> rfl

theorem forN_spillLE (k : Nat) (v : BitVec 64) (s : BufW W) :
    forN k (v, s) (fun st => Res.bind (st.2.emit (st.1.setWidth W)) fun s => .ok (st.1 >>> W, s))
      = BufW.spillLE k v s :=
  forN_eq (fun k st => BufW.spillLE k st.1 st.2) (fun _ => rfl)
    (fun k st => by rw [BufW.spillLE]; cases st.2.emit _ <;> rfl) k (v, s)

theorem write_bits_le_eq (s : BufW W) (v : BitVec 64) (n : Nat) (hs : 0 < s.space) :
    Gen.BufW.write_bits_le s v n = BufW.writeBitsLE s v n := by
  obtain ⟨b, sp, out, cap, ch⟩ := s
  unfold Gen.BufW.write_bits_le BufW.writeBitsLE
  by_cases hn : n ≤ 64
  · have hck := checks_iff ch b sp out cap v n hn
    rw [if_neg (fun h => h hn), if_neg (Nat.not_lt.mpr hn)]
    by_cases hd : BufW.dirty ⟨b, sp, out, cap, ch⟩ v n = true
    · rw [if_pos (hck.2 hd), if_pos hd]
    · rw [if_neg (fun h => hd (hck.1 h)), if_neg hd, if_neg (fun h => h hs)]
      by_cases hf : n < sp
      · rw [if_pos hf, if_pos hf, Nat.mod_eq_of_lt (Nat.lt_of_le_of_lt hn (by decide))]
      · rw [if_neg hf, if_neg hf]
        dsimp only
        rw [emit_mk, emit_mk]
        by_cases hc : capOk cap out.length = true
        · rw [if_pos hc, if_pos hc, Res.bind_ok]
          dsimp only
          generalize b >>> (sp - 1) >>> 1 ||| BitVec.setWidth W v <<< (W - sp) = b1
          rw [forN_spillLE, show (⟨b1, sp, out ++ [b1], cap, ch⟩ : BufW W)
            = upd b1 sp ⟨b, sp, out ++ [b1], cap, ch⟩ from rfl, spillLE_upd,
            Nat.mod_eq_of_lt (Nat.lt_of_le_of_lt (Nat.le_trans (Nat.sub_le n sp) hn) (by decide))]
          cases BufW.spillLE ((n - sp) / W) _ _ <;> rfl
        · rw [if_neg hc, if_neg hc]; rfl
  · rw [if_pos hn, if_pos (Nat.lt_of_not_le hn)]

theorem forN_zeroWords (k : Nat) (s : BufW W) :
    forN k s (fun s => Res.bind (s.emit 0) fun s => .ok s) = BufW.zeroWords k s :=
  forN_eq BufW.zeroWords (fun _ => rfl)
    (fun k s => by rw [BufW.zeroWords]; cases s.emit 0 <;> rfl) k s

/-- the two translated bodies of `write_unary` are one text: they differ in the direction of the
    shifts and in the word that holds the final one -/
def unaryBody (e : Endian) (s : BufW W) (value : BitVec 64) : Res (Nat × BufW W) :=
  if ¬(value ≠ (BitVec.allOnes 64)) then Res.dpanic else
  if ¬(s.space > 0) then Res.dpanic else
  let code_length : BitVec 64 := value + 1
  if code_length ≤ (BitVec.ofNat 64 s.space) then (
    let s : BufW W := { s with space := s.space - code_length.toNat }
    let s : BufW W := { s with buffer := BufW.shiftIn e (BufW.shiftIn e s.buffer value.toNat) 1 }
    let s : BufW W := { s with buffer := s.buffer ||| BufW.oneWord e }
    Res.bind (if s.space = 0 then (
        Res.bind (s.emit (s.buffer)) fun s =>
        let s : BufW W := { s with space := W }
        Res.ok s)
      else (
        Res.ok s)) fun s =>
    Res.ok (code_length.toNat, s))
  else
  let s : BufW W := { s with buffer := BufW.shiftIn e (BufW.shiftIn e s.buffer (s.space - 1)) 1 }
  Res.bind (s.emit (s.buffer)) fun s =>
  let value : BitVec 64 := value - (BitVec.ofNat 64 s.space)
  Res.bind (forN (value / (BitVec.ofNat 64 W)).toNat s fun s =>
      Res.bind (s.emit ((0 : BitVec W))) fun s =>
      Res.ok s) fun s =>
  let value : BitVec 64 := value % (BitVec.ofNat 64 W)
  Res.bind (if value = ((BitVec.ofNat 64 W) - 1) then (
      Res.bind (s.emit (BufW.oneWord e)) fun s =>
      let s : BufW W := { s with space := W }
      Res.ok s)
    else (
      let s : BufW W := { s with buffer := BufW.oneWord e }
      let s : BufW W := { s with space := W - (value.toNat + 1) }
      Res.ok s)) fun s =>
  Res.ok (code_length.toNat, s)

theorem unaryBody_eq (e : Endian) (s : BufW W) (v : BitVec 64) (hs : 0 < s.space)
    (hsW : s.space ≤ W) (hW : W < 2 ^ 64) : unaryBody e s v = BufW.writeUnary e s v.toNat := by
  obtain ⟨b, sp, out, cap, ch⟩ := s
  dsimp only at hs hsW
  unfold unaryBody BufW.writeUnary
  by_cases hmax : v = BitVec.allOnes 64
  · rw [if_pos (fun h => h hmax), if_pos (by rw [hmax]; decide)]
  · have hv := v.isLt
    have hx : v.toNat < 2 ^ 64 - 1 :=
      Nat.lt_of_le_of_ne (Nat.le_pred_of_lt hv) fun h =>
        hmax (BitVec.eq_of_toNat_eq (h.trans (by decide)))
    have hsp : sp < 2 ^ 64 := Nat.lt_of_le_of_lt hsW hW
    have h1 : (v + 1).toNat = v.toNat + 1 := by
      rw [BitVec.toNat_add, show (1 : BitVec 64).toNat = 1 from rfl,
        Nat.mod_eq_of_lt (Nat.add_lt_of_lt_sub hx)]
    have h2 : (v + 1 ≤ BitVec.ofNat 64 sp) ↔ v.toNat + 1 ≤ sp := by
      rw [BitVec.le_def, h1, u64_ofNat hsp]
    rw [if_neg (fun h => h hmax), if_neg (Nat.not_le.2 hx), if_neg (fun h => h hs)]
    dsimp only
    rw [h1]
    by_cases hfast : v.toNat + 1 ≤ sp
    · rw [if_pos (h2.2 hfast), if_pos hfast]
      by_cases h0 : sp - (v.toNat + 1) = 0
      · rw [if_pos h0, if_pos h0, emit_mk, emit_mk]
        split <;> rfl
      · rw [if_neg h0, if_neg h0]; rfl
    · have hle : sp ≤ v.toNat := by omega
      have h7 : (BitVec.ofNat 64 W - 1).toNat = W - 1 := by
        have := u64_sub (v := BitVec.ofNat 64 W) (x := 1) (by rw [u64_ofNat hW]; omega)
        rwa [u64_ofNat hW] at this
      have h6 : ((v - BitVec.ofNat 64 sp) % BitVec.ofNat 64 W = BitVec.ofNat 64 W - 1) ↔
          (v.toNat - sp) % W = W - 1 := by
        rw [← BitVec.toNat_inj, u64_mod hle hW, h7]
      rw [if_neg (fun h => hfast (h2.1 h)), if_neg hfast, emit_mk, emit_mk]
      by_cases hc : capOk cap out.length = true
      · rw [if_pos hc, if_pos hc, Res.bind_ok]
        dsimp only
        rw [u64_div hle hW, u64_mod hle hW, forN_zeroWords]
        cases BufW.zeroWords ((v.toNat - sp) / W) _ with
        | ok s2 =>
          rw [Res.bind_ok]
          dsimp only
          by_cases hl : (v.toNat - sp) % W = W - 1
          · rw [if_pos (h6.2 hl), if_pos hl]; cases s2.emit _ <;> rfl
          · rw [if_neg (fun h => hl (h6.1 h)), if_neg hl]; rfl
        | _ => rfl
      · rw [if_neg hc, if_neg hc]; rfl

theorem write_unary_be_eq (s : BufW W) (v : BitVec 64) (hs : 0 < s.space) (hsW : s.space ≤ W)
    (hW : W < 2 ^ 64) :
    Gen.BufW.write_unary_be s v = BufW.writeUnary .be s v.toNat :=
  unaryBody_eq .be s v hs hsW hW

theorem write_unary_le_eq (s : BufW W) (v : BitVec 64) (hs : 0 < s.space) (hsW : s.space ≤ W)
    (hW : W < 2 ^ 64) :
    Gen.BufW.write_unary_le s v = BufW.writeUnary .le s v.toNat :=
  unaryBody_eq .le s v hs hsW hW

theorem write_unary_be_eq_nat (s : BufW W) (x : Nat) (hx : x < 2 ^ 64) (hs : 0 < s.space)
    (hsW : s.space ≤ W) (hW : W < 2 ^ 64) :
    Gen.BufW.write_unary_be s (BitVec.ofNat 64 x) = BufW.writeUnary .be s x := by
  rw [write_unary_be_eq s _ hs hsW hW, BitVec.toNat_ofNat, Nat.mod_eq_of_lt hx]

theorem write_unary_le_eq_nat (s : BufW W) (x : Nat) (hx : x < 2 ^ 64) (hs : 0 < s.space)
    (hsW : s.space ≤ W) (hW : W < 2 ^ 64) :
    Gen.BufW.write_unary_le s (BitVec.ofNat 64 x) = BufW.writeUnary .le s x := by
  rw [write_unary_le_eq s _ hs hsW hW, BitVec.toNat_ofNat, Nat.mod_eq_of_lt hx]

/-! `Dsi.writeBits_sim`, `Dsi.writeUnary_sim`, `Dsi.flush_sim` (lean/Dsi/Props/Writer.lean) are about
the hand model; through the equalities above they hold of the text translated from the Rust
source on this run.  `W < 2 ^ 64`: see the header (only `write_unary` needs it). -/

def genImpl (e : Endian) : WImpl (BufW W) :=
  { writeBits := fun s v n =>
      match e with
      | .be => Gen.BufW.write_bits_be s (BitVec.ofNat 64 v) n
      | .le => Gen.BufW.write_bits_le s (BitVec.ofNat 64 v) n,
    writeUnary := fun s x =>
      match e with
      | .be => Gen.BufW.write_unary_be s (BitVec.ofNat 64 x)
      | .le => Gen.BufW.write_unary_le s (BitVec.ofNat 64 x),
    flush := fun s =>
      match e with
      | .be => Gen.BufW.flush_be s
      | .le => Gen.BufW.flush_le s }

theorem genImpl_writeBits (e : Endian) (s : BufW W) (hi : s.Inv) (v n : Nat) :
    (genImpl e).writeBits s v n = (BufW.impl e).writeBits s v n := by
  cases e
  · exact write_bits_be_eq s _ n hi.1
  · exact write_bits_le_eq s _ n hi.1

theorem genImpl_writeUnary (e : Endian) (s : BufW W) (hi : s.Inv) (hW : W < 2 ^ 64) (x : Nat)
    (hx : x < 2 ^ 64) : (genImpl e).writeUnary s x = (BufW.impl e).writeUnary s x := by
  cases e
  · exact write_unary_be_eq_nat s x hx hi.1 hi.2 hW
  · exact write_unary_le_eq_nat s x hx hi.1 hi.2 hW

theorem genImpl_flush (e : Endian) (s : BufW W) : (genImpl e).flush s = (BufW.impl e).flush s := by
  cases e
  · exact flush_be_eq s
  · exact flush_le_eq s

theorem gen_writeBits_sim {e : Endian} {s : BufW W} {r : RefW} (h : BufW.RelC e s r) (v n : Nat) :
    ResRel (fun (a, s') (b, r') => a = b ∧ BufW.RelC e s' r' ∧ s.out <+: s'.out)
      ((genImpl e).writeBits s v n) (RefW.writeBits r v n) := by
  rw [genImpl_writeBits e s h.1.1]
  exact writeBits_sim h v n

theorem gen_writeUnary_sim {e : Endian} {s : BufW W} {r : RefW} (h : BufW.RelC e s r)
    (hW : W < 2 ^ 64) (x : Nat) (hx : x < 2 ^ 64) :
    ResRel (fun (a, s') (b, r') => a = b ∧ BufW.RelC e s' r' ∧ s.out <+: s'.out)
      ((genImpl e).writeUnary s x) (RefW.writeUnary r x) := by
  rw [genImpl_writeUnary e s h.1.1 hW x hx]
  exact writeUnary_sim h x

theorem gen_flush_sim {e : Endian} {s : BufW W} {r : RefW} (h : BufW.RelC e s r) :
    ResRel (fun (a, s') (b, r') => a = b ∧ BufW.RelC e s' r' ∧ s.out <+: s'.out)
      ((genImpl e).flush s) (RefW.flush r) := by
  rw [genImpl_flush e s]
  exact flush_sim h

end GenBufW
end Dsi
