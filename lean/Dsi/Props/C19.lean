/-
  C19 — the `checks` option: the assertion at the top of `write_bits` fires exactly on dirty
  arguments (bits set above the `n` low ones), otherwise the option changes nothing, and the
  library's own code writers never trip it (stated on the growable reference writer).
-/
import Dsi.Ref
import Dsi.Impl.BufWriter
import Dsi.Lemmas.WriterCore
import Dsi.Props.CodesA
import Dsi.Props.CodesB
namespace Dsi

namespace SmallL
@[simp] theorem rm_ok {α β} (f : α → β) (a : α) : Res.map f (.ok a) = .ok (f a) := rfl
@[simp] theorem rm_err {α β} (f : α → β) (e : Err) : Res.map f (.err e : Res α) = .err e := rfl
@[simp] theorem rm_panic {α β} (f : α → β) : Res.map f (.panic : Res α) = .panic := rfl
@[simp] theorem rm_dpanic {α β} (f : α → β) : Res.map f (.dpanic : Res α) = .dpanic := rfl

theorem put_ne_panic (w : RefW) (bs : List Bool) (r : Nat) : w.put bs r ≠ .panic := by
  simp only [RefW.put]
  split <;> (intro h; cases h)
end SmallL
open SmallL

/-- reference writer: `write_bits` panics iff `checks` is on and the value has a bit set at or
    above position `n` (for a legal width `n ≤ 64`) -/
theorem checks_fire_iff_dirty_ref (w : RefW) (v n : Nat) :
    RefW.writeBits w v n = .panic ↔ (n ≤ 64 ∧ w.checks = true ∧ v % 2 ^ 64 ≥ 2 ^ n) := by
  unfold RefW.writeBits
  by_cases hn : n > 64
  · rw [if_pos hn]
    exact ⟨fun h => (by cases h), fun h => (by omega)⟩
  · rw [if_neg hn]
    by_cases hd : (w.checks && decide (v % 2 ^ 64 ≥ 2 ^ n)) = true
    · rw [if_pos hd]
      simp only [Bool.and_eq_true, decide_eq_true_eq] at hd
      exact ⟨fun _ => ⟨by omega, hd.1, hd.2⟩, fun _ => rfl⟩
    · rw [if_neg hd]
      simp only [Bool.and_eq_true, decide_eq_true_eq] at hd
      exact ⟨fun h => absurd h (put_ne_panic _ _ _), fun h => absurd ⟨h.2.1, h.2.2⟩ hd⟩

def BufW.setChecks {W : Nat} (b : Bool) (s : BufW W) : BufW W := { s with checks := b }

namespace SmallL
variable {W : Nat}

theorem emitAll_ne_panic (s : BufW W) (ws : List (BitVec W)) : BufW.emitAll s ws ≠ .panic := by
  induction ws generalizing s with
  | nil => nofun
  | cons w ws ih =>
    rw [BufW.emitAll, BufW.emit_eq]
    split
    · exact ih _
    · nofun

theorem emitAll_setChecks (c : Bool) (s : BufW W) (ws : List (BitVec W)) :
    BufW.emitAll (s.setChecks c) ws = (BufW.emitAll s ws).map (BufW.setChecks c) := by
  induction ws generalizing s with
  | nil => rfl
  | cons w ws ih =>
    have he : (s.setChecks c).emit w = (s.emit w).map (BufW.setChecks c) := by
      unfold BufW.emit BufW.setChecks
      cases s.cap with
      | none => rfl
      | some k => dsimp only; split <;> rfl
    rw [BufW.emitAll, BufW.emitAll, he]
    cases s.emit w with
    | ok s' => exact ih s'
    | _ => rfl

/-- A `write_bits` of a legal width that passes the assertion delivers some words to the backend
    and sets buffer and free space; which words and what buffer depends on the old buffer, its free
    space and the arguments, not on the flag. -/
theorem writeBits_shape (e : Endian) (s : BufW W) (v : BitVec 64) (n : Nat) (hn : n ≤ 64) :
    ∃ (ws : List (BitVec W)) (b : BitVec W) (sp : Nat), ∀ c, (s.setChecks c).dirty v n = false →
      BufW.writeBits e (s.setChecks c) v n =
        (BufW.emitAll (s.setChecks c) ws).map fun s' => (n, { s' with buffer := b, space := sp }) := by
  have hn' : ¬ n > 64 := Nat.not_lt.2 hn
  cases e with
  | be =>
    by_cases hfast : n < s.space
    · -- the field fits in the buffer: nothing is delivered
      refine ⟨[], (s.buffer <<< n) ||| (v.setWidth W &&& ~~~(BitVec.allOnes W <<< n)), s.space - n,
        fun c hd => ?_⟩
      rw [BufW.writeBits, BufW.writeBitsBE, if_neg hn', hd, if_neg Bool.false_ne_true,
        if_pos (show n < (s.setChecks c).space from hfast)]
      rfl
    · -- the completed word, then the words of the spill loop
      refine ⟨(((s.buffer <<< (s.space - 1)) <<< 1) ||| ((v <<< (64 - n)) >>> (64 - s.space)).setWidth W)
          :: BufW.wordsBE v ((n - s.space) / W) (n - s.space), v.setWidth W,
        W - (n - s.space - (n - s.space) / W * W), fun c hd => ?_⟩
      rw [BufW.writeBits, BufW.writeBitsBE, if_neg hn', hd, if_neg Bool.false_ne_true,
        if_neg (show ¬ n < (s.setChecks c).space from hfast), BufW.emitAll]
      dsimp only [BufW.setChecks]
      cases BufW.emit _ _ with
      | ok s1 =>
        dsimp only [Res.bind]
        rw [BufW.spillBE_eq]
        cases BufW.emitAll s1 _ <;> rfl
      | _ => rfl
  | le =>
    by_cases hfast : n < s.space
    · refine ⟨[], (s.buffer >>> n) ||| (v.setWidth W &&& ~~~(BitVec.allOnes W <<< n)).rotateRight n,
        s.space - n, fun c hd => ?_⟩
      rw [BufW.writeBits, BufW.writeBitsLE, if_neg hn', hd, if_neg Bool.false_ne_true,
        if_pos (show n < (s.setChecks c).space from hfast)]
      rfl
    · refine ⟨(((s.buffer >>> (s.space - 1)) >>> 1) ||| (v.setWidth W <<< (W - s.space)))
          :: BufW.wordsLE ((n - s.space) / W) ((v >>> (s.space - 1)) >>> 1),
        ((BufW.restLE W ((n - s.space) / W) ((v >>> (s.space - 1)) >>> 1)).setWidth W).rotateRight
          (n - s.space),
        W - (n - s.space) % W, fun c hd => ?_⟩
      rw [BufW.writeBits, BufW.writeBitsLE, if_neg hn', hd, if_neg Bool.false_ne_true,
        if_neg (show ¬ n < (s.setChecks c).space from hfast), BufW.emitAll]
      dsimp only [BufW.setChecks]
      cases BufW.emit _ _ with
      | ok s1 =>
        dsimp only [Res.bind]
        rw [BufW.spillLE_eq]
        cases BufW.emitAll s1 _ <;> rfl
      | _ => rfl
end SmallL

/-- concrete buffered writer (both endiannesses, every word width): `write_bits` panics iff
    `checks` is on and the (u64) value has a bit set at or above position `n` -/
theorem checks_fire_iff_dirty {W : Nat} (e : Endian) (s : BufW W) (v n : Nat) :
    (BufW.impl e).writeBits s v n = .panic ↔ (n ≤ 64 ∧ s.checks = true ∧ v % 2 ^ 64 ≥ 2 ^ n) := by
  have hdirty : s.dirty (BitVec.ofNat 64 v) n = true ↔ s.checks = true ∧ v % 2 ^ 64 ≥ 2 ^ n := by
    simp [BufW.dirty]
  show BufW.writeBits e s (BitVec.ofNat 64 v) n = .panic ↔ _
  rw [← hdirty]
  by_cases hn : n > 64
  · rw [BufW.writeBits_wide e s _ hn]
    exact ⟨nofun, fun h => absurd h.1 (Nat.not_le.2 hn)⟩
  · cases hd : s.dirty (BitVec.ofNat 64 v) n
    · obtain ⟨ws, b, sp, hs⟩ := writeBits_shape e s (BitVec.ofNat 64 v) n (Nat.le_of_not_lt hn)
      have hs : BufW.writeBits e s _ n = (BufW.emitAll s ws).map _ := hs s.checks hd
      rw [hs]
      refine ⟨fun h => ?_, nofun⟩
      cases hw : BufW.emitAll s ws <;> rw [hw] at h <;> cases h
      exact absurd hw (emitAll_ne_panic s ws)
    · rw [BufW.writeBits_dirty e s _ hn hd]
      exact ⟨fun _ => ⟨Nat.le_of_not_lt hn, rfl⟩, fun _ => rfl⟩

/-- the two writers panic on the same arguments -/
theorem checks_fire_same {W : Nat} (e : Endian) (s : BufW W) (w : RefW) (v n : Nat) (hc : s.checks = w.checks) :
    (BufW.impl e).writeBits s v n = .panic ↔ RefW.impl.writeBits w v n = .panic := by
  rw [checks_fire_iff_dirty, hc]
  exact (checks_fire_iff_dirty_ref w v n).symm

/-- with `checks` off nothing ever panics in `write_bits` -/
theorem no_checks_no_panic {W : Nat} (e : Endian) (s : BufW W) (w : RefW) (v n : Nat)
    (hs : s.checks = false) (hw : w.checks = false) :
    (BufW.impl e).writeBits s v n ≠ .panic ∧ RefW.writeBits w v n ≠ .panic := by
  constructor
  · intro h; have := (checks_fire_iff_dirty e s v n).1 h; rw [hs] at this; exact absurd this.2.1 (by simp)
  · intro h; have := (checks_fire_iff_dirty_ref w v n).1 h; rw [hw] at this; exact absurd this.2.1 (by simp)

def RefW.setChecks (b : Bool) (w : RefW) : RefW := { w with checks := b }

namespace SmallL
theorem put_setChecks (b : Bool) (w : RefW) (bs : List Bool) (r : Nat) :
    (RefW.setChecks b w).put bs r = (w.put bs r).map (fun (a, s) => (a, RefW.setChecks b s)) := by
  show (if w.fits (w.bits ++ bs) then _ else _) = Res.map _ (if w.fits (w.bits ++ bs) then _ else _)
  split <;> rfl

theorem writeUnary_setChecks (b : Bool) (w : RefW) (x : Nat) :
    RefW.writeUnary (RefW.setChecks b w) x = (RefW.writeUnary w x).map (fun (a, s) => (a, RefW.setChecks b s)) := by
  unfold RefW.writeUnary
  split
  · rfl
  · exact put_setChecks b w _ _

theorem flush_setChecks (b : Bool) (w : RefW) :
    RefW.flush (RefW.setChecks b w) = (RefW.flush w).map (fun (a, s) => (a, RefW.setChecks b s)) := by
  unfold RefW.flush
  exact put_setChecks b w _ _

def writeBitsCore (w : RefW) (v n : Nat) : Res (Nat × RefW) :=
  if n > 64 then .dpanic else w.put (fieldBits w.e v n) n

theorem writeBits_core (c : Bool) (w : RefW) (v n : Nat)
    (hv : n ≤ 64 → c = false ∨ v % 2 ^ 64 < 2 ^ n) :
    RefW.writeBits (w.setChecks c) v n =
      (writeBitsCore w v n).map (fun (a, s) => (a, RefW.setChecks c s)) := by
  unfold writeBitsCore
  by_cases hn : n > 64
  · rw [if_pos hn, RefW.writeBits, if_pos hn]; rfl
  · rw [if_neg hn, RefW.writeBits_clean _ v n (Nat.le_of_not_lt hn) (hv (Nat.le_of_not_lt hn))]
    exact put_setChecks c w _ _

/-- An operation followed by the rest of a program. With the flag on the operation panics or does
    what the flag-free `x` does, with the flag off it does what `x` does: then the claim for the
    rest of the program gives the claim for the whole. -/
theorem prog_step {α : Type} {x xt xf : Res (Nat × RefW)} {k : Nat → WProg α}
    (ht : xt = .panic ∨ xt = x.map (fun (a, s) => (a, RefW.setChecks true s)))
    (hf : xf = x.map (fun (a, s) => (a, RefW.setChecks false s)))
    (ih : ∀ r (w : RefW), (k r).run RefW.impl (w.setChecks true) ≠ .panic →
      ((k r).run RefW.impl (w.setChecks true)).map (fun (a, s) => (a, s.setChecks false)) =
        (k r).run RefW.impl (w.setChecks false))
    (h : (xt.bind fun p => (k p.1).run RefW.impl p.2) ≠ .panic) :
    (xt.bind fun p => (k p.1).run RefW.impl p.2).map (fun (a, s) => (a, s.setChecks false)) =
      xf.bind fun p => (k p.1).run RefW.impl p.2 := by
  subst hf
  rcases ht with rfl | rfl
  · exact absurd rfl h
  · cases x with
    | ok y => exact ih y.1 y.2 h
    | _ => rfl
end SmallL

/-- A fixed program (one that does not itself look at the flag): if the run with `checks` on does
    not panic, the run with `checks` off gives the same result and the same stream; only the flag
    itself differs. -/
theorem flags_irrelevant_prog {α : Type} (p : WProg α) (w : RefW)
    (h : p.run RefW.impl (w.setChecks true) ≠ .panic) :
    (p.run RefW.impl (w.setChecks true)).map (fun (a, s) => (a, s.setChecks false)) =
      p.run RefW.impl (w.setChecks false) := by
  induction p generalizing w with
  | ret a => rfl
  | panic => exact absurd rfl h
  | dpanic => rfl
  | writeBits v n k ih =>
    rw [WProg.run_writeBits] at h ⊢
    rw [WProg.run_writeBits]
    refine prog_step ?_ (writeBits_core false w v n fun _ => .inl rfl) ih h
    by_cases hd : n ≤ 64 ∧ v % 2 ^ 64 ≥ 2 ^ n
    · exact .inl ((checks_fire_iff_dirty_ref _ v n).2 ⟨hd.1, rfl, hd.2⟩)
    · exact .inr (writeBits_core true w v n fun hn => .inr (Nat.lt_of_not_le fun hge => hd ⟨hn, hge⟩))
  | writeUnary x k ih =>
    rw [WProg.run_writeUnary] at h ⊢
    rw [WProg.run_writeUnary]
    exact prog_step (.inr (writeUnary_setChecks true w x)) (writeUnary_setChecks false w x) ih h
  | flush k ih =>
    rw [WProg.run_flush] at h ⊢
    rw [WProg.run_flush]
    exact prog_step (.inr (flush_setChecks true w)) (flush_setChecks false w) ih h

/-- In particular for a single `write_bits`: if it does not panic with `checks` on, it does
    exactly what it does with `checks` off. -/
theorem flags_irrelevant_ref (w : RefW) (v n : Nat)
    (h : RefW.writeBits { w with checks := true } v n ≠ .panic) :
    (RefW.writeBits { w with checks := true } v n).map (fun (r, s) => (r, { s with checks := false })) =
      RefW.writeBits { w with checks := false } v n := by
  have hrun : ∀ w' : RefW, (WProg.writeBits v n .ret).run RefW.impl w' = RefW.writeBits w' v n :=
    fun w' => (WProg.run_writeBits ..).trans (Res.bind_ok_right _)
  have := flags_irrelevant_prog (.writeBits v n .ret) w (by rw [hrun]; exact h)
  rwa [hrun, hrun] at this

/-- concrete writer: if `write_bits` with `checks` on does not panic, it does exactly what it does
    with `checks` off (same result, same buffer, same words delivered) -/
theorem flags_irrelevant_buf {W : Nat} (e : Endian) (s : BufW W) (v n : Nat)
    (h : (BufW.impl e).writeBits (s.setChecks true) v n ≠ .panic) :
    ((BufW.impl e).writeBits (s.setChecks true) v n).map (fun (r, s') => (r, s'.setChecks false)) =
      (BufW.impl e).writeBits (s.setChecks false) v n := by
  show (BufW.writeBits e (s.setChecks true) (BitVec.ofNat 64 v) n).map _ =
    BufW.writeBits e (s.setChecks false) (BitVec.ofNat 64 v) n
  by_cases hn : n > 64
  · rw [BufW.writeBits_wide e _ _ hn, BufW.writeBits_wide e _ _ hn]; rfl
  · cases hd : (s.setChecks true).dirty (BitVec.ofNat 64 v) n
    · obtain ⟨ws, b, sp, hs⟩ := writeBits_shape e s (BitVec.ofNat 64 v) n (Nat.le_of_not_lt hn)
      rw [hs true hd, hs false rfl, emitAll_setChecks, emitAll_setChecks]
      cases BufW.emitAll s ws <;> rfl
    · exact absurd (BufW.writeBits_dirty e _ _ hn hd) h

/-- `p` (a code writer, as a function of the `checks` feature) is *clean*: with the flag on or off,
    on a growable reference writer with that flag, the write succeeds — in particular no panic —
    returns the codeword length and appends exactly `bits`. -/
def ChecksClean (p : Bool → WProg Nat) (e : Endian) (bits : List Bool) : Prop :=
  ∀ (w : RefW) (c : Bool), w.e = e → w.cap = none →
    (p c).run RefW.impl { w with checks := c } =
      .ok (bits.length, { w with checks := c, bits := w.bits ++ bits })

theorem writes_checks_irrelevant {p : Bool → WProg Nat} {e : Endian} {bits : List Bool}
    (ht : Writes (p true) e true bits) (hf : Writes (p false) e false bits) : ChecksClean p e bits := by
  intro w c he hc
  cases c with
  | true => exact ht { w with checks := true } he hc rfl
  | false => exact hf { w with checks := false } he hc rfl

theorem ChecksClean.no_panic {p : Bool → WProg Nat} {e : Endian} {bits : List Bool}
    (h : ChecksClean p e bits) (w : RefW) (he : w.e = e) (hc : w.cap = none) :
    (p true).run RefW.impl { w with checks := true } ≠ .panic := by
  rw [h w true he hc]; intro h'; cases h'

theorem ChecksClean.same {p : Bool → WProg Nat} {e : Endian} {bits : List Bool}
    (h : ChecksClean p e bits) (w : RefW) (he : w.e = e) (hc : w.cap = none) :
    ((p true).run RefW.impl { w with checks := true }).map (fun (a, s) => (a, s.bits)) =
      ((p false).run RefW.impl { w with checks := false }).map (fun (a, s) => (a, s.bits)) := by
  rw [h w true he hc, h w false he hc]; rfl

theorem unary_writes_clean (e : Endian) (x : Nat) (hx : x < 2 ^ 64 - 1) :
    ChecksClean (fun _ => writeUnaryC x) e (Spec.unary x) :=
  writes_checks_irrelevant (unary_writes e true x hx) (unary_writes e false x hx)

theorem gamma_writes_clean (e : Endian) (n : Nat) (hn : n < 2 ^ 64 - 1) :
    ChecksClean (fun c => writeGammaDefault c n) e (Spec.gamma e n) :=
  writes_checks_irrelevant (gamma_writes e true n hn) (gamma_writes e false n hn)

theorem delta_writes_clean (e : Endian) (n : Nat) (hn : n < 2 ^ 64 - 1) :
    ChecksClean (fun c => writeDeltaDefault c none n) e (Spec.delta e n) :=
  writes_checks_irrelevant (delta_writes e true n hn) (delta_writes e false n hn)

theorem rice_writes_clean (e : Endian) (k n : Nat) (hk : k ≤ 63) (hq : n / 2 ^ k < 2 ^ 64 - 1) :
    ChecksClean (fun c => writeRice c n k) e (Spec.rice e k n) :=
  writes_checks_irrelevant (rice_writes e true k n hk hq) (rice_writes e false k n hk hq)

theorem pi_writes_clean (e : Endian) (k n : Nat) (hk : k ≤ 63) (hn : n < 2 ^ 64 - 1) :
    ChecksClean (fun c => writePi c n k) e (Spec.pi e k n) :=
  writes_checks_irrelevant (pi_writes e true k n hk hn) (pi_writes e false k n hk hn)

theorem expGolomb_writes_clean (e : Endian) (k n : Nat) (hk : k ≤ 63) (hn : n < 2 ^ 64)
    (hk0 : k = 0 → n < 2 ^ 64 - 1) :
    ChecksClean (fun c => writeExpGolomb c none n k) e (Spec.expGolomb e k n) :=
  writes_checks_irrelevant (expGolomb_writes e true k n hk hn hk0) (expGolomb_writes e false k n hk hn hk0)

theorem omega_writes_clean (e : Endian) (n : Nat) (hn : n < 2 ^ 64 - 1) :
    ChecksClean (fun c => writeOmega e c n) e (Spec.omega e n) :=
  writes_checks_irrelevant (omega_writes e true n hn) (omega_writes e false n hn)

theorem minbin_writes_clean (e : Endian) (x u : Nat) (hu : 1 ≤ u) (h64 : u < 2 ^ 64) (hx : x < u) :
    ChecksClean (fun _ => writeMinimalBinary x u) e (Spec.minimalBinary e x u) :=
  writes_checks_irrelevant (minbin_writes e true x u hu h64 hx) (minbin_writes e false x u hu h64 hx)

theorem zeta_writes_clean (e : Endian) (k n : Nat) (hk1 : 1 ≤ k) (hk : k ≤ 63) (hn : n < 2 ^ 64 - 1) :
    ChecksClean (fun _ => writeZetaDefault n k) e (Spec.zetaWrapped e k n) :=
  writes_checks_irrelevant (zeta_writes e true k n hk1 hk hn) (zeta_writes e false k n hk1 hk hn)

theorem golomb_writes_clean (e : Endian) (b n : Nat) (hb : 1 ≤ b) (hb64 : b < 2 ^ 64) (hq : n / b < 2 ^ 64 - 1) :
    ChecksClean (fun _ => writeGolomb n b) e (Spec.golomb e b n) :=
  writes_checks_irrelevant (golomb_writes e true b n hb hb64 hq) (golomb_writes e false b n hb hb64 hq)

theorem vbyte_be_writes_clean (e : Endian) (v : Nat) (hv : v < 2 ^ 64) :
    ChecksClean (fun _ => writeVByteBe v) e (Spec.vbyte e true v) :=
  writes_checks_irrelevant (vbyte_be_writes e true v hv) (vbyte_be_writes e false v hv)

theorem vbyte_le_writes_clean (e : Endian) (v : Nat) (hv : v < 2 ^ 64) :
    ChecksClean (fun _ => writeVByteLe v) e (Spec.vbyte e false v) :=
  writes_checks_irrelevant (vbyte_le_writes e true v hv) (vbyte_le_writes e false v hv)

/-- the corollary the property names, in one statement: for every code of the library and every
    in-domain argument, writing with `checks` on does not panic and appends the same bits as
    with `checks` off, on a growable reference writer -/
theorem library_writes_clean (e : Endian) :
    (∀ x, x < 2 ^ 64 - 1 → ChecksClean (fun _ => writeUnaryC x) e (Spec.unary x)) ∧
    (∀ n, n < 2 ^ 64 - 1 → ChecksClean (fun c => writeGammaDefault c n) e (Spec.gamma e n)) ∧
    (∀ n, n < 2 ^ 64 - 1 → ChecksClean (fun c => writeDeltaDefault c none n) e (Spec.delta e n)) ∧
    (∀ k n, k ≤ 63 → n / 2 ^ k < 2 ^ 64 - 1 → ChecksClean (fun c => writeRice c n k) e (Spec.rice e k n)) ∧
    (∀ k n, k ≤ 63 → n < 2 ^ 64 - 1 → ChecksClean (fun c => writePi c n k) e (Spec.pi e k n)) ∧
    (∀ k n, k ≤ 63 → n < 2 ^ 64 → (k = 0 → n < 2 ^ 64 - 1) →
      ChecksClean (fun c => writeExpGolomb c none n k) e (Spec.expGolomb e k n)) ∧
    (∀ n, n < 2 ^ 64 - 1 → ChecksClean (fun c => writeOmega e c n) e (Spec.omega e n)) ∧
    (∀ x u, 1 ≤ u → u < 2 ^ 64 → x < u → ChecksClean (fun _ => writeMinimalBinary x u) e (Spec.minimalBinary e x u)) ∧
    (∀ k n, 1 ≤ k → k ≤ 63 → n < 2 ^ 64 - 1 → ChecksClean (fun _ => writeZetaDefault n k) e (Spec.zetaWrapped e k n)) ∧
    (∀ b n, 1 ≤ b → b < 2 ^ 64 → n / b < 2 ^ 64 - 1 → ChecksClean (fun _ => writeGolomb n b) e (Spec.golomb e b n)) ∧
    (∀ v, v < 2 ^ 64 → ChecksClean (fun _ => writeVByteBe v) e (Spec.vbyte e true v)) ∧
    (∀ v, v < 2 ^ 64 → ChecksClean (fun _ => writeVByteLe v) e (Spec.vbyte e false v)) :=
  ⟨unary_writes_clean e, gamma_writes_clean e, delta_writes_clean e, rice_writes_clean e, pi_writes_clean e,
   expGolomb_writes_clean e, omega_writes_clean e, minbin_writes_clean e, zeta_writes_clean e,
   golomb_writes_clean e, vbyte_be_writes_clean e, vbyte_le_writes_clean e⟩

example : RefW.writeBits { e := .be, W := 64, checks := true } 5 2 = .panic :=
  (checks_fire_iff_dirty_ref _ 5 2).2 ⟨by decide, rfl, by decide⟩
example : (BufW.impl .le).writeBits (BufW.new 16 (checks := true)) 5 2 = .panic :=
  (checks_fire_iff_dirty .le _ 5 2).2 ⟨by decide, rfl, by decide⟩
/-- the same call with `checks` off silently keeps the low bits -/
example : (RefW.writeBits { e := .be, W := 64, checks := false } 5 2).map (fun (r, s) => (r, s.bits)) =
    .ok (2, [false, true]) := by rfl
example :
    ((BufW.impl .be).writeBits ((BufW.new 8).setChecks true) 5 3).map (fun (r, s') => (r, s'.setChecks false)) =
      (BufW.impl .be).writeBits ((BufW.new 8).setChecks false) 5 3 :=
  flags_irrelevant_buf .be (BufW.new 8) 5 3
    (fun h => absurd ((checks_fire_iff_dirty .be _ 5 3).1 h).2.2 (by decide))
example (w : RefW) (he : w.e = .le) (hc : w.cap = none) :
    (writeGammaDefault true 1000).run RefW.impl { w with checks := true } ≠ .panic :=
  (gamma_writes_clean .le 1000 (by decide)).no_panic w he hc

end Dsi
