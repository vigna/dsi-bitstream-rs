/-
  Headline theorems for C08 (bulk copy moves exactly `n` bits and leaves both streams intact),
  stated over generated definitions only:
  * `GenCopy.genCopyTo e checks (genWImpl e) s t n`: the specialised `BufBitReader::copy_to`
    (lean/Dsi/Gen/CopyBodies.lean), reading with the generated `read_bits` / backend and writing
    through the generated `BufBitWriter` (`genWImpl e`);
  * `GenBufW.genCopyFrom e (genRImpl e) t s n`: the specialised `BufBitWriter::copy_from`
    (lean/Dsi/Gen/BufWriterBodies.lean), reading through the generated `BufBitReader` (`genRImpl e`);
  * `Gen.Traits.copy_to_default` / `copy_from_default (genRImpl e) (genWImpl e)`: the trait-default
    chunked loops (what the build option `no_copy_impls` leaves), between the generated machines;
  * `bitByBit (genRImpl e) (genWImpl e) n`: `n` times `write_bits(read_bits(1)?, 1)?` on the
    generated machines: the bits transferred one at a time.

  `Moved e data strict pos checks bits₀ n x` says that the outcome `x` is a success `(s', t')` with
  * every reader program (`RProg`, under `PeekBounded Wr 0`) run on the generated reader from `s'`
    behaving (value or failure, and the generated `bit_pos` afterwards) as on the reference reader
    standing at bit `pos + n` of the backend: the reader has advanced by exactly `n` bits, and
    reads, peeks, table look-ahead and skips continue from there;
  * every generated writer program run from `t'`, followed by the generated `flush`, delivering the
    canonical byte layout of `bits₀ ++ (the reader's next n bits) ++ (what the program writes)`,
    zero-padded to a word: exactly the reader's next `n` bits, in order, were appended.

  Hypotheses, and why:
  * `Wr ≤ 64` for the specialised `copy_to` (`genCopyTo_needs_W_le_64` in
    Props/BufWriterCopyWideGen.lean: its word loop calls `write_bits(word, Wr)`);
    `e = .be → Wr ≤ 64` for the others (from `readBits_sim`);
  * `hck`: for LE, a `copy_to` compiled without `checks` hands a dirty word to a writer compiled
    with `checks` (`copyTo_le_unchecked_tail_dirty` in Props/Copy.lean: not a configuration cargo
    produces);
  * `hav`: on a strict backend the `n` bits are there (otherwise: `UnexpectedEof`, C09);
  * `n < 2^64` (`n: u64`), `Ww < 2^64`, `hfit` (stream shorter than `2^64` bits), `8 ∣ Ww` (a word
    is a whole number of bytes: the byte image).
-/
import Dsi.Lemmas.Headline2Reader
import Dsi.Lemmas.Headline2Trip
import Dsi.Props.Copy
import Dsi.Props.CopyGen
import Dsi.Props.BufWriterCopyWideGen
namespace Dsi
namespace Headline2
open Headline CopyL BufW E2E

def bitByBit {ρ ω : Type} (ri : RImpl ρ) (wi : WImpl ω) : Nat → ρ → ω → Res (ρ × ω)
  | 0, r, w => .ok (r, w)
  | n + 1, r, w =>
    match ri.readBits r 1 with
    | .ok (v, r') =>
      match wi.writeBits w v 1 with
      | .ok (_, w') => bitByBit ri wi n r' w'
      | .err e => .err e
      | .panic => .panic
      | .dpanic => .dpanic
    | .err e => .err e
    | .panic => .panic
    | .dpanic => .dpanic

theorem bitByBit_succ {ρ ω : Type} (ri : RImpl ρ) (wi : WImpl ω) (n : Nat) (r : ρ) (w : ω) :
    bitByBit ri wi (n + 1) r w = (copyStep ri wi r w 1).bind (fun p => bitByBit ri wi n p.1 p.2) := by
  rw [bitByBit]
  unfold copyStep
  cases ri.readBits r 1 with
  | ok p =>
    obtain ⟨v, r'⟩ := p
    dsimp only
    cases wi.writeBits w v 1 <;> rfl
  | _ => rfl

theorem bitByBit_sim {ρ ω : Type} {ri : RImpl ρ} {wi : WImpl ω} {P : ρ → RefR → Prop}
    {Q : ω → RefW → Prop} (hr : RSim ri P) (hw : WSim wi Q) :
    ∀ (n : Nat) {s : ρ} {r : RefR} {t : ω} {w : RefW}, P s r → Q t w → w.e = r.e →
      ResRel (PQ P Q) (bitByBit ri wi n s t) (refCopyBits n r w) := by
  intro n
  induction n with
  | zero => intro s r t w hP hQ _; exact ⟨hP, hQ⟩
  | succ n ih =>
    intro s r t w hP hQ he
    rw [bitByBit_succ]
    show ResRel _ _ ((refCopy r w 1).bind fun p => refCopyBits n p.1 p.2)
    have h1 := copyStep_sim hr hw hP hQ 1
    rw [copyStep_ref r w 1 (by decide) he] at h1
    -- the reference copy keeps the writer's endianness equal to the reader's
    exact (h1.mono_ok fun a b _ hb hab =>
      (⟨hab, by rw [(refCopy_ok_facts hb).2.1, (refCopy_ok_facts hb).1]; exact he⟩ :
        PQ P Q a b ∧ b.2.e = b.1.e)).bind fun a b hab => ih hab.1.1 hab.1.2 hab.2

theorem rsim_gen {W : Nat} {e : Endian} (hW64 : e = .be → W ≤ 64) :
    RSim (genRImpl e : RImpl (BufR W)) (GInv e) := by
  intro s r n h
  rw [genR_readBits e s h.2]
  exact (readBits_sim hW64 h.1 n).mono_ok fun a b ha _ hab =>
    ⟨hab.1, hab.2, hand_readBits_rinv e h.2 ha⟩

theorem wsim_gen {W : Nat} (e : Endian) : WSim (genWImpl e : WImpl (BufW W)) (BufW.RelC e) := by
  intro t w v n h
  rw [genW_writeBits e t h.1.1 v n]
  exact wsim_bufW e t w v n h

/-- the outcome `x` of a transfer between a generated reader over `⟨data, _, strict⟩` standing at bit
    `pos` and a generated writer holding `bits₀`: success, the reader continues at `pos + n`, the
    writer holds `bits₀` followed by the reader's next `n` bits (see the header) -/
def Moved (e : Endian) {Wr Ww : Nat} (data : List (BitVec Wr)) (strict : Bool) (pos : Nat)
    (checks : Bool) (bits₀ : List Bool) (n : Nat) (x : Res (BufR Wr × BufW Ww)) : Prop :=
  ∃ s' t', x = .ok (s', t') ∧
    (∀ {β : Type} (q : RProg β), PeekBounded Wr 0 q →
      ResRel (fun (a : β × BufR Wr) (b : β × RefR) => a.1 = b.1 ∧
          ((b.2.strict = true ∨ b.2.pos + 2 * Wr ≤ 2 ^ 64) →
            GenBufR.genBitPos e a.2 = .ok (b.2.pos, a.2)))
        (q.run (genRImpl e) s') (q.run RefR.impl (refAt e data strict Wr (pos + n)))) ∧
    (∀ {β : Type} (qw : WProg β) (b : β) (w' : RefW),
      qw.run RefW.impl
        (refW e Ww checks (bits₀ ++ takeZ n ((data.flatMap (wordBits e)).drop pos))) = .ok (b, w') →
      ∃ (t1 : BufW Ww) (k : Nat) (t2 : BufW Ww),
        qw.run (genWImpl e) t' = .ok (b, t1) ∧ (genWImpl e).flush t1 = .ok (k, t2) ∧
        t2.outBytes e = layout e (w'.bits ++ wpad Ww w'.bits.length))

theorem moved_of_sim {e : Endian} {Wr Ww : Nat} (hW64 : e = .be → Wr ≤ 64) (h8 : 8 ∣ Ww)
    (hWw64 : Ww < 2 ^ 64) {data : List (BitVec Wr)} {strict : Bool} {pos : Nat} {checks : Bool}
    {bits₀ : List Bool} {n : Nat} (hav : strict = true → pos + n ≤ data.length * Wr)
    {x : Res (BufR Wr × BufW Ww)}
    (h : ResRel (PQ (GInv e) (BufW.RelC e)) x
      (refCopy (refAt e data strict Wr pos) (refW e Ww checks bits₀) n)) :
    Moved e data strict pos checks bits₀ n x := by
  have hav' : (refAt e data strict Wr pos).avail n = true := avail_refAt hav
  rw [refCopy_growable _ _ n hav' rfl] at h
  obtain ⟨⟨s', t'⟩, hx, hs', ht'⟩ := h.of_ok_right
  refine ⟨s', t', hx, ?_, ?_⟩
  · intro β q hq
    exact (gen_run_sim hW64 q hq hs').mono (fun _ _ hh => ⟨hh.1, fun hf => gen_bitPos_ginv hh.2 hf⟩)
  · intro β qw b w' hqw
    obtain ⟨t1, k, t2, h1, h2, h3, _⟩ := gen_image_of_relC e h8 hWw64 ht' qw hqw
    exact ⟨t1, k, t2, h1, h2, h3⟩

section
variable {α γ : Type} (e : Endian) {Wr Ww : Nat} (hWr : 0 < Wr) (hWw : 0 < Ww) (h8 : 8 ∣ Ww)
  (hWw64 : Ww < 2 ^ 64)
  (data : List (BitVec Wr)) (strict : Bool) (hfit : data.length * Wr + 4 * Wr < 2 ^ 64)
  (pr : RProg α) (hpr : PeekBounded Wr 0 pr) {a : α} {r1 : RefR}
  (hrr : pr.run RefR.impl (refAt e data strict Wr 0) = .ok (a, r1))
  (checks : Bool) (pw : WProg γ) {c : γ} {w1 : RefW}
  (hpw : pw.run RefW.impl (refW e Ww checks []) = .ok (c, w1))
  (n : Nat) (hn : n < 2 ^ 64) (hav : strict = true → r1.pos + n ≤ data.length * Wr)
include hWr hWw h8 hWw64 hfit hpr hrr hpw hn hav

omit h8 hn hav in
theorem copy_setup (hW64 : e = .be → Wr ≤ 64) :
    ∃ (s : BufR Wr) (t : BufW Ww),
      pr.run (genRImpl e) (BufR.new ⟨data, 0, strict⟩) = .ok (a, s) ∧
      pw.run (genWImpl e) (BufW.new Ww checks none) = .ok (c, t) ∧
      GInv e s (refAt e data strict Wr r1.pos) ∧ BufW.RelC e t (refW e Ww checks w1.bits) := by
  obtain ⟨s, hs, hi⟩ := gen_run_of_ref_ok hW64 pr hpr (ginv_new e hWr data strict hfit) hrr
  obtain ⟨t, ht, hrel⟩ := gen_wrun_relC e hWw hWw64 checks pw hpw
  rw [ref_run_refAt hrr] at hi
  exact ⟨s, t, hs, ht, hi, hrel⟩

/-- **C08, the specialised `BufBitReader::copy_to`** (compiled with `checks = ck`), from any reader
    state and any writer state reached by generated programs: the next `n` bits are moved. -/
theorem gen_copy_to_moves (hWr64 : Wr ≤ 64) (ck : Bool) (hck : e = .le → checks = true → ck = true) :
    ∃ (s : BufR Wr) (t : BufW Ww),
      pr.run (genRImpl e) (BufR.new ⟨data, 0, strict⟩) = .ok (a, s) ∧
      pw.run (genWImpl e) (BufW.new Ww checks none) = .ok (c, t) ∧
      Moved e data strict r1.pos checks w1.bits n
        (GenCopy.genCopyTo e ck (genWImpl e) s t (BitVec.ofNat 64 n)) := by
  obtain ⟨s, t, hs, ht, hi, hrel⟩ := copy_setup e hWr hWw hWw64 data strict hfit pr hpr hrr checks pw hpw
    fun _ => hWr64
  refine ⟨s, t, hs, ht, moved_of_sim (fun _ => hWr64) h8 hWw64 hav ?_⟩
  have htn : (BitVec.ofNat 64 n).toNat = n := by rw [BitVec.toNat_ofNat, Nat.mod_eq_of_lt hn]
  rw [GenCopy.genCopyTo_eq e ck _ s t _ hWr (by omega) hi.1.1, htn]
  have hav' : (refAt e data strict Wr r1.pos).avail n = true := avail_refAt hav
  have hsim := copyTo_sim_gen (wsim_gen (W := Ww) e) ck hWr64 hi.1 hrel rfl
    (fits_of_relC hrel) (fun hle hwc => hck hle hwc) hav'
  -- the reader's invariant after the copy
  exact hsim.mono_ok fun x b _ hb hPQ =>
    ⟨hi.of_rel hPQ.1 (by rw [(refCopy_ok_facts hb).1]), hPQ.2⟩

/-- **C08, the other ways of copying**: the specialised `BufBitWriter::copy_from` (any writer word
    width), the trait-default `copy_to` and `copy_from` (`no_copy_impls`), and the transfer one bit
    at a time — all between the generated reader and the generated writer, from any states reached
    by generated programs: each moves the next `n` bits, with the same observable outcome. -/
theorem gen_copy_moves (hW64 : e = .be → Wr ≤ 64) :
    ∃ (s : BufR Wr) (t : BufW Ww),
      pr.run (genRImpl e) (BufR.new ⟨data, 0, strict⟩) = .ok (a, s) ∧
      pw.run (genWImpl e) (BufW.new Ww checks none) = .ok (c, t) ∧
      Moved e data strict r1.pos checks w1.bits n
        (GenBufW.genCopyFrom e (genRImpl e) t s (BitVec.ofNat 64 n)) ∧
      Moved e data strict r1.pos checks w1.bits n
        (Gen.Traits.copy_to_default (genRImpl e) (genWImpl e) s t (BitVec.ofNat 64 n)) ∧
      Moved e data strict r1.pos checks w1.bits n
        (Gen.Traits.copy_from_default (genRImpl e) (genWImpl e) s t (BitVec.ofNat 64 n)) ∧
      Moved e data strict r1.pos checks w1.bits n
        (bitByBit (genRImpl e) (genWImpl e) n s t) := by
  obtain ⟨s, t, hs, ht, hi, hrel⟩ := copy_setup e hWr hWw hWw64 data strict hfit pr hpr hrr checks pw hpw
    hW64
  have htn : (BitVec.ofNat 64 n).toNat = n := by rw [BitVec.toNat_ofNat, Nat.mod_eq_of_lt hn]
  have hav' : (refAt e data strict Wr r1.pos).avail n = true := avail_refAt hav
  have hav0 : (refAt e data strict Wr r1.pos).avail 0 = true := avail_mono _ (Nat.zero_le n) hav'
  have hgen : ResRel (PQ (GInv e) (BufW.RelC e))
      (copyGeneric (genRImpl e) (genWImpl e) (n / 64 + 2) s t n)
      (refCopy (refAt e data strict Wr r1.pos) (refW e Ww checks w1.bits) n) := by
    have := copyGeneric_sim_gen (rsim_gen hW64) (wsim_gen (W := Ww) e) (n / 64 + 2) n hi hrel
    rwa [copyGeneric_ref_gen _ _ _ n rfl hav0 (fits_of_relC hrel) (by omega)] at this
  refine ⟨s, t, hs, ht, moved_of_sim hW64 h8 hWw64 hav ?_, moved_of_sim hW64 h8 hWw64 hav ?_,
    moved_of_sim hW64 h8 hWw64 hav ?_, moved_of_sim hW64 h8 hWw64 hav ?_⟩
  · rw [GenBufWWide.genCopyFrom_eq_all e _ t s _ hrel.1.1, htn]
    exact copyFrom_sim_gen (rsim_gen hW64) hrel hi rfl hav'
  · rw [GenCopy.copy_to_default_eq _ _ (genR_u64 e) s t _ (n / 64 + 2) (by rw [htn]; omega), htn]
    exact hgen
  · rw [GenCopy.copy_from_default_eq _ _ (genR_u64 e) s t _ (n / 64 + 2) (by rw [htn]; omega), htn]
    exact hgen
  · have := bitByBit_sim (rsim_gen hW64) (wsim_gen (W := Ww) e) n hi hrel rfl
    rwa [refCopy_bit_by_bit n _ _ hav0 (fits_of_relC hrel)] at this

end

/-- the reader: 3-byte strict stream after a look-ahead (`peek_bits(8)`, `skip_bits_after_peek(3)`:
    more than the consumed bits are buffered); the writer: five bits `10101` pending -/
def exCopyR : RProg Nat := .peek 8 fun
  | .ok _ => .skipAfterPeek 3 (.ret 0)
  | .error _ => .ret 0
def exCopyW : WProg Nat := WProg.wbits 21 5

/-- four of the five paths computed on the generated machines (17 bits from bit 3 into a 16-bit-word
    writer holding 5 bits), then one more 2-bit write and the flush: the same bytes -/
example :
    ∃ (s : BufR 8) (t : BufW 16),
      exCopyR.run (genRImpl .be) (BufR.new ⟨[0xA5#8, 0x3C#8, 0xF0#8], 0, true⟩) = .ok (0, s) ∧
      exCopyW.run (genWImpl .be) (BufW.new 16 false none) = .ok (5, t) ∧
      ∀ x, (x = GenCopy.genCopyTo .be false (genWImpl .be) s t 17 ∨
            x = GenBufW.genCopyFrom .be (genRImpl .be) t s 17 ∨
            x = Gen.Traits.copy_to_default (genRImpl .be) (genWImpl .be) s t 17 ∨
            x = bitByBit (genRImpl .be) (genWImpl .be) 17 s t) →
        ∃ s' t' t1 t2 k, x = .ok (s', t') ∧ GenBufR.genBitPos .be s' = .ok (20, s') ∧
          (WProg.wbits 3 2).run (genWImpl .be) t' = .ok (2, t1) ∧ (genWImpl .be).flush t1 = .ok (k, t2) ∧
          t2.outBytes .be = [0xA9, 0x4F, 0x3F, 0] := by
  refine ⟨_, _, rfl, rfl, ?_⟩
  intro x hx
  rcases hx with rfl | rfl | rfl | rfl <;> exact ⟨_, _, _, _, _, rfl, rfl, rfl, rfl, rfl⟩

example (e : Endian) {r1 : RefR} {w1 : RefW}
    (hrr : exCopyR.run RefR.impl (refAt e [0xA5#8, 0x3C#8, 0xF0#8] true 8 0) = .ok (0, r1))
    (hpw : exCopyW.run RefW.impl (refW e 16 false []) = .ok (5, w1))
    (n : Nat) (hav : r1.pos + n ≤ 24) :
    ∃ (s : BufR 8) (t : BufW 16),
      exCopyR.run (genRImpl e) (BufR.new ⟨[0xA5#8, 0x3C#8, 0xF0#8], 0, true⟩) = .ok (0, s) ∧
      exCopyW.run (genWImpl e) (BufW.new 16 false none) = .ok (5, t) ∧
      Moved e [0xA5#8, 0x3C#8, 0xF0#8] true r1.pos false w1.bits n
        (GenCopy.genCopyTo e false (genWImpl e) s t (BitVec.ofNat 64 n)) :=
  gen_copy_to_moves e (by decide) (by decide) (by decide) (by decide) _ true (by decide) exCopyR
    ⟨by decide, fun _ => ⟨by decide, trivial⟩, fun _ => trivial⟩ hrr false exCopyW hpw n
    (by omega) (fun _ => hav) (by decide) false (fun _ h => by cases h)

end Headline2
end Dsi
