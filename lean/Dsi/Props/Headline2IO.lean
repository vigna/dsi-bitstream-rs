/-
  Headline theorems for C12 (the `std::io::Read` / `std::io::Write` views of a bit stream are
  byte-exact), stated over generated definitions only:
  * `genIOWrite e Ww (genWImpl e) t buf`: the body of `impl std::io::Write for BufBitWriter::write`
    (lean/Dsi/Gen/IOBodies.lean) running on the generated `BufBitWriter` (`genWImpl e`);
  * `genIORead e Wr (genRImpl e) s buf` / `genIOReadBitR e (genBitRImpl e) s buf`: the bodies of
    `impl std::io::Read for BufBitReader / BitReader::read` on the generated readers; they return
    `(count, the filled buffer, the reader)`;
  * `layout` (canonical byte layout of a bit list), `bitsOfBytes` (the bits of a byte list, eight
    per byte in stream order): the specification.
  Not generated: `BufW.new`, `BufR.new`, `BufW.outBytes` / `wordsOfBytes` / `padTo` (memory image of
  the backend words and back).

  Hypotheses: `∀ b ∈ bs, b < 256` (the elements of a `&[u8]`), word widths multiples of 8,
  `Ww < 2^64`, streams shorter than `2^64` bits (`hfit`), `e = .be → Wr ≤ 64`.
-/
import Dsi.Lemmas.Headline2Image
import Dsi.Lemmas.Headline2Trip
import Dsi.Props.IOGen
namespace Dsi
namespace Headline2
open Headline E2E

def genIOWrite (e : Endian) (Ww : Nat) {ω : Type} (wi : WImpl ω) (w : ω) (buf : List Nat) : Res (Nat × ω) :=
  match e with
  | .be => Gen.IO.write_be Ww wi w buf
  | .le => Gen.IO.write_le Ww wi w buf

def genIORead (e : Endian) (Wr : Nat) {ρ : Type} (ri : RImpl ρ) (r : ρ) (buf : List Nat) :
    Res (Nat × List Nat × ρ) :=
  match e with
  | .be => Gen.IO.read_bufr_be Wr ri r buf
  | .le => Gen.IO.read_bufr_le Wr ri r buf

def genIOReadBitR (e : Endian) {ρ : Type} (ri : RImpl ρ) (r : ρ) (buf : List Nat) :
    Res (Nat × List Nat × ρ) :=
  match e with
  | .be => Gen.IO.read_bitr_be 64 ri r buf
  | .le => Gen.IO.read_bitr_le 64 ri r buf

theorem genIOWrite_eq (e : Endian) (Ww : Nat) {ω : Type} (wi : WImpl ω) (w : ω) (buf : List Nat)
    (hb : ∀ b ∈ buf, b < 256) : genIOWrite e Ww wi w buf = (ioWrite e 8 buf).run wi w := by
  cases e
  · exact GenIO.write_be_eq Ww wi w buf hb
  · exact GenIO.write_le_eq Ww wi w buf hb

theorem genIORead_eq (e : Endian) (Wr : Nat) {ρ : Type} (ri : RImpl ρ)
    (hri : ∀ r k v r', ri.readBits r k = .ok (v, r') → v < 2 ^ 64) (r : ρ) (buf : List Nat) :
    genIORead e Wr ri r buf = ((ioRead e buf.length).run ri r).map fun p => (buf.length, p.1, p.2) := by
  cases e
  · exact GenIO.read_bufr_be_eq Wr ri hri r buf
  · exact GenIO.read_bufr_le_eq Wr ri hri r buf

theorem genIOReadBitR_eq (e : Endian) {ρ : Type} (ri : RImpl ρ)
    (hri : ∀ r k v r', ri.readBits r k = .ok (v, r') → v < 2 ^ 64) (r : ρ) (buf : List Nat) :
    genIOReadBitR e ri r buf = ((ioRead e buf.length).run ri r).map fun p => (buf.length, p.1, p.2) := by
  cases e
  · exact GenIO.read_bitr_be_eq 64 ri hri r buf
  · exact GenIO.read_bitr_le_eq 64 ri hri r buf

/-! ### the `io::Read` program asks for reads of at most 64 bits only -/

theorem simple_ioReadLoop (e : Endian) : ∀ k acc, TrL.Simple (ioReadLoop e k acc)
  | 0, _ => trivial
  | k + 1, _ => ⟨Nat.le_refl 64, fun _ => simple_ioReadLoop e k _⟩

theorem simple_ioRead (e : Endian) (len : Nat) : TrL.Simple (ioRead e len) :=
  (simple_ioReadLoop e _ _).bind fun acc =>
    TrL.Simple.ite (fun _ => trivial) fun _ =>
      ⟨Nat.mul_le_mul_right 8 (Nat.le_of_lt (Nat.mod_lt len (by decide : 0 < 8))), fun _ => trivial⟩

/-- **C12, `io::Write`.**  After any preceding program `pre` (which wrote `w1.bits`: any bit
    offset), the generated `write(bs)` on the generated `BufBitWriter` returns `bs.len()`; after the
    generated `flush` the delivered bytes are the canonical layout of the preceding bits followed by
    the bits of `bs` (zero-padded to a word); if the writer was byte aligned, the memory image
    is the image of the preceding bits, then `bs` verbatim, then the rest; the delivered bytes are
    all `< 256` and their bits are that padded bit list. -/
theorem gen_io_write_image {α : Type} (e : Endian) {Ww : Nat} (hWw : 0 < Ww) (h8w : 8 ∣ Ww)
    (hWw64 : Ww < 2 ^ 64) (checks : Bool) (pre : WProg α) {a : α} {w1 : RefW}
    (hpre : pre.run RefW.impl (refW e Ww checks []) = .ok (a, w1))
    (bs : List Nat) (hb : ∀ b ∈ bs, b < 256) :
    ∃ (t t1 : BufW Ww) (k : Nat) (t2 : BufW Ww),
      pre.run (genWImpl e) (BufW.new Ww checks none) = .ok (a, t) ∧
      genIOWrite e Ww (genWImpl e) t bs = .ok (bs.length, t1) ∧
      (genWImpl e).flush t1 = .ok (k, t2) ∧
      t2.outBytes e = layout e (w1.bits ++ bitsOfBytes e bs ++
        wpad Ww (w1.bits ++ bitsOfBytes e bs).length) ∧
      (8 ∣ w1.bits.length → ∃ tail, t2.outBytes e = layout e w1.bits ++ bs ++ tail) ∧
      bitsOfBytes e (t2.outBytes e) = w1.bits ++ bitsOfBytes e bs ++
        wpad Ww (w1.bits ++ bitsOfBytes e bs).length ∧
      (∀ b ∈ t2.outBytes e, b < 256) := by
  obtain ⟨t, ht, hrel⟩ := gen_wrun_relC e hWw hWw64 checks pre hpre
  have hq := io_write_run e bs hb (refW e Ww checks w1.bits) rfl rfl
  obtain ⟨t1, k, t2, h1, h2, h3, _, h5, h6⟩ := gen_image_of_relC e h8w hWw64 hrel (ioWrite e 8 bs) hq
  -- restated with the projection `{ w with bits := _ }.bits` reduced (definitional), for the `rw` below
  have h3 : t2.outBytes e = layout e (w1.bits ++ bitsOfBytes e bs ++
      wpad Ww (w1.bits ++ bitsOfBytes e bs).length) := h3
  have h5 : bitsOfBytes e (t2.outBytes e) = w1.bits ++ bitsOfBytes e bs ++
      wpad Ww (w1.bits ++ bitsOfBytes e bs).length := h5
  refine ⟨t, t1, k, t2, ht, ?_, h2, h3, ?_, h5, h6⟩
  · rw [genIOWrite_eq e Ww _ t bs hb]; exact h1
  · intro hal
    refine ⟨layout e (wpad Ww (w1.bits ++ bitsOfBytes e bs).length), ?_⟩
    rw [h3]
    rw [layout_append_of_aligned e (w1.bits ++ bitsOfBytes e bs) _
      (by rw [List.length_append, bitsOfBytes_length]; omega),
      io_aligned_image_at e w1.bits bs hb hal]

/-- **C12, `io::Read`, buffered reader.**  A generated `BufBitReader` of any word width built on any
    byte image whose bits are `pre ++ (bits of bs) ++ post`: after the generated `skip_bits` over
    `pre` (any bit offset), the generated `read` into a buffer of `bs.len()` bytes returns
    `bs.len()`, fills the buffer with `bs`, and the generated `bit_pos` is `pre.len() + 8 * bs.len()`. -/
theorem gen_io_read_bytes (e : Endian) {Wr : Nat} (hWr : 0 < Wr) (h8r : 8 ∣ Wr)
    (hW64 : e = .be → Wr ≤ 64) (strict : Bool) (bytes : List Nat) (hbytes : ∀ b ∈ bytes, b < 256)
    (pre post : List Bool) (bs : List Nat) (hb : ∀ b ∈ bs, b < 256)
    (hbits : bitsOfBytes e bytes = pre ++ bitsOfBytes e bs ++ post)
    (buf : List Nat) (hbuf : buf.length = bs.length)
    (hfit : (pre ++ bitsOfBytes e bs ++ post).length + 5 * Wr < 2 ^ 64) :
    ∃ (s1 s2 : BufR Wr),
      (genRImpl e).skipBits (BufR.new ⟨wordsOfBytes e Wr (padTo (Wr / 8) bytes), 0, strict⟩) pre.length
        = .ok s1 ∧
      genIORead e Wr (genRImpl e) s1 buf = .ok (bs.length, bs, s2) ∧
      GenBufR.genBitPos e s2 = .ok (pre.length + 8 * bs.length, s2) := by
  obtain ⟨zeros, s1, hs1, hi1⟩ := gen_image_start e hWr h8r strict hbytes hbits hfit
  obtain ⟨s2, hs2, hi2⟩ := gen_run_of_ref_ok hW64 (ioRead e bs.length) ((simple_ioRead e _).peekBounded Wr _ 0) hi1
    (io_read_run e bs hb pre (post ++ zeros) strict Wr hWr)
  refine ⟨s1, s2, hs1, ?_, gen_bitPos_ginv hi2 (.inr ?_)⟩
  · rw [genIORead_eq e Wr _ (genR_u64 e) s1 buf, hbuf, hs2]; rfl
  · show pre.length + 8 * bs.length + 2 * Wr ≤ 2 ^ 64
    simp only [List.length_append, bitsOfBytes_length] at hfit
    omega

/-- **C12, `io::Read`, unbuffered `BitReader`** (64-bit words): the same statement. -/
theorem gen_io_read_bytes_bitr (e : Endian) (strict : Bool) (bytes : List Nat)
    (hbytes : ∀ b ∈ bytes, b < 256) (pre post : List Bool) (bs : List Nat) (hb : ∀ b ∈ bs, b < 256)
    (hbits : bitsOfBytes e bytes = pre ++ bitsOfBytes e bs ++ post)
    (buf : List Nat) (hbuf : buf.length = bs.length)
    (hfit : 2 * (pre ++ bitsOfBytes e bs ++ post).length + 5 * 64 < 2 ^ 64) :
    ∃ (s1 s2 : BitR),
      (genBitRImpl e).skipBits { data := ⟨wordsOfBytes e 64 (padTo 8 bytes), 0, strict⟩ } pre.length
        = .ok s1 ∧
      genIOReadBitR e (genBitRImpl e) s1 buf = .ok (bs.length, bs, s2) ∧
      genBitRBitPos e s2 = .ok (pre.length + 8 * bs.length, s2) := by
  simp only [List.length_append, bitsOfBytes_length] at hfit
  obtain ⟨zeros, s1, hs1, hrel1, hlen⟩ := gen_bitr_image_start e strict hbytes hbits (by omega)
  simp only [List.length_append, bitsOfBytes_length] at hlen
  obtain ⟨s2, hs2, hrel2, _⟩ := gen_bitr_run_of_ref_ok (ioRead e bs.length) hrel1
    ⟨(simple_ioRead e _).progOK _ 0, .inl ((simple_ioRead e _).noSkip _)⟩ (io_read_run e bs hb pre (post ++ zeros) strict 32 (by decide))
    (by show pre.length + 8 * bs.length + (s1.data.data.length + 3) * 64 < 2 ^ 64; omega)
  refine ⟨s1, s2, hs1, ?_, genBitRBitPos_rel hrel2.1 ?_⟩
  · rw [genIOReadBitR_eq e _ (genBitR_u64 e) s1 buf, hbuf, hs2]; rfl
  · show pre.length + 8 * bs.length < 2 ^ 64
    omega

/-- **C12, round trip on the generated machines.**  After any preceding program, `bs` written
    through the generated `io::Write::write` on the generated `BufBitWriter` (word width `Ww`) and
    flushed; a generated `BufBitReader` (word width `Wr`, strict or not) built on the delivered
    bytes skips the preceding bits and the generated `io::Read::read` returns `bs.len()` and `bs`. -/
theorem gen_io_roundtrip {α : Type} (e : Endian) {Ww Wr : Nat} (hWw : 0 < Ww) (h8w : 8 ∣ Ww)
    (hWw64 : Ww < 2 ^ 64) (hWr : 0 < Wr) (h8r : 8 ∣ Wr) (hW64 : e = .be → Wr ≤ 64)
    (checks strict : Bool) (pre : WProg α) {a : α} {w1 : RefW}
    (hpre : pre.run RefW.impl (refW e Ww checks []) = .ok (a, w1))
    (bs : List Nat) (hb : ∀ b ∈ bs, b < 256) (buf : List Nat) (hbuf : buf.length = bs.length)
    (hfit : w1.bits.length + 8 * bs.length + Ww + 5 * Wr < 2 ^ 64) :
    ∃ (t t1 : BufW Ww) (k : Nat) (t2 : BufW Ww) (s1 s2 : BufR Wr),
      pre.run (genWImpl e) (BufW.new Ww checks none) = .ok (a, t) ∧
      genIOWrite e Ww (genWImpl e) t bs = .ok (bs.length, t1) ∧
      (genWImpl e).flush t1 = .ok (k, t2) ∧
      (genRImpl e).skipBits
        (BufR.new ⟨wordsOfBytes e Wr (padTo (Wr / 8) (t2.outBytes e)), 0, strict⟩) w1.bits.length
        = .ok s1 ∧
      genIORead e Wr (genRImpl e) s1 buf = .ok (bs.length, bs, s2) ∧
      GenBufR.genBitPos e s2 = .ok (w1.bits.length + 8 * bs.length, s2) := by
  obtain ⟨t, t1, k, t2, h1, h2, h3, _, _, h6, h7⟩ :=
    gen_io_write_image e hWw h8w hWw64 checks pre hpre bs hb
  obtain ⟨s1, s2, h8, h9, h10⟩ := gen_io_read_bytes e hWr h8r hW64 strict (t2.outBytes e) h7
    w1.bits (wpad Ww (w1.bits ++ bitsOfBytes e bs).length) bs hb h6 buf hbuf (by
      have := wpad_length_lt (w1.bits ++ bitsOfBytes e bs).length hWw
      simp only [List.length_append, bitsOfBytes_length] at this ⊢
      omega)
  exact ⟨t, t1, k, t2, s1, s2, h1, h2, h3, h8, h9, h10⟩

/-- 11 bytes (one 8-byte chunk, a 3-byte remainder) written at bit offset 5 of a 16-bit LE writer,
    read back by an 8-bit-word strict LE reader: the generated machines compute -/
example : ∃ (t t1 : BufW 16) (k : Nat) (t2 : BufW 16) (s1 s2 : BufR 8),
    (WProg.wbits 21 5).run (genWImpl .le) (BufW.new 16 false none) = .ok (5, t) ∧
    genIOWrite .le 16 (genWImpl .le) t [1, 2, 3, 4, 5, 6, 7, 8, 9, 10, 255] = .ok (11, t1) ∧
    (genWImpl .le).flush t1 = .ok (k, t2) ∧
    (genRImpl .le).skipBits (BufR.new ⟨wordsOfBytes .le 8 (padTo (8 / 8) (t2.outBytes .le)), 0, true⟩) 5
      = .ok s1 ∧
    genIORead .le 8 (genRImpl .le) s1 (List.replicate 11 0)
      = .ok (11, [1, 2, 3, 4, 5, 6, 7, 8, 9, 10, 255], s2) ∧
    GenBufR.genBitPos .le s2 = .ok (93, s2) :=
  ⟨_, _, _, _, _, _, rfl, rfl, rfl, rfl, rfl, rfl⟩

example : ∃ (t t1 : BufW 32) (k : Nat) (t2 : BufW 32),
    (WProg.wbits 0xAB 8).run (genWImpl .be) (BufW.new 32 false none) = .ok (8, t) ∧
    genIOWrite .be 32 (genWImpl .be) t [1, 2, 3, 4, 5, 6, 7, 8, 9] = .ok (9, t1) ∧
    (genWImpl .be).flush t1 = .ok (k, t2) ∧
    t2.outBytes .be = [0xAB, 1, 2, 3, 4, 5, 6, 7, 8, 9, 0, 0] := ⟨_, _, _, _, rfl, rfl, rfl, rfl⟩

example (e : Endian) {w1 : RefW} (hpre : (WProg.wbits 21 5).run RefW.impl (refW e 16 true []) = .ok (5, w1))
    (hl : w1.bits.length = 5) :
    ∃ (t t1 : BufW 16) (k : Nat) (t2 : BufW 16) (s1 s2 : BufR 32),
      (WProg.wbits 21 5).run (genWImpl e) (BufW.new 16 true none) = .ok (5, t) ∧
      genIOWrite e 16 (genWImpl e) t [1, 2, 3, 4, 5, 6, 7, 8, 9, 10, 255] = .ok (11, t1) ∧
      (genWImpl e).flush t1 = .ok (k, t2) ∧
      (genRImpl e).skipBits
        (BufR.new ⟨wordsOfBytes e 32 (padTo (32 / 8) (t2.outBytes e)), 0, false⟩) w1.bits.length = .ok s1 ∧
      genIORead e 32 (genRImpl e) s1 (List.replicate 11 7) = .ok (11, [1, 2, 3, 4, 5, 6, 7, 8, 9, 10, 255], s2) ∧
      GenBufR.genBitPos e s2 = .ok (w1.bits.length + 8 * 11, s2) :=
  gen_io_roundtrip e (by decide) (by decide) (by decide) (by decide) (by decide) (fun _ => by decide)
    true false _ hpre _ (by decide) _ rfl (by rw [hl]; decide)

/-- the unbuffered reader on a byte image: 3 bits, then the bytes `[0xDE, 0xAD]`, then 5 bits -/
example : ∃ (s1 s2 : BitR),
    (genBitRImpl .be).skipBits { data := ⟨wordsOfBytes .be 64 (padTo 8 [0xBB, 0xD5, 0xB5]), 0, true⟩ } 3
      = .ok s1 ∧
    genIOReadBitR .be (genBitRImpl .be) s1 [0, 0] = .ok (2, [0xDE, 0xAD], s2) ∧
    genBitRBitPos .be s2 = .ok (19, s2) := ⟨_, _, rfl, rfl, rfl⟩

end Headline2
end Dsi
