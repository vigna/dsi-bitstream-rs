/-
  Minimal binary, Golomb, ζ (wrapped and published), VByte (bit-stream and
  byte-level, property C18) — the L2 programs of `Dsi.Codes` / `Dsi.VByteIO` against the published
  codewords of `Dsi.Spec`, on the L1 reference reader / writer.
  Helper lemmas are in `Dsi/Lemmas/CodesB*.lean` (namespace `Dsi.CodesB`).
-/
import Dsi.Lemmas.CodesBCodes
import Dsi.Lemmas.CodesBVByteBits
namespace Dsi
open Dsi.CodesB

theorem minbin_writes (e : Endian) (checks : Bool) (x u : Nat) (hu : 1 ≤ u) (h64 : u < 2 ^ 64)
    (hx : x < u) : Writes (writeMinimalBinary x u) e checks (Spec.minimalBinary e x u) := by
  obtain ⟨hTu, hT, hl, hp⟩ := mb_arith hu h64
  have hl : u.log2 ≤ 64 := Nat.le_succ_of_le hl
  unfold writeMinimalBinary
  rw [if_neg (Nat.ne_of_gt hu)]
  -- substitutes the `let l`, `let limit` of the definition
  simp only
  by_cases h : x < mbLimit u
  · rw [if_pos h, specMB_short e hu h64 h]
    exact Writes.ofV (WritesV.bits_const hl (clean_of_lt _ (Nat.lt_of_lt_of_le h hT)))
      (fieldBits_length ..).symm
  · have : (x + mbLimit u) / 2 < 2 ^ u.log2 ∧ ¬ x + mbLimit u ≥ 2 ^ 64 := by omega
    rw [if_neg h, specMB_long e hu h64 h, if_neg this.2]
    exact Writes.ofV
      (WritesV.writeBits hl (clean_of_lt _ this.1)
        (WritesV.bits_const (by decide) (clean_of_lt _ (Nat.mod_lt _ (by decide)))))
      (by rw [List.length_append, fieldBits_length, fieldBits_length])

theorem minbin_reads (e : Endian) (x u : Nat) (hu : 1 ≤ u) (h64 : u < 2 ^ 64) (hx : x < u) :
    Reads (readMinimalBinary u) e (Spec.minimalBinary e x u) x := by
  obtain ⟨hTu, hT, hl, hp⟩ := mb_arith hu h64
  have hl : u.log2 ≤ 64 := Nat.le_succ_of_le hl
  unfold readMinimalBinary
  rw [if_neg (Nat.ne_of_gt hu)]
  -- substitutes the `let l`, `let limit` of the definition
  simp only
  by_cases h : x < mbLimit u
  · rw [specMB_short e hu h64 h]
    exact Reads.bits_pure hl (by rw [Nat.mod_eq_of_lt (Nat.lt_of_lt_of_le h hT), if_pos h])
  · have : (x + mbLimit u) / 2 < 2 ^ u.log2 ∧ ¬ (x + mbLimit u) / 2 < mbLimit u ∧
        ¬ (x + mbLimit u ≥ 2 ^ 64 ∨ x + mbLimit u < mbLimit u) := by omega
    rw [specMB_long e hu h64 h]
    refine Reads.readBits hl ?_
    rw [Nat.mod_eq_of_lt this.1, if_neg this.2.1]
    refine Reads.bits_pure (by decide) ?_
    rw [Nat.pow_one, Nat.mod_mod, Nat.div_add_mod, if_neg this.2.2, Nat.add_sub_cancel]

theorem minbin_len (e : Endian) (x u : Nat) (hu : 1 ≤ u) (h64 : u < 2 ^ 64) :
    lenMinimalBinary x u = (Spec.minimalBinary e x u).length := by
  rw [lenMinimalBinary, if_neg (by omega)]
  by_cases h : x < mbLimit u
  · rw [if_neg (by omega), specMB_short e hu h64 h, fieldBits_length]
  · rw [if_pos (by omega), specMB_long e hu h64 h, List.length_append, fieldBits_length,
      fieldBits_length]

/-- the wrapped limit is the published one on the whole range, `u.log2 = 63` included -/
theorem mbLimit_published (u : Nat) (hu : 1 ≤ u) (h64 : u < 2 ^ 64) :
    mbLimit u = 2 ^ (u.log2 + 1) - u :=
  mbLimit_eq hu h64

example : Writes (writeMinimalBinary 7 10) .be true (Spec.minimalBinary .be 7 10) :=
  minbin_writes .be true 7 10 (by decide) (by decide) (by decide)
example : Reads (readMinimalBinary (2 ^ 64 - 1)) .le (Spec.minimalBinary .le 5 (2 ^ 64 - 1)) 5 :=
  minbin_reads .le 5 (2 ^ 64 - 1) (by decide) (by decide) (by decide)
example : lenMinimalBinary 7 10 = (Spec.minimalBinary .le 7 10).length :=
  minbin_len .le 7 10 (by decide) (by decide)

theorem zeta_writes (e : Endian) (checks : Bool) (k n : Nat) (hk1 : 1 ≤ k) (hk : k ≤ 63)
    (hn : n < 2 ^ 64 - 1) : Writes (writeZetaDefault n k) e checks (Spec.zetaWrapped e k n) := by
  obtain ⟨hhk, hU1, hU64, _, hxU⟩ := zeta_range (m := n + 1) (by omega) (by omega) hk1
  have hh : (n + 1).log2 / k < 2 ^ 64 - 1 :=
    Nat.lt_of_le_of_lt (Nat.div_le_self ..) (Nat.lt_trans (log2_lt_64 (by omega)) (by decide))
  unfold writeZetaDefault
  rw [if_neg (by omega), if_neg (by omega), if_neg (by omega), zetaWrapped_eq e k n (by omega)]
  exact Writes.unary_then hh (minbin_writes e checks _ _ hU1 hU64 hxU)

theorem zeta_reads (e : Endian) (k n : Nat) (hk1 : 1 ≤ k) (hk : k ≤ 63) (hn : n < 2 ^ 64 - 1) :
    Reads (readZetaDefault k) e (Spec.zetaWrapped e k n) n := by
  obtain ⟨hhk, hU1, hU64, hlm, hxU⟩ := zeta_range (m := n + 1) (by omega) (by omega) hk1
  unfold readZetaDefault
  rw [zetaWrapped_eq e k n (by omega)]
  refine Reads.readUnary ?_
  rw [if_neg (by omega)]
  refine Reads.bind_pure (minbin_reads e _ _ hU1 hU64 hxU) ?_
  rw [Nat.add_sub_cancel' hlm, if_neg (by omega), Nat.add_sub_cancel]

/-- the length needs no bound on `k` -/
theorem zetaWrapped_length (e : Endian) {k : Nat} (hk1 : 1 ≤ k) (n : Nat) (hn : n < 2 ^ 64 - 1) :
    (Spec.zetaWrapped e k n).length = lenZetaDefault n k := by
  obtain ⟨hhk, hU1, hU64, _, _⟩ := zeta_range (m := n + 1) (by omega) (by omega) hk1
  rw [zetaWrapped_eq e k n (by omega), List.length_append, unaryBits_length,
    ← minbin_len e _ _ hU1 hU64]
  rfl

/-- `zetaWrapped_length` with the sides swapped; `hk` is not used -/
theorem zeta_len (e : Endian) (k n : Nat) (hk1 : 1 ≤ k) (hk : k ≤ 63) (hn : n < 2 ^ 64 - 1) :
    lenZetaDefault n k = (Spec.zetaWrapped e k n).length :=
  (zetaWrapped_length e hk1 n hn).symm

theorem zeta_published (e : Endian) (k n : Nat) (h : ((n + 1).log2 / k + 1) * k ≤ 64) :
    Spec.zetaWrapped e k n = Spec.zeta e k n := by
  simp only [Spec.zetaWrapped, Spec.zeta, if_pos h]

example : Writes (writeZetaDefault 1000 3) .be false (Spec.zetaWrapped .be 3 1000) :=
  zeta_writes .be false 3 1000 (by decide) (by decide) (by decide)
example : Reads (readZetaDefault 5) .le (Spec.zetaWrapped .le 5 (2 ^ 64 - 2)) (2 ^ 64 - 2) :=
  zeta_reads .le 5 (2 ^ 64 - 2) (by decide) (by decide) (by decide)
example : lenZetaDefault 1000 3 = (Spec.zetaWrapped .be 3 1000).length :=
  zeta_len .be 3 1000 (by decide) (by decide) (by decide)

/-! `golomb_writes` needs the quotient to be a legal unary argument (`n / b < 2^64 − 1`): the only
excluded pair in range is `b = 1`, `n = 2^64 − 1`, where the writer panics
(`golomb_writes_max_false`). -/

theorem golomb_writes (e : Endian) (checks : Bool) (b n : Nat) (hb : 1 ≤ b) (hb64 : b < 2 ^ 64)
    (hq : n / b < 2 ^ 64 - 1) : Writes (writeGolomb n b) e checks (Spec.golomb e b n) := by
  unfold writeGolomb
  rw [if_neg (by omega)]
  exact Writes.unary_then hq (minbin_writes e checks _ _ hb hb64 (Nat.mod_lt _ hb))

theorem golomb_quot_ok (b n : Nat) (hb : 1 ≤ b) (hn : n < 2 ^ 64) (hne : ¬ (b = 1 ∧ n = 2 ^ 64 - 1)) :
    n / b < 2 ^ 64 - 1 := by
  by_cases h1 : b = 1
  · subst h1; rw [Nat.div_one]; omega
  · have : n / b ≤ n / 2 := Nat.div_le_div_left (by omega) (by omega)
    omega

/-- for `b = 1`, `n = 2^64 − 1` the writer does not write any bit string: `write_unary(u64::MAX)`
    panics -/
theorem golomb_writes_max_false (e : Endian) (checks : Bool) (bits : List Bool) :
    ¬ Writes (writeGolomb (2 ^ 64 - 1) 1) e checks bits := by
  intro h
  have := h { e := e, W := 64, checks := checks } rfl rfl rfl
  simp [writeGolomb, WProg.run, RefW.impl, RefW.writeUnary] at this

theorem golomb_reads (e : Endian) (b n : Nat) (hb : 1 ≤ b) (hb64 : b < 2 ^ 64) (hn : n < 2 ^ 64) :
    Reads (readGolomb b) e (Spec.golomb e b n) n := by
  unfold readGolomb
  refine Reads.readUnary (Reads.bind_pure (minbin_reads e _ _ hb hb64 (Nat.mod_lt _ hb)) ?_)
  rw [Nat.mul_comm, Nat.div_add_mod, if_neg (by omega)]

theorem golomb_len (e : Endian) (b n : Nat) (hb : 1 ≤ b) (hb64 : b < 2 ^ 64) :
    lenGolomb n b = (Spec.golomb e b n).length := by
  rw [lenGolomb, minbin_len e _ _ hb hb64]
  exact (List.length_append.trans (congrArg (· + _) (unaryBits_length _))).symm

example : Writes (writeGolomb 100 7) .be true (Spec.golomb .be 7 100) :=
  golomb_writes .be true 7 100 (by decide) (by decide) (by decide)
example : Reads (readGolomb 7) .le (Spec.golomb .le 7 100) 100 :=
  golomb_reads .le 7 100 (by decide) (by decide) (by decide)
example : lenGolomb 100 7 = (Spec.golomb .be 7 100).length :=
  golomb_len .be 7 100 (by decide) (by decide)

theorem vbyte_be_bytes (v : Nat) (hv : v < 2 ^ 64) : vbyteBeBytes v = Spec.vbyteBytes true v := by
  rw [spec_be_eq_mark, ← beBytes_groupsVal (specGroups_ne_nil hv) (specGroups_length_le hv),
    groupsVal_specGroups hv]

theorem vbyte_le_bytes (v : Nat) (hv : v < 2 ^ 64) : vbyteLeBytes v = Spec.vbyteBytes false v := by
  rw [spec_le_eq_mark, ← leBytes_groupsVal (specGroups_ne_nil hv) (specGroups_length_le hv),
    groupsVal_specGroups hv]

namespace CodesB
theorem vbyteLeBytes_val (v : Nat) (hv : v < 2 ^ 64) : vbyteValLe (vbyteLeBytes v) = v := by
  rw [vbyte_le_bytes v hv]; exact valLe_spec hv

theorem vbyteBeBytes_val (v : Nat) (hv : v < 2 ^ 64) : vbyteValBe (vbyteBeBytes v) = v := by
  rw [vbyte_be_bytes v hv]; exact valBe_spec hv
end CodesB

theorem vbyte_be_writes (e : Endian) (checks : Bool) (v : Nat) (hv : v < 2 ^ 64) :
    Writes (writeVByteBe v) e checks (Spec.vbyte e true v) := by
  rw [writeVByteBe, vbyte_be_bytes v hv]
  exact Writes.ofV (writeBytesP_writes e checks _ (spec_lt true v)) (bits_length e _).symm

theorem vbyte_le_writes (e : Endian) (checks : Bool) (v : Nat) (hv : v < 2 ^ 64) :
    Writes (writeVByteLe v) e checks (Spec.vbyte e false v) := by
  rw [writeVByteLe, vbyte_le_bytes v hv]
  exact Writes.ofV (writeBytesP_writes e checks _ (spec_lt false v)) (bits_length e _).symm

theorem vbyte_be_reads (e : Endian) (fuel v : Nat) (hf : 10 ≤ fuel) (hv : v < 2 ^ 64) :
    Reads (readVByteBe fuel) e (Spec.vbyte e true v) v := by
  have hl : (Spec.vbyteBytes true v).length ≤ 10 := by
    rw [specBytes_length]; exact (vbyteLen_bounds v hv).2.1
  have := readVByteBe_reads e fuel _ (spec_term true hv) (spec_lt true v) (Nat.le_trans hl hf)
    (by rw [valBe_spec hv]; exact hv)
  rwa [valBe_spec hv] at this

theorem vbyte_le_reads (e : Endian) (fuel v : Nat) (hf : 10 ≤ fuel) (hv : v < 2 ^ 64) :
    Reads (readVByteLe fuel) e (Spec.vbyte e false v) v := by
  have hl : (Spec.vbyteBytes false v).length ≤ 10 := by
    rw [specBytes_length]; exact (vbyteLen_bounds v hv).2.1
  have := readVByteLe_reads e fuel _ (spec_term false hv) (spec_lt false v) (Nat.le_trans hl hf)
    (by rw [valLe_spec hv]; exact hv)
  rwa [valLe_spec hv] at this

theorem vbyte_byte_len (v : Nat) (hv : v < 2 ^ 64) : byteLenVByte v = Spec.vbyteLen v := by
  obtain ⟨j, hl, hj, hb⟩ := vbyteLen_block hv
  rw [hl, byteLenVByte, lenLoop_of_block 10 j v 1 (by omega) hb, Nat.add_comm]

theorem vbyte_bit_len (e : Endian) (big : Bool) (v : Nat) (hv : v < 2 ^ 64) :
    bitLenVByte v = (Spec.vbyte e big v).length := by
  rw [Spec.vbyte, bits_length, specBytes_length, bitLenVByte, vbyte_byte_len v hv]

example : Writes (writeVByteBe 300000) .le true (Spec.vbyte .le true 300000) :=
  vbyte_be_writes .le true 300000 (by decide)
example : Reads (readVByteLe 12) .be (Spec.vbyte .be false (2 ^ 64 - 1)) (2 ^ 64 - 1) :=
  vbyte_le_reads .be 12 (2 ^ 64 - 1) (by decide) (by decide)
example : Reads (readVByteBe 10) .be (Spec.vbyte .be true (2 ^ 64 - 1)) (2 ^ 64 - 1) :=
  vbyte_be_reads .be 10 (2 ^ 64 - 1) (by decide) (by decide)
example : bitLenVByte 300000 = (Spec.vbyte .be true 300000).length :=
  vbyte_bit_len .be true 300000 (by decide)

/-! VByte at byte level: property C18 -/

/-- decode ∘ encode = id, big-endian, with any trailing bytes left unread -/
theorem vbyte_be_roundtrip (v : Nat) (rest : List Nat) (hv : v < 2 ^ 64) :
    vbyteReadBe (vbyteBeBytes v ++ rest) = .ok (v, rest) := by
  have := vbyteReadBe_ok _ rest (spec_term true hv) (by rw [valBe_spec hv]; exact hv)
  rwa [valBe_spec hv, ← vbyte_be_bytes v hv] at this

/-- decode ∘ encode = id, little-endian, likewise with any trailing bytes left unread -/
theorem vbyte_le_roundtrip (v : Nat) (rest : List Nat) (hv : v < 2 ^ 64) :
    vbyteReadLe (vbyteLeBytes v ++ rest) = .ok (v, rest) := by
  have := vbyteReadLe_ok _ rest (spec_term false hv) (by rw [valLe_spec hv]; exact hv)
  rwa [valLe_spec hv, ← vbyte_le_bytes v hv] at this

/-- length steps: `vbyteLen v = k` exactly on `[offset (k−1), offset k)` (for every `k ≥ 1`; only
    `k ≤ 10` occurs, see `vbyte_len_le_10`) -/
theorem vbyte_len_step (v k : Nat) (hv : v < 2 ^ 64) (hk : 1 ≤ k) :
    Spec.vbyteLen v = k ↔ Spec.vbyteOffset (k - 1) ≤ v ∧ v < Spec.vbyteOffset k := by
  obtain ⟨j, hl, _, hb⟩ := vbyteLen_block hv
  obtain ⟨i, rfl⟩ : ∃ i, k = i + 1 := ⟨k - 1, by omega⟩
  rw [hl, Nat.add_sub_cancel]
  exact ⟨fun h => Nat.succ.inj h ▸ hb, fun h => congrArg (· + 1) (block_unique hb h)⟩

theorem vbyte_len_le_10 (v : Nat) (hv : v < 2 ^ 64) : 1 ≤ Spec.vbyteLen v ∧ Spec.vbyteLen v ≤ 10 :=
  ⟨(vbyteLen_bounds v hv).1, (vbyteLen_bounds v hv).2.1⟩

theorem vbyte_written_len (v : Nat) (hv : v < 2 ^ 64) :
    (vbyteWriteBe v).2 = Spec.vbyteLen v ∧ (vbyteWriteLe v).2 = Spec.vbyteLen v := by
  simp [vbyteWriteBe, vbyteWriteLe, vbyte_be_bytes v hv, vbyte_le_bytes v hv, specBytes_length]

/-- Completeness (encode ∘ decode = id on accepted strings), big-endian.  The side condition is
    that the *unwrapped* value of the string (`CodesB.vbyteValBe`, the same recurrence on `Nat`
    without the `<< 7` truncation) fits in 64 bits; then the reader returns that value and its
    encoding is the string.  Without it the statement is false
    (`vbyte_be_complete_unconditional_false`). -/
theorem vbyte_be_complete (s : List Nat) (w : Nat) (h : vbyteReadBe s = .ok (w, []))
    (hb : ∀ b ∈ s, b < 256) (hv : vbyteValBe s < 2 ^ 64) :
    w = vbyteValBe s ∧ vbyteBeBytes w = s := by
  have ht := vbyteReadBe_inv s w h
  have h2 := vbyteReadBe_ok s [] ht hv
  rw [List.append_nil, h] at h2
  cases h2
  exact ⟨rfl, be_encode_decode s ht hb hv⟩

/-- the same with a side condition that needs no auxiliary definition: at most 9 bytes -/
theorem vbyte_be_complete_short (s : List Nat) (w : Nat) (h : vbyteReadBe s = .ok (w, []))
    (hb : ∀ b ∈ s, b < 256) (hl : s.length ≤ 9) : vbyteBeBytes w = s :=
  (vbyte_be_complete s w h hb
    (by rw [valBe_eq]; exact groupsVal_lt_of_length_le (by rwa [List.length_reverse]))).2

/-- Completeness, little-endian (side condition: `CodesB.vbyteValLe s < 2^64`). -/
theorem vbyte_le_complete (s : List Nat) (w : Nat) (h : vbyteReadLe s = .ok (w, []))
    (hb : ∀ b ∈ s, b < 256) (hv : vbyteValLe s < 2 ^ 64) :
    w = vbyteValLe s ∧ vbyteLeBytes w = s := by
  have ht := vbyteReadLe_inv s w h
  have h2 := vbyteReadLe_ok s [] ht hv
  rw [List.append_nil, h] at h2
  cases h2
  exact ⟨rfl, le_encode_decode s ht hb hv⟩

theorem vbyte_le_complete_short (s : List Nat) (w : Nat) (h : vbyteReadLe s = .ok (w, []))
    (hb : ∀ b ∈ s, b < 256) (hl : s.length ≤ 9) : vbyteLeBytes w = s :=
  (vbyte_le_complete s w h hb
    (valLe_eq s (vbyteReadLe_inv s w h) ▸ groupsVal_lt_of_length_le hl)).2

/-- a string is accepted with nothing left over only if it is terminated (every byte but the
    last has its top bit set, the last has not) -/
theorem vbyte_accept_terminated (s : List Nat) (w : Nat) :
    (vbyteReadBe s = .ok (w, []) → Term s) ∧ (vbyteReadLe s = .ok (w, []) → Term s) :=
  ⟨vbyteReadBe_inv s w, vbyteReadLe_inv s w⟩

theorem vbyte_val_step (s : List Nat) (ht : Term s) :
    (Spec.vbyteOffset (s.length - 1) ≤ vbyteValBe s ∧ vbyteValBe s < Spec.vbyteOffset s.length) ∧
    (Spec.vbyteOffset (s.length - 1) ≤ vbyteValLe s ∧ vbyteValLe s < Spec.vbyteOffset s.length) := by
  have hs : s ≠ [] := fun h => by subst h; exact ht
  rw [valBe_eq, valLe_eq s ht]
  exact ⟨List.length_reverse ▸ groupsVal_bounds _ (mt List.reverse_eq_nil_iff.1 hs),
    groupsVal_bounds s hs⟩

/-- The completeness statement without a no-wrap side condition is false, big-endian: a 10-byte
    string whose value needs 65 bits is accepted (`<< 7` drops the high bit) and decodes to `0`. -/
theorem vbyte_be_complete_unconditional_false :
    ¬ ∀ (s : List Nat) (w : Nat), vbyteReadBe s = .ok (w, []) → w < 2 ^ 64 →
        (∀ b ∈ s, b < 256) → vbyteBeBytes w = s := by
  intro h
  have := h [0x80, 0xFE, 0xFE, 0xFE, 0xFE, 0xFE, 0xFE, 0xFE, 0xFF, 0x00] 0 (by rfl) (by decide)
    (by decide)
  revert this
  decide

/-- … and little-endian: in the tenth byte only bit 0 survives `<< 63`, so `[0x80 ×9, 0x02]` is
    accepted and decodes to the same value as `[0x80 ×9, 0x00]`. -/
theorem vbyte_le_complete_unconditional_false :
    ¬ ∀ (s : List Nat) (w : Nat), vbyteReadLe s = .ok (w, []) → w < 2 ^ 64 →
        (∀ b ∈ s, b < 256) → vbyteLeBytes w = s := by
  intro h
  have := h [0x80, 0x80, 0x80, 0x80, 0x80, 0x80, 0x80, 0x80, 0x80, 0x02] 9295997013522923648
    (by rfl) (by decide) (by decide)
  revert this
  decide

example : vbyteReadBe (vbyteBeBytes 300000 ++ [1, 2, 3]) = .ok (300000, [1, 2, 3]) :=
  vbyte_be_roundtrip 300000 [1, 2, 3] (by decide)
example : vbyteReadLe (vbyteLeBytes (2 ^ 64 - 1) ++ [7]) = .ok (2 ^ 64 - 1, [7]) :=
  vbyte_le_roundtrip (2 ^ 64 - 1) [7] (by decide)
example : Spec.vbyteLen 16512 = 3 ↔ Spec.vbyteOffset 2 ≤ 16512 ∧ 16512 < Spec.vbyteOffset 3 :=
  vbyte_len_step 16512 3 (by decide) (by decide)
example : vbyteBeBytes 16511 = [0xFF, 0x7F] :=
  (vbyte_be_complete [0xFF, 0x7F] 16511 (by rfl) (by decide) (by decide)).2
example : vbyteLeBytes 16511 = [0xFF, 0x7F] :=
  vbyte_le_complete_short [0xFF, 0x7F] 16511 (by rfl) (by decide) (by decide)

end Dsi
