/-
  The generated `std::io` VByte functions (lean/Dsi/Gen/VByteIOBodies.lean, produced by
  tools/translate_vbyteio.py from src/codes/vbyte.rs on every run), run on byte lists
  (`BProg.run`, lean/Dsi/Impl/ByteProg.lean), against the hand-written models of Dsi/VByteIO.lean.

  * writers: for every u64 argument the bytes appended and the count returned are those of
    `vbyteWriteBe/Le`, and the input is untouched;
  * readers: with a bound `fuel` not below (BE) / above (LE) the number of input bytes, the
    hand-written function
    either hits one of its overflow panic points (`dpanic`) or returns what the generated one does;
  * `vbyte_write::<E>` / `vbyte_read::<E>` select the variant of their endianness parameter.
-/
import Dsi.VByteIO
import Dsi.Gen.VByteIOBodies
import Dsi.Props.VByteGen
namespace Dsi
namespace VByteIOGen
open Gen CodeBodiesGen VByteGen

/-- the `while value != 0` loop of `vbyte_write_be` on a buffer `0^pos ++ acc` -/
theorem be_while_eq (k : Nat → List Nat → Nat → BProg Nat) (m : Nat) :
    ∀ fuel value pos acc, value < 128 ^ m → m ≤ pos → m < fuel →
      Gen.vbyte_write_be_while1 fuel value (List.replicate pos 0 ++ acc) pos k
        = k 0 (List.replicate (pos - ((vbyteBeBytesLoop fuel value acc).length - acc.length)) 0
                ++ vbyteBeBytesLoop fuel value acc)
            (pos - ((vbyteBeBytesLoop fuel value acc).length - acc.length)) :=
  be_while_gen (F := Gen.vbyte_write_be_while1) (fun _ _ _ _ _ => rfl) k m

theorem vbyte_write_be_run {v : Nat} (hv : v < 2 ^ 64) (inp out : List Nat) :
    (Gen.vbyte_write_be v).run inp out = .ok ((vbyteWriteBe v).2, inp, out ++ (vbyteWriteBe v).1) := by
  obtain ⟨q, hq⟩ := be_fill (F := Gen.vbyte_write_be_while1) (fun _ _ _ _ _ => rfl)
    (fun _ buf pos => .writeAll (buf.drop pos) (.ret (buf.length - pos))) hv
  rw [Gen.vbyte_write_be, hq, List.drop_left' List.length_replicate, List.length_append,
    List.length_replicate, Nat.add_sub_cancel_left]
  rfl

/-- the `loop` of `vbyte_write_le`, `l` bytes already counted -/
theorem le_loop_run (fuel : Nat) : ∀ v l inp out, v < 128 ^ (fuel + 1) →
    (Gen.vbyte_write_le_loop1 (fuel + 1) v (l + 1) (fun _ len => .ret len)).run inp out
      = .ok ((vbyteLeBytesLoop (fuel + 1) v).length + l, inp, out ++ vbyteLeBytesLoop (fuel + 1) v) := by
  have stop : ∀ f v l inp out, v / 128 = 0 →
      (Gen.vbyte_write_le_loop1 (f + 1) v (l + 1) (fun _ len => .ret len)).run inp out
        = .ok ((vbyteLeBytesLoop (f + 1) v).length + l, inp, out ++ vbyteLeBytesLoop (f + 1) v) := by
    intro f v l inp out h0
    rw [Gen.vbyte_write_le_loop1, vbyteLeBytesLoop, low7_u8, shr7, h0, if_neg (not_not_intro rfl),
      if_neg (not_not_intro rfl), Nat.add_comm]
    rfl
  induction fuel with
  | zero => intro v l inp out hv; exact stop 0 v l inp out (Nat.div_eq_of_lt hv)
  | succ fuel ih =>
    intro v l inp out hv
    by_cases h0 : v / 128 = 0
    · exact stop _ v l inp out h0
    · have hv' : v / 128 - 1 < 128 ^ (fuel + 1) :=
        Nat.lt_of_le_of_lt (Nat.sub_le _ _) (Nat.div_lt_of_lt_mul (Nat.pow_succ' ▸ hv))
      rw [Gen.vbyte_write_le_loop1, vbyteLeBytesLoop, low7_u8, shr7, if_pos h0, if_pos h0,
        or128' (Nat.mod_lt _ (by decide))]
      show (Gen.vbyte_write_le_loop1 (fuel + 1) _ _ _).run inp (out ++ [_]) = _
      rw [ih _ (l + 1) inp _ hv', List.length_cons, List.append_assoc, Nat.add_right_comm]
      rfl

theorem vbyte_write_le_run {v : Nat} (hv : v < 2 ^ 64) (inp out : List Nat) :
    (Gen.vbyte_write_le v).run inp out = .ok ((vbyteWriteLe v).2, inp, out ++ (vbyteWriteLe v).1) :=
  le_loop_run 9 v 0 inp out (by rw [VByteGen.pow128_10]; omega)

/-- `vbyte_write::<E, _>` is the variant of `E` -/
theorem vbyte_write_dispatch (v : Nat) :
    Gen.vbyte_write .be v = Gen.vbyte_write_be v ∧ Gen.vbyte_write .le v = Gen.vbyte_write_le v :=
  ⟨rfl, rfl⟩

/-- what the hand-written model returns, with the output untouched -/
def withOut (out : List Nat) (r : Res (Nat × List Nat)) : Res (Nat × List Nat × List Nat) :=
  r.map fun (v, rest) => (v, rest, out)

theorem run_readExact_cons {α : Type} (k : List Nat → BProg α) (b : Nat) (rest out : List Nat) :
    (BProg.readExact 1 k).run (b :: rest) out = (k [b]).run rest out := rfl

theorem be_read_loop_run (out : List Nat) : ∀ (rest : List Nat) (fh fg value byte : Nat),
    rest.length < fh → rest.length < fg →
    vbyteReadBeLoop fh value byte rest = .dpanic ∨
      (Gen.vbyte_read_be_while1 fg [byte] value fun _ value => .ret value).run rest out
        = withOut out (vbyteReadBeLoop fh value byte rest) := by
  intro rest fh
  induction fh generalizing rest with
  | zero => intro fg value byte hh; exact absurd hh (Nat.not_lt_zero _)
  | succ fh ih =>
    intro fg value byte hh hg
    obtain ⟨fg, rfl⟩ :=
      Nat.exists_eq_succ_of_ne_zero (Nat.ne_of_gt (Nat.lt_of_le_of_lt (Nat.zero_le _) hg))
    rw [CodesB.readBe_succ, Gen.vbyte_read_be_while1]
    simp only [List.getD_cons_zero, shr7]
    by_cases hb : byte / 128 = 0
    · right; rw [if_pos hb, if_neg (not_not_intro hb)]; rfl
    · rw [if_neg hb, if_pos hb]
      by_cases ho : value + 1 ≥ 2 ^ 64
      · left; rw [if_pos ho]
      · rw [if_neg ho]
        cases rest with
        | nil => right; rfl
        | cons b rest =>
          rw [List.length_singleton, run_readExact_cons]
          simp only [List.getD_cons_zero, and127, shl7_or]
          exact ih rest fg _ b (Nat.lt_of_succ_lt_succ hh) (Nat.lt_of_succ_lt_succ hg)

theorem vbyte_read_be_run (bytes out : List Nat) (fuel : Nat) (hf : bytes.length ≤ fuel) :
    vbyteReadBe bytes = .dpanic ∨
      (Gen.vbyte_read_be fuel).run bytes out = withOut out (vbyteReadBe bytes) := by
  cases bytes with
  | nil => right; rfl
  | cons b rest =>
    rw [Gen.vbyte_read_be, vbyteReadBe, List.length_replicate, run_readExact_cons]
    simp only [List.getD_cons_zero, and127]
    exact be_read_loop_run out rest _ fuel _ b (Nat.lt_succ_self _) hf

theorem le_read_loop_run (out : List Nat) : ∀ (bytes : List Nat) (fh fg result shift b0 : Nat),
    bytes.length < fh → bytes.length < fg →
    vbyteReadLeLoop fh result shift bytes = .dpanic ∨
      (Gen.vbyte_read_le_loop1 fg result shift [b0] fun result _ _ => .ret result).run bytes out
        = withOut out (vbyteReadLeLoop fh result shift bytes) := by
  intro bytes fh
  induction fh generalizing bytes with
  | zero => intro fg result shift b0 hh; exact absurd hh (Nat.not_lt_zero _)
  | succ fh ih =>
    intro fg result shift b0 hh hg
    obtain ⟨fg, rfl⟩ :=
      Nat.exists_eq_succ_of_ne_zero (Nat.ne_of_gt (Nat.lt_of_le_of_lt (Nat.zero_le _) hg))
    cases bytes with
    | nil => right; rfl
    | cons b rest =>
      rw [CodesB.readLe_cons, Gen.vbyte_read_le_loop1, List.length_singleton, run_readExact_cons]
      simp only [List.getD_cons_zero, and127, shr7]
      rw [shl_mod]
      by_cases h64 : shift ≥ 64
      · left; rw [if_pos h64]
      rw [if_neg h64]
      by_cases hr : result + shl64 (b % 128) shift ≥ 2 ^ 64
      · left; rw [if_pos hr]
      rw [if_neg hr]
      by_cases hb : b / 128 = 0
      · right; rw [if_pos hb, if_pos hb]; rfl
      rw [if_neg hb, if_neg hb]
      by_cases h7 : shift + 7 ≥ 64 ∨ result + shl64 (b % 128) shift + 2 ^ (shift + 7) ≥ 2 ^ 64
      · left; rw [if_pos h7]
      rw [if_neg h7, one_shl_mod (Nat.lt_of_not_le (not_or.1 h7).1)]
      exact ih rest fg _ _ b (Nat.lt_of_succ_lt_succ hh) (Nat.lt_of_succ_lt_succ hg)

theorem vbyte_read_le_run (bytes out : List Nat) (fuel : Nat) (hf : bytes.length < fuel) :
    vbyteReadLe bytes = .dpanic ∨
      (Gen.vbyte_read_le fuel).run bytes out = withOut out (vbyteReadLe bytes) :=
  le_read_loop_run out bytes _ fuel 0 0 0 (Nat.lt_succ_self _) hf

/-- `vbyte_read::<E, _>` is the variant of `E` -/
theorem vbyte_read_dispatch (fuel : Nat) :
    Gen.vbyte_read fuel .be = Gen.vbyte_read_be fuel ∧ Gen.vbyte_read fuel .le = Gen.vbyte_read_le fuel :=
  ⟨rfl, rfl⟩

end VByteIOGen
end Dsi
