/-
  Headline theorem for C20 (the change-point search is exact), stated over the body of
  `FindChangePoints::next` regenerated from src/utils/find_change.rs on this run
  (lean/Dsi/Gen/FindChangeBody.lean) only.

  * `Gen.FindChange.next f current prev_value`: the generated `Iterator::next` on the two fields of
    the struct as the Rust holds them (`prev_value = usize::MAX` is the "not started" sentinel);
  * `genCollect` / `genChangePoints`: the first `n` items the iterator yields from
    `FindChangePoints::new` (`current = 0`, `prev_value = usize::MAX`) and whether it ended;
  * `FC.Mono`, `LeastChange`, `InReach`, `ChangeChain`, `lastPoint`: the specification (non-decreasing;
    `x` is the least point after `cur` where `f` changes; some probe `cur + 2^j < 2^64 - 1` of the
    search lies at or beyond `x` — always the case for `x ≤ 2^63`; consecutive least change points).

  Hypothesis beyond those of `find_change_iteration` (the hand-written model keeps `prev_value` as
  an `Option`, the Rust as a `usize` with the sentinel `usize::MAX`): `hne`, no value of `f` is
  `usize::MAX = 2^64 - 1`.  It is needed: see `gen_sentinel_restart`.
-/
import Dsi.Props.FindChangeGen
import Dsi.Props.C20
namespace Dsi
namespace Headline2
open FC

def genCollect (f : Nat → Nat) : Nat → Nat × Nat → List (Nat × Nat) → Res (List (Nat × Nat) × Bool)
  | 0, _, acc => .ok (acc.reverse, false)
  | fuel + 1, st, acc =>
    match Gen.FindChange.next f st.1 st.2 with
    | .ok (some item, cur', prev') => genCollect f fuel (cur', prev') (item :: acc)
    | .ok (none, _, _) => .ok (acc.reverse, true)
    | .err e => .err e
    | .panic => .panic
    | .dpanic => .dpanic

def genChangePoints (f : Nat → Nat) (fuel : Nat) : Res (List (Nat × Nat) × Bool) :=
  genCollect f fuel (0, 2 ^ 64 - 1) []

theorem wf_started {f : Nat → Nat} (hne : ∀ x, f x ≠ 2 ^ 64 - 1) {s : FC} (hs : Started f s) :
    FindChangeGen.Wf s := by
  intro v hv
  rw [hs.1] at hv
  cases hv
  exact hne _

theorem genCollect_eq {f : Nat → Nat} (hm : Mono f) (hne : ∀ x, f x ≠ 2 ^ 64 - 1) :
    ∀ (fuel : Nat) (s : FC) (acc : List (Nat × Nat)), Started f s →
      genCollect f fuel (s.current, s.prevValue) acc = FC.collect f fuel s acc := by
  intro fuel
  induction fuel with
  | zero => intro s acc _; rfl
  | succ fuel ih =>
    intro s acc hs
    have hg := FindChangeGen.next_eq f s (wf_started hne hs)
    rcases next_started hm hs with ⟨x, _, _, hn, hst⟩ | ⟨_, hn⟩
    · rw [hn] at hg
      simp only [genCollect, FC.collect, hg, hn, Res.map, FindChangeGen.absOut]
      exact ih { current := x, prev := some (f x) } _ hst
    · rw [hn] at hg
      simp only [genCollect, FC.collect, hg, hn, Res.map, FindChangeGen.absOut]

theorem genChangePoints_eq {f : Nat → Nat} (hm : Mono f) (hne : ∀ x, f x ≠ 2 ^ 64 - 1) (n : Nat) :
    genChangePoints f n = FC.changePoints f n := by
  cases n with
  | zero => rfl
  | succ n =>
    have h0 := FindChangeGen.next_eq f FC.new (by intro v hv; cases hv)
    rw [next_first] at h0
    have h0' : Gen.FindChange.next f 0 (2 ^ 64 - 1) = .ok (some (0, f 0), 0, f 0) := h0
    simp only [genChangePoints, FC.changePoints, genCollect, FC.collect, h0', next_first]
    exact genCollect_eq hm hne n { current := 0, prev := some (f 0) } _ (started_first f)

/-- **C20, generated `next`.**  On a non-decreasing function the first `n + 1` calls of the
    generated `FindChangePoints::next` yield `(0, f 0)` followed by the consecutive least change
    points, each paired with the new value (so: in increasing order, only change points, none
    skipped), the iterator ends only when no further change point is within reach, and no call
    hangs (fuel), overflows a `u64` or trips a `debug_assert!`. -/
theorem gen_find_change_iteration {f : Nat → Nat} (hm : Mono f) (hne : ∀ x, f x ≠ 2 ^ 64 - 1) (n : Nat) :
    ∃ items ended, genChangePoints f (n + 1) = .ok ((0, f 0) :: items, ended) ∧
      ChangeChain f 0 items ∧ (ended = false → items.length = n) ∧
      (ended = true → ¬ ∃ x, LeastChange f (lastPoint 0 items) x ∧ InReach (lastPoint 0 items) x) := by
  rw [genChangePoints_eq hm hne]
  exact find_change_iteration hm n

/-- one call, after the first: the generated `next` from the fields `(cur, f cur)` yields exactly
    the least change point `x` after `cur` (paired with `f x`, and moves there) whenever it is
    within reach — in particular whenever `x ≤ 2^63` — and `None`, fields unchanged, exactly when
    there is none within reach (e.g. `f` constant from `cur` on). -/
theorem gen_find_change_next {f : Nat → Nat} (hm : Mono f) (hne : ∀ x, f x ≠ 2 ^ 64 - 1) {cur : Nat}
    (hc : cur < 2 ^ 64 - 1) :
    (∀ x, LeastChange f cur x → (InReach cur x ∨ x ≤ 2 ^ 63) →
      Gen.FindChange.next f cur (f cur) = .ok (some (x, f x), x, f x) ∧ cur < x) ∧
    ((¬ ∃ x, LeastChange f cur x ∧ InReach cur x) ↔
      Gen.FindChange.next f cur (f cur) = .ok (none, cur, f cur)) ∧
    (∀ x v c' p', Gen.FindChange.next f cur (f cur) = .ok (some (x, v), c', p') →
      LeastChange f cur x ∧ v = f x ∧ c' = x ∧ p' = f x) := by
  have hs : Started f { current := cur, prev := some (f cur) } := ⟨rfl, hc⟩
  have hg := FindChangeGen.next_eq f { current := cur, prev := some (f cur) } (wf_started hne hs)
  have hg' : Gen.FindChange.next f cur (f cur)
      = (FC.next f { current := cur, prev := some (f cur) }).map FindChangeGen.absOut := hg
  refine ⟨?_, ?_, ?_⟩
  · intro x hx hr
    obtain ⟨h1, h2, _⟩ := find_change_sound hm hs hx hr
    rw [hg', h1]
    exact ⟨rfl, h2⟩
  · have hk := (find_change_terminates hm hs).2.1
    rw [hg']
    constructor
    · intro h; rw [hk.1 h]; rfl
    · intro h
      apply hk.2
      rcases next_started hm hs with ⟨x, _, _, hn, _⟩ | ⟨_, hn⟩
      · rw [hn] at h; simp [Res.map, FindChangeGen.absOut] at h
      · exact hn
  · intro x v c' p' h
    rw [hg'] at h
    rcases next_started hm hs with ⟨x', hx', _, hn, _⟩ | ⟨_, hn⟩
    · rw [hn] at h
      simp only [Res.map, FindChangeGen.absOut, Res.ok.injEq, Prod.mk.injEq, Option.some.injEq,
        FC.prevValue, Option.getD_some] at h
      obtain ⟨⟨rfl, rfl⟩, rfl, rfl⟩ := h
      exact ⟨hx', rfl, rfl, rfl⟩
    · rw [hn] at h; simp [Res.map, FindChangeGen.absOut] at h

/-- **`hne` is needed**: for the constant function `usize::MAX` the generated `next` (like the
    Rust) takes the stored `prev_value = f 0 = usize::MAX` for the "not started" sentinel and yields
    `(0, usize::MAX)` again on every call, while the hand-written model (`prev : Option`) ends. -/
theorem gen_sentinel_restart :
    genChangePoints (fun _ => 2 ^ 64 - 1) 3
      = .ok ([(0, 2 ^ 64 - 1), (0, 2 ^ 64 - 1), (0, 2 ^ 64 - 1)], false) ∧
    FC.changePoints (fun _ => 2 ^ 64 - 1) 3 = .ok ([(0, 2 ^ 64 - 1)], true) :=
  ⟨rfl, find_change_const_aux _⟩
where
  find_change_const_aux (c : Nat) : FC.changePoints (fun _ => c) 3 = .ok ([(0, c)], true) := by
    have hm : Mono (fun _ : Nat => c) := fun _ _ _ _ => Nat.le_refl _
    have h1 := (find_change_first (fun _ : Nat => c)).1
    have h2 := (find_change_terminates hm (started_first (fun _ : Nat => c))).2.2 (fun _ _ => rfl)
    simp only [FC.changePoints, FC.collect, h1, h2, List.reverse_cons, List.reverse_nil, List.nil_append]

example : genChangePoints (fun x => if x < 5 then 3 else if x < 1000 then 4 else 9) 5
    = .ok ([(0, 3), (5, 4), (1000, 9)], true) := by rfl

example : ∃ items ended,
    genChangePoints (fun x => if x < 5 then 3 else if x < 1000 then 4 else 9) 5
      = .ok ((0, 3) :: items, ended) ∧
    ChangeChain (fun x => if x < 5 then 3 else if x < 1000 then 4 else 9) 0 items :=
  have ⟨items, ended, h1, h2, _⟩ := gen_find_change_iteration
    (f := fun x => if x < 5 then 3 else if x < 1000 then 4 else 9)
    (by
      intro a b hab _
      show (if a < 5 then 3 else if a < 1000 then 4 else 9) ≤ (if b < 5 then 3 else if b < 1000 then 4 else 9)
      repeat' split
      all_goals omega)
    (by
      intro x
      show (if x < 5 then 3 else if x < 1000 then 4 else 9) ≠ 2 ^ 64 - 1
      repeat' split
      all_goals decide) 4
  ⟨items, ended, h1, h2⟩

example (c : Nat) (hc : c ≠ 2 ^ 64 - 1) : genChangePoints (fun _ => c) 5 = .ok ([(0, c)], true) := by
  rw [genChangePoints_eq (fun _ _ _ _ => Nat.le_refl _) (fun _ => hc)]
  exact find_change_const c

end Headline2
end Dsi
