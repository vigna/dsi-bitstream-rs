/-
  The structural guard of the translators (tools/hygiene.py).

  Every translator finds "the" impl / fn / constant it translates by name in a fixed file.  That is
  sound only if that text is what the crate compiles and if the names the translators interpret
  (`BE`, `LE`, `debug_assert!`, `gamma_tables`, `len_gamma`, ...) mean what they mean in the audited
  crate.  `Dsi.Gen.Hygiene.violations_Cnn` list, for each property and the files it depends on, the differences between the item inventory of the crate
  (items, impl / trait members, cfg / path / derive attributes, struct definitions with their
  const-generic defaults, item-position macro invocations, the bodies of the functions no translator
  reads -- constructors, `clone`, no-op flushes, `BitSeek` of the counting wrappers -- pinned by hash,
  the conditions of the `debug_assert!`s the code translators drop, and the `[features]` /
  `[dependencies]` of Cargo.toml) and the reviewed inventory `tools/hygiene_expected.json`.

  Examples of what it catches and the generated files alone do not (they stay byte-identical):
  `impl BitRead<BE> for BufBitReader` put under `#[cfg(any())]` next to a live
  `impl BitRead<BigEndian> for BufBitReader` with a different body, a file-local
  `type BE = LittleEndian;`, `#[path = ".."] mod count;`, an impl overriding the trait-default
  `copy_to`, `bits_in_buffer: 1` in `BufBitReader::new`.

  Each `clean_Cnn` below says: nothing differs from the audited crate structure in the files property
  Cnn depends on.
-/
import Dsi.Gen.Hygiene

namespace Dsi.Props.HygieneGen

theorem clean_C01 : Dsi.Gen.Hygiene.violations_C01 = [] := rfl

theorem clean_C02 : Dsi.Gen.Hygiene.violations_C02 = [] := rfl

theorem clean_C03 : Dsi.Gen.Hygiene.violations_C03 = [] := rfl

theorem clean_C04 : Dsi.Gen.Hygiene.violations_C04 = [] := rfl

theorem clean_C05 : Dsi.Gen.Hygiene.violations_C05 = [] := rfl

theorem clean_C06 : Dsi.Gen.Hygiene.violations_C06 = [] := rfl

theorem clean_C07 : Dsi.Gen.Hygiene.violations_C07 = [] := rfl

theorem clean_C08 : Dsi.Gen.Hygiene.violations_C08 = [] := rfl

theorem clean_C09 : Dsi.Gen.Hygiene.violations_C09 = [] := rfl

theorem clean_C10 : Dsi.Gen.Hygiene.violations_C10 = [] := rfl

theorem clean_C11 : Dsi.Gen.Hygiene.violations_C11 = [] := rfl

theorem clean_C12 : Dsi.Gen.Hygiene.violations_C12 = [] := rfl

theorem clean_C13 : Dsi.Gen.Hygiene.violations_C13 = [] := rfl

theorem clean_C14 : Dsi.Gen.Hygiene.violations_C14 = [] := rfl

theorem clean_C15 : Dsi.Gen.Hygiene.violations_C15 = [] := rfl

theorem clean_C16 : Dsi.Gen.Hygiene.violations_C16 = [] := rfl

theorem clean_C17 : Dsi.Gen.Hygiene.violations_C17 = [] := rfl

theorem clean_C18 : Dsi.Gen.Hygiene.violations_C18 = [] := rfl

theorem clean_C19 : Dsi.Gen.Hygiene.violations_C19 = [] := rfl

theorem clean_C20 : Dsi.Gen.Hygiene.violations_C20 = [] := rfl

end Dsi.Props.HygieneGen
