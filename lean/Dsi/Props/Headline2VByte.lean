/-
  Headline theorems for C18 (byte-level VByte functions), stated over the functions
  regenerated from src/codes/vbyte.rs on this run: `Gen.vbyte_write e v`, `Gen.vbyte_read fuel e`
  (lean/Dsi/Gen/VByteIOBodies.lean: programs over `std::io::Write` / `std::io::Read`, run on byte
  lists by `BProg.run inp out`: unread input, output so far) and `Gen.byte_len_vbyte`
  (lean/Dsi/Gen/LenFormulas.lean).  Specification: `Spec.vbyteBytes big v` (the published VByte
  byte string of `v`, lean/Dsi/Spec.lean), `Spec.vbyteOffset` (the length steps `2^7`,
  `2^7 + 2^14`, …), `CodesB.Term` (a terminated byte string: continuation bit on every byte but the
  last), `vbyteVal e s` (its unwrapped value).  `fuel` bounds the reader's loop (any bound above
  the input length).

  The comparison with the bit-stream codes is in Props/Headline2VByteBits.lean.
-/
import Dsi.Props.VByteIOGen
import Dsi.Props.EndianGen
import Dsi.Props.LenGen
import Dsi.Props.CodesB
namespace Dsi
namespace Headline2
open CodesB

/-- the variant (`true`: big-endian byte order) named by an endianness parameter -/
def bigOf : Endian → Bool
  | .be => true
  | .le => false

def vbyteVal (e : Endian) (s : List Nat) : Nat :=
  match e with
  | .be => vbyteValBe s
  | .le => vbyteValLe s

theorem gen_vbyte_len (v : Nat) (hv : v < 2 ^ 64) (big : Bool) :
    (Spec.vbyteBytes big v).length = Gen.byte_len_vbyte v := by
  rw [specBytes_length, LenGen.byte_len_vbyte_eq hv, vbyte_byte_len v hv]

/-- **C18, writer.**  For every `v < 2^64`, `vbyte_write::<E>(v)` appends exactly the published bytes
    of the variant named by `E`, leaves the input alone, and returns their number, which is what
    the generated `byte_len_vbyte(v)` computes. -/
theorem gen_vbyteio_write (e : Endian) {v : Nat} (hv : v < 2 ^ 64) (inp out : List Nat) :
    (Gen.vbyte_write e v).run inp out
      = .ok (Gen.byte_len_vbyte v, inp, out ++ Spec.vbyteBytes (bigOf e) v) := by
  cases e
  · rw [(VByteIOGen.vbyte_write_dispatch v).1, VByteIOGen.vbyte_write_be_run hv,
      (vbyte_written_len v hv).1]
    show Res.ok (Spec.vbyteLen v, inp, out ++ vbyteBeBytes v) = _
    rw [vbyte_be_bytes v hv, ← specBytes_length true v, gen_vbyte_len v hv]; rfl
  · rw [(VByteIOGen.vbyte_write_dispatch v).2, VByteIOGen.vbyte_write_le_run hv,
      (vbyte_written_len v hv).2]
    show Res.ok (Spec.vbyteLen v, inp, out ++ vbyteLeBytes v) = _
    rw [vbyte_le_bytes v hv, ← specBytes_length false v, gen_vbyte_len v hv]; rfl

theorem gen_vbyteio_read_hand (e : Endian) (bytes out : List Nat) (fuel : Nat) (hf : bytes.length < fuel)
    {w : Nat} {rest : List Nat}
    (h : (match e with | .be => vbyteReadBe bytes | .le => vbyteReadLe bytes) = .ok (w, rest)) :
    (Gen.vbyte_read fuel e).run bytes out = .ok (w, rest, out) := by
  cases e
  · have h : vbyteReadBe bytes = .ok (w, rest) := h
    rw [(VByteIOGen.vbyte_read_dispatch fuel).1]
    rcases VByteIOGen.vbyte_read_be_run bytes out fuel (by omega) with h1 | h1
    · rw [h] at h1; cases h1
    · rw [h1, h]; rfl
  · have h : vbyteReadLe bytes = .ok (w, rest) := h
    rw [(VByteIOGen.vbyte_read_dispatch fuel).2]
    rcases VByteIOGen.vbyte_read_le_run bytes out fuel hf with h1 | h1
    · rw [h] at h1; cases h1
    · rw [h1, h]; rfl

/-- **C18, decode ∘ encode = id.**  The bytes `vbyte_write::<E>(v)` produces, followed by any bytes
    `rest`: `vbyte_read::<E>` returns `v`, leaves `rest` unread and writes nothing. -/
theorem gen_vbyteio_roundtrip (e : Endian) {v : Nat} (hv : v < 2 ^ 64) (inp out rest out' : List Nat)
    (fuel : Nat) (hf : (Spec.vbyteBytes (bigOf e) v ++ rest).length < fuel) :
    ∃ bs, (Gen.vbyte_write e v).run inp out = .ok (bs.length, inp, out ++ bs) ∧
      bs = Spec.vbyteBytes (bigOf e) v ∧ bs.length = Gen.byte_len_vbyte v ∧
      (Gen.vbyte_read fuel e).run (bs ++ rest) out' = .ok (v, rest, out') := by
  refine ⟨_, ?_, rfl, gen_vbyte_len v hv _, ?_⟩
  · rw [gen_vbyteio_write e hv, gen_vbyte_len v hv]
  · apply gen_vbyteio_read_hand e _ out' fuel hf
    cases e
    · show vbyteReadBe (Spec.vbyteBytes true v ++ rest) = _
      rw [← vbyte_be_bytes v hv]; exact vbyte_be_roundtrip v rest hv
    · show vbyteReadLe (Spec.vbyteBytes false v ++ rest) = _
      rw [← vbyte_le_bytes v hv]; exact vbyte_le_roundtrip v rest hv

/-- **C18, completeness.**  Every terminated byte string `s` (bytes `< 256`) whose value fits in 64
    bits: `vbyte_read::<E>` consumes exactly `s` and returns a value `w < 2^64` that
    `vbyte_write::<E>` encodes as `s`; and `w` is the only value encoded as `s`. -/
theorem gen_vbyteio_complete (e : Endian) (s : List Nat) (ht : Term s) (hb : ∀ b ∈ s, b < 256)
    (hfits : vbyteVal e s < 2 ^ 64) :
    ∃ w, w = vbyteVal e s ∧
      (∀ (rest out : List Nat) (fuel : Nat), (s ++ rest).length < fuel →
        (Gen.vbyte_read fuel e).run (s ++ rest) out = .ok (w, rest, out)) ∧
      (∀ inp out : List Nat, (Gen.vbyte_write e w).run inp out = .ok (s.length, inp, out ++ s)) ∧
      (∀ w', w' < 2 ^ 64 → Spec.vbyteBytes (bigOf e) w' = s → w' = w) := by
  refine ⟨vbyteVal e s, rfl, ?_, ?_, ?_⟩
  · intro rest out fuel hf
    apply gen_vbyteio_read_hand e _ out fuel hf
    cases e
    · exact vbyteReadBe_ok s rest ht hfits
    · exact vbyteReadLe_ok s rest ht hfits
  · intro inp out
    rw [gen_vbyteio_write e hfits]
    cases e
    · have hfits : vbyteValBe s < 2 ^ 64 := hfits
      have : Spec.vbyteBytes true (vbyteValBe s) = s := by
        rw [← vbyte_be_bytes _ hfits]; exact be_encode_decode s ht hb hfits
      show Res.ok (Gen.byte_len_vbyte (vbyteValBe s), inp, out ++ Spec.vbyteBytes true (vbyteValBe s)) = _
      rw [← gen_vbyte_len _ hfits true, this]
    · have hfits : vbyteValLe s < 2 ^ 64 := hfits
      have : Spec.vbyteBytes false (vbyteValLe s) = s := by
        rw [← vbyte_le_bytes _ hfits]; exact le_encode_decode s ht hb hfits
      show Res.ok (Gen.byte_len_vbyte (vbyteValLe s), inp, out ++ Spec.vbyteBytes false (vbyteValLe s)) = _
      rw [← gen_vbyte_len _ hfits false, this]
  · intro w' hw' hs
    cases e
    · have hs : Spec.vbyteBytes true w' = s := hs
      show w' = vbyteValBe s
      rw [← hs, ← vbyte_be_bytes w' hw', vbyteBeBytes_val w' hw']
    · have hs : Spec.vbyteBytes false w' = s := hs
      show w' = vbyteValLe s
      rw [← hs, ← vbyte_le_bytes w' hw', vbyteLeBytes_val w' hw']

/-- **C18, length steps.**  `byte_len_vbyte(v) = k` exactly on `[offset (k-1), offset k)`; it lies
    between 1 and 10, and `bit_len_vbyte(v)` is 8 times it. -/
theorem gen_vbyte_len_step (v k : Nat) (hv : v < 2 ^ 64) (hk : 1 ≤ k) :
    (Gen.byte_len_vbyte v = k ↔ Spec.vbyteOffset (k - 1) ≤ v ∧ v < Spec.vbyteOffset k) ∧
    1 ≤ Gen.byte_len_vbyte v ∧ Gen.byte_len_vbyte v ≤ 10 ∧
    Gen.bit_len_vbyte v = 8 * Gen.byte_len_vbyte v := by
  have hl : Gen.byte_len_vbyte v = Spec.vbyteLen v := by
    rw [LenGen.byte_len_vbyte_eq hv, vbyte_byte_len v hv]
  have hb : Gen.bit_len_vbyte v = 8 * Gen.byte_len_vbyte v := rfl
  rw [hb, hl]
  exact ⟨vbyte_len_step v k hv hk, (vbyte_len_le_10 v hv).1, (vbyte_len_le_10 v hv).2, rfl⟩

example : (Gen.vbyte_write .be 300000).run [9] [7] = .ok (3, [9], [7, 0x91, 0xA6, 0x60]) := by rfl
example : (Gen.vbyte_read 10 .be).run [0x91, 0xA6, 0x60, 5] [] = .ok (300000, [5], []) := by rfl
example : (Gen.vbyte_write .le 300000).run [] [] = .ok (3, [], [0xE0, 0xA6, 0x11]) := by rfl
example : (Gen.vbyte_read 10 .le).run [0xE0, 0xA6, 0x11] [1] = .ok (300000, [], [1]) := by rfl

example (e : Endian) : ∃ bs, (Gen.vbyte_write e (2 ^ 64 - 1)).run [] [] = .ok (bs.length, [], [] ++ bs) ∧
    bs = Spec.vbyteBytes (bigOf e) (2 ^ 64 - 1) ∧ bs.length = Gen.byte_len_vbyte (2 ^ 64 - 1) ∧
    (Gen.vbyte_read 20 e).run (bs ++ [1, 2]) [] = .ok (2 ^ 64 - 1, [1, 2], []) :=
  gen_vbyteio_roundtrip e (by decide) [] [] [1, 2] [] 20 (by
    rw [List.length_append, specBytes_length]
    have := (vbyte_len_le_10 (2 ^ 64 - 1) (by decide)).2
    simp only [List.length_cons, List.length_nil]; omega)

example : ∃ w, w = vbyteVal .be [0x80, 0x00] ∧
    (∀ (rest out : List Nat) (fuel : Nat), ([0x80, 0x00] ++ rest).length < fuel →
      (Gen.vbyte_read fuel .be).run ([0x80, 0x00] ++ rest) out = .ok (w, rest, out)) ∧
    (∀ inp out : List Nat, (Gen.vbyte_write .be w).run inp out = .ok (2, inp, out ++ [0x80, 0x00])) ∧
    (∀ w', w' < 2 ^ 64 → Spec.vbyteBytes (bigOf .be) w' = [0x80, 0x00] → w' = w) :=
  gen_vbyteio_complete .be [0x80, 0x00] ⟨by decide, (by decide : (0 : Nat) / 128 = 0)⟩ (by decide) (by decide)

example : Gen.byte_len_vbyte 127 = 1 ∧ Gen.byte_len_vbyte 128 = 2 ∧ Gen.byte_len_vbyte (128 + 2 ^ 14 - 1) = 2 ∧
    Gen.byte_len_vbyte (128 + 2 ^ 14) = 3 := by decide

end Headline2
end Dsi
