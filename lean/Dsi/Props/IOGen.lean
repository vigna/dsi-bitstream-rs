/-
  The `std::io::Write::write` body of `BufBitWriter` and the `std::io::Read::read` bodies of
  `BufBitReader` / `BitReader` as TRANSLATED from the Rust source on every run
  (lean/Dsi/Gen/IOBodies.lean, emitted by tools/translate_io.py) are EQUAL to the hand-written
  programs `ioWrite e 8 buf` / `ioRead e buf.length` (lean/Dsi/IOView.lean) run on the same bit
  interface -- for EVERY implementation `wi : WImpl ω` / `ri : RImpl ρ` of the interface and every
  state, i.e. they are the same programs.

  Hypotheses, and why they are there:
  * `∀ b ∈ buf, b < 256` (write): the elements of a `&[u8]` are bytes; the hand program passes the
    `Nat` assembled from them to `write_bits`, the Rust a `u64`.
  * `hri` (read): the reader interface returns `u64` values; the hand program cuts the `Nat` it got
    into bytes, the Rust a `u64`.
  The kind of the `std::io::Error` the Rust maps a failure to is not part of `ioWrite` / `ioRead`
  (they propagate the error of the interface).
-/
import Dsi.Gen.IOBodies
import Dsi.Props.IOView
import Dsi.Lemmas.U64
namespace Dsi
namespace GenIO
open IOViewL

theorem toNat_zero64 : (0 : BitVec 64).toNat = 0 := rfl

theorem leBytes_length (v : Nat) : ∀ k, (leBytes v k).length = k := by
  intro k
  induction k generalizing v with
  | zero => rfl
  | succ k ih => simp only [leBytes, List.length_cons, ih]

theorem beBytes_length (v k : Nat) : (beBytes v k).length = k := by
  unfold beBytes; rw [List.length_reverse, leBytes_length]

theorem leBytes_take (v : Nat) : ∀ k j, j ≤ k → (leBytes v k).take j = leBytes v j := by
  intro k
  induction k generalizing v with
  | zero => intro j hj; rw [Nat.le_zero.1 hj]; rfl
  | succ k ih =>
    intro j hj
    cases j with
    | zero => rfl
    | succ j => simp only [leBytes, List.take_succ_cons, ih (v / 256) j (Nat.le_of_succ_le_succ hj)]

theorem beBytes_drop (v k j : Nat) (h : j ≤ k) : (beBytes v k).drop (k - j) = beBytes v j := by
  unfold beBytes
  rw [List.drop_reverse, leBytes_length, Nat.sub_sub_self h, leBytes_take v k j h]

theorem forEachN_pure {α σ : Type} (g : σ → α → σ) (body : α → σ → Res σ)
    (hb : ∀ x st, body x st = .ok (g st x)) : ∀ (l : List α) (st : σ),
    forEachN l st body = .ok (l.foldl g st)
  | [], st => rfl
  | x :: xs, st => by
    simp only [forEachN, hb, Res.bind, List.foldl_cons]
    exact forEachN_pure g body hb xs _

/-- `word <<= 8; word |= byte as u64` on a `u64` is the wrapping accumulator of `ioWrite` -/
theorem shl_or_toNat (a : BitVec 64) (b : Nat) (hb : b < 256) :
    ((a <<< 8) ||| BitVec.ofNat 64 b).toNat = (a.toNat * 256) % 2 ^ 64 + b := by
  rw [BitVec.toNat_or, BitVec.toNat_shiftLeft, u64_ofNat (Nat.lt_trans hb (by decide)), Nat.shiftLeft_eq]
  have h1 : a.toNat * 2 ^ 8 % 2 ^ 64 = (a.toNat % 2 ^ 56) <<< 8 := by
    rw [Nat.shiftLeft_eq, show (2:Nat) ^ 64 = 2 ^ 56 * 2 ^ 8 by decide, Nat.mul_mod_mul_right]
  rw [show a.toNat * 256 = a.toNat * 2 ^ 8 by rfl, h1]
  exact (Nat.shiftLeft_add_eq_or_of_lt hb _).symm

theorem fold_toNat (l : List Nat) (hl : ∀ b ∈ l, b < 256) : ∀ (a : BitVec 64),
    (l.foldl (fun (word : BitVec 64) (byte : Nat) => (word <<< 8) ||| BitVec.ofNat 64 byte) a).toNat =
      wrapAcc a.toNat l := by
  induction l with
  | nil => intro a; rfl
  | cons b l ih =>
    intro a
    rw [List.foldl_cons, ih (bytes_tail hl), shl_or_toNat a b (bytes_head hl), wrapAcc_cons]

theorem forEachN_chunks {ω : Type} (e : Endian) (wi : WImpl ω) (conv : List Nat → Nat)
    (hconv : ∀ c, conv c = wordOf e c) (body : List Nat → ω → Res ω)
    (hbody : ∀ c w, body c w = Res.bind (arrOf 8 c) fun arr =>
      Res.bind (wi.writeBits w (BitVec.ofNat 64 (conv arr)).toNat 64) fun ww => .ok ww.2) :
    ∀ (cs : List (List Nat)) (k : WProg Unit) (w : ω), (∀ c ∈ cs, ∀ b ∈ c, b < 256) →
      (ioWriteChunks e cs k).run wi w = Res.bind (forEachN cs w body) fun w' => k.run wi w'
  | [], k, w, _ => rfl
  | c :: cs, k, w, hb => by
    simp only [forEachN, hbody, arrOf]
    by_cases hc : c.length = 8
    · rw [ioWriteChunks_cons e c cs k hc]
      have hlt : wordOf e c < 2 ^ 64 := by
        have := wordOf_lt e c (hb c (List.mem_cons_self ..))
        rw [hc] at this; exact this
      simp only [hc, if_true, Res.bind, u64_ofNat hlt, WProg.run, hconv]
      cases wi.writeBits w (wordOf e c) 64 with
      | ok q =>
        obtain ⟨x, w'⟩ := q
        simp only []
        exact forEachN_chunks e wi conv hconv body hbody cs k w' (fun c' h' => hb c' (List.mem_cons_of_mem _ h'))
      | _ => rfl
    · have hp : ioWriteChunks e (c :: cs) k = .panic := by simp [ioWriteChunks, hc]
      rw [hp]
      simp only [hc, if_false, Res.bind, WProg.run]

theorem write_eq_aux {ω : Type} (e : Endian) (wi : WImpl ω) (w : ω) (buf : List Nat) (hb : ∀ b ∈ buf, b < 256)
    (conv : List Nat → Nat) (hconv : ∀ c, conv c = wordOf e c) (ord : List Nat → List Nat)
    (hord : ∀ rem, wrapAcc 0 (ord rem) = remWord e rem) (hmem : ∀ rem, ∀ b ∈ ord rem, b ∈ rem) :
    (Res.bind (forEachN (chunksExact 8 buf buf.length).1 w fun word w =>
        Res.bind (arrOf 8 word) fun arr =>
        Res.bind (wi.writeBits w (BitVec.ofNat 64 (conv arr)).toNat 64) fun ww => Res.ok ww.2) fun w =>
      Res.bind (if ¬((chunksExact 8 buf buf.length).2.isEmpty = true) then
          Res.bind (forEachN (ord (chunksExact 8 buf buf.length).2) (0 : BitVec 64) fun byte word =>
            Res.ok ((word <<< 8) ||| BitVec.ofNat 64 byte)) fun word =>
          Res.bind (wi.writeBits w word.toNat ((chunksExact 8 buf buf.length).2.length * 8)) fun ww => Res.ok ww.2
        else Res.ok w) fun w =>
      Res.ok (buf.length, w)) = (ioWrite e 8 buf).run wi w := by
  obtain ⟨h1, h2, h3⟩ := chunksExact_spec buf.length buf (Nat.le_refl _)
  rw [ioWrite_unfold, WProg.run_bind]
  generalize (chunksExact 8 buf buf.length).1 = cs at h1 h2 ⊢
  generalize (chunksExact 8 buf buf.length).2 = rem at h1 h3 ⊢
  have hbc : ∀ c ∈ cs, ∀ b ∈ c, b < 256 := by
    intro c hc b hbm
    apply hb; rw [h1]
    exact List.mem_append_left _ (List.mem_flatten.2 ⟨c, hc, hbm⟩)
  have hbr : ∀ b ∈ rem, b < 256 := by
    intro b hbm; apply hb; rw [h1]; exact List.mem_append_right _ hbm
  rw [forEachN_chunks e wi conv hconv _ (fun _ _ => rfl) cs (remTail e rem) w hbc]
  cases forEachN cs w _ with
  | ok w1 =>
    simp only [Res.bind, remTail]
    by_cases hr : rem.isEmpty = true
    · simp only [hr, not_true, if_false, if_true, WProg.run]
    · simp only [hr, if_false, Bool.false_eq_true, WProg.run, not_false_eq_true, if_true]
      rw [forEachN_pure (fun (word : BitVec 64) (byte : Nat) => (word <<< 8) ||| BitVec.ofNat 64 byte) _
        (fun _ _ => rfl)]
      simp only [fold_toNat _ (fun b h => hbr b (hmem rem b h)), toNat_zero64, hord]
      cases wi.writeBits w1 (remWord e rem) (rem.length * 8) with
      | ok q => rfl
      | _ => rfl
  | _ => rfl

theorem write_be_eq (W : Nat) {ω : Type} (wi : WImpl ω) (w : ω) (buf : List Nat) (hb : ∀ b ∈ buf, b < 256) :
    Gen.IO.write_be W wi w buf = (ioWrite .be 8 buf).run wi w :=
  write_eq_aux .be wi w buf hb beVal (fun _ => rfl) id (fun _ => rfl) (fun _ _ h => h)

theorem write_le_eq (W : Nat) {ω : Type} (wi : WImpl ω) (w : ω) (buf : List Nat) (hb : ∀ b ∈ buf, b < 256) :
    Gen.IO.write_le W wi w buf = (ioWrite .le 8 buf).run wi w :=
  write_eq_aux .le wi w buf hb leVal (fun _ => rfl) List.reverse (fun _ => rfl)
    (fun _ _ h => List.mem_reverse.1 h)

theorem bytesOf_length (e : Endian) (v k : Nat) : (bytesOf e v k).length = k := by
  cases e
  · exact beBytes_length v k
  · exact leBytes_length v k

theorem sliceCopy_window (acc rest sl : List Nat) {off n : Nat} (hacc : acc.length = off)
    (hsl : sl.length = n) : sliceCopy (acc ++ rest) off n sl = .ok (acc ++ sl ++ rest.drop n) := by
  subst hacc
  rw [sliceCopy, if_pos hsl, List.take_left' rfl, List.drop_append, Nat.add_sub_cancel_left,
    List.drop_of_length_le (Nat.le_add_right _ n), List.nil_append]

/-- after `i` windows the buffer is the bytes read so far followed by the untouched
    rest of the original buffer -/
theorem forRange_readLoop {ρ : Type} (e : Endian) (ri : RImpl ρ)
    (hri : ∀ r k v r', ri.readBits r k = .ok (v, r') → v < 2 ^ 64) (buf0 : List Nat)
    (body : Nat → List Nat × ρ → Res (List Nat × ρ))
    (hbody : ∀ i st, body i st = Res.bind (ri.readBits st.2 64) fun rr =>
      Res.bind (sliceCopy st.1 (i * 8) 8 (bytesOf e (BitVec.ofNat 64 rr.1).toNat 8)) fun buf => .ok (buf, rr.2)) :
    ∀ (k i : Nat) (acc : List Nat) (r : ρ), acc.length = 8 * i →
      forRange i k (acc ++ buf0.drop (8 * i), r) body =
        Res.bind ((ioReadLoop e k acc).run ri r) fun p => .ok (p.1 ++ buf0.drop (8 * (i + k)), p.2)
  | 0, i, acc, r, _ => rfl
  | k + 1, i, acc, r, hacc => by
    rw [ioReadLoop_succ]
    simp only [forRange, hbody, RProg.run]
    cases hr : ri.readBits r 64 with
    | ok p =>
      obtain ⟨v, r'⟩ := p
      simp only [Res.bind, u64_ofNat (hri r 64 v r' hr),
        sliceCopy_window acc _ _ (hacc.trans (Nat.mul_comm 8 i)) (bytesOf_length e v 8), List.drop_drop]
      have := forRange_readLoop e ri hri buf0 body hbody k (i + 1) (acc ++ bytesOf e v 8) r'
        (by rw [List.length_append, bytesOf_length, hacc, Nat.mul_succ])
      rw [Nat.mul_succ] at this
      rw [this, Nat.add_right_comm i 1 k]
      rfl
    | _ => rfl

theorem ioReadLoop_length {ρ : Type} (e : Endian) (ri : RImpl ρ) : ∀ (k : Nat) (acc : List Nat) (r : ρ) acc' r',
    (ioReadLoop e k acc).run ri r = .ok (acc', r') → acc'.length = acc.length + 8 * k
  | 0, acc, r, acc', r', h => by
    cases h; rfl
  | k + 1, acc, r, acc', r', h => by
    rw [ioReadLoop_succ, RProg.run_readBits] at h
    obtain ⟨p, _, h⟩ := Res.bind_eq_ok.1 h
    rw [ioReadLoop_length e ri k _ p.2 acc' r' h, List.length_append, bytesOf_length, Nat.mul_succ,
      Nat.add_assoc, Nat.add_comm 8]

theorem read_eq_aux {ρ : Type} (e : Endian) (ri : RImpl ρ)
    (hri : ∀ r k v r', ri.readBits r k = .ok (v, r') → v < 2 ^ 64) (r : ρ) (buf : List Nat)
    (bytes8 : Nat → List Nat) (h8 : ∀ v, bytes8 v = bytesOf e v 8)
    (cut : List Nat → Nat → Res (List Nat))
    (hcut : ∀ v n, 0 < n → n < 8 → cut (bytesOf e v 8) n = .ok (bytesOf e v n)) :
    (Res.bind (forRange 0 (buf.length / 8) (buf, r) fun chunk_i st =>
        Res.bind (ri.readBits st.2 64) fun rr =>
        Res.bind (sliceCopy st.1 (chunk_i * 8) 8 (bytes8 (BitVec.ofNat 64 rr.1).toNat)) fun buf =>
        Res.ok (buf, rr.2)) fun st =>
      Res.bind (if ¬(st.1.length % 8 = 0) then
          Res.bind (ri.readBits st.2 (st.1.length % 8 * 8)) fun rr =>
          Res.bind (cut (bytes8 (BitVec.ofNat 64 rr.1).toNat) (st.1.length % 8)) fun sl =>
          Res.bind (sliceCopy st.1 ((st.1.length / 8) * 8) (st.1.length % 8) sl) fun buf =>
          Res.ok (buf, rr.2)
        else Res.ok (st.1, st.2)) fun st =>
      Res.ok (st.1.length, st.1, st.2)) =
    ((ioRead e buf.length).run ri r).map fun p => (buf.length, p.1, p.2) := by
  simp only [h8]
  have h := forRange_readLoop e ri hri buf _ (fun _ _ => rfl) (buf.length / 8) 0 [] r rfl
  rw [Nat.mul_zero, List.drop_zero, List.nil_append, Nat.zero_add] at h
  rw [h, ioRead_unfold, RProg.run_bind]
  cases hl : (ioReadLoop e (buf.length / 8) []).run ri r with
  | ok p =>
    obtain ⟨acc, r1⟩ := p
    have hacc := ioReadLoop_length e ri _ _ r acc r1 hl
    simp only [List.length_nil, Nat.zero_add] at hacc
    have hlen : (acc ++ buf.drop (8 * (buf.length / 8))).length = buf.length := by
      rw [List.length_append, List.length_drop, hacc]; omega
    simp only [Res.bind, hlen, readTail]
    by_cases h0 : buf.length % 8 = 0
    · have hd : buf.drop (8 * (buf.length / 8)) = [] := List.drop_of_length_le (by omega)
      simp only [h0, not_true, if_false, if_true, RProg.run, Res.map, hd, List.append_nil]
      rw [hd, List.append_nil] at hlen
      rw [hlen]
    · have hm := Nat.mod_lt buf.length (show 0 < 8 by decide)
      simp only [h0, not_false_eq_true, if_true, if_false, RProg.run]
      cases hr : ri.readBits r1 (buf.length % 8 * 8) with
      | ok q =>
        obtain ⟨v, r2⟩ := q
        simp only [u64_ofNat (hri r1 _ v r2 hr), hcut v _ (by omega) hm,
          sliceCopy_window acc _ _ (hacc.trans (Nat.mul_comm 8 _)) (bytesOf_length e v _),
          List.drop_of_length_le (show (buf.drop (8 * (buf.length / 8))).length ≤ buf.length % 8 by
            rw [List.length_drop]; omega),
          List.append_nil, Res.map, List.length_append, hacc, bytesOf_length]
        congr 2
        omega
      | _ => rfl
  | _ => rfl

theorem cut_be (v n : Nat) (h0 : 0 < n) (h8 : n < 8) :
    sliceRange (bytesOf .be v 8) (8 - n) (bytesOf .be v 8).length = .ok (bytesOf .be v n) := by
  show sliceRange (beBytes v 8) (8 - n) (beBytes v 8).length = .ok (beBytes v n)
  unfold sliceRange
  rw [beBytes_length, if_pos ⟨Nat.sub_le 8 n, Nat.le_refl _⟩,
    List.take_of_length_le (Nat.le_of_eq (beBytes_length v 8)), beBytes_drop v 8 n (Nat.le_of_lt h8)]

theorem cut_le (v n : Nat) (h0 : 0 < n) (h8 : n < 8) :
    sliceRange (bytesOf .le v 8) 0 n = .ok (bytesOf .le v n) := by
  show sliceRange (leBytes v 8) 0 n = .ok (leBytes v n)
  unfold sliceRange
  rw [leBytes_length, if_pos ⟨Nat.zero_le n, Nat.le_of_lt h8⟩, List.drop_zero,
    leBytes_take v 8 n (Nat.le_of_lt h8)]

theorem read_bufr_be_eq (W : Nat) {ρ : Type} (ri : RImpl ρ)
    (hri : ∀ r k v r', ri.readBits r k = .ok (v, r') → v < 2 ^ 64) (r : ρ) (buf : List Nat) :
    Gen.IO.read_bufr_be W ri r buf = ((ioRead .be buf.length).run ri r).map fun p => (buf.length, p.1, p.2) :=
  read_eq_aux .be ri hri r buf (fun v => beBytes v 8) (fun _ => rfl)
    (fun full n => sliceRange full (8 - n) full.length) cut_be

theorem read_bufr_le_eq (W : Nat) {ρ : Type} (ri : RImpl ρ)
    (hri : ∀ r k v r', ri.readBits r k = .ok (v, r') → v < 2 ^ 64) (r : ρ) (buf : List Nat) :
    Gen.IO.read_bufr_le W ri r buf = ((ioRead .le buf.length).run ri r).map fun p => (buf.length, p.1, p.2) :=
  read_eq_aux .le ri hri r buf (fun v => leBytes v 8) (fun _ => rfl)
    (fun full n => sliceRange full 0 n) cut_le

theorem read_bitr_be_eq (W : Nat) {ρ : Type} (ri : RImpl ρ)
    (hri : ∀ r k v r', ri.readBits r k = .ok (v, r') → v < 2 ^ 64) (r : ρ) (buf : List Nat) :
    Gen.IO.read_bitr_be W ri r buf = ((ioRead .be buf.length).run ri r).map fun p => (buf.length, p.1, p.2) :=
  read_eq_aux .be ri hri r buf (fun v => beBytes v 8) (fun _ => rfl)
    (fun full n => sliceRange full (8 - n) full.length) cut_be

theorem read_bitr_le_eq (W : Nat) {ρ : Type} (ri : RImpl ρ)
    (hri : ∀ r k v r', ri.readBits r k = .ok (v, r') → v < 2 ^ 64) (r : ρ) (buf : List Nat) :
    Gen.IO.read_bitr_le W ri r buf = ((ioRead .le buf.length).run ri r).map fun p => (buf.length, p.1, p.2) :=
  read_eq_aux .le ri hri r buf (fun v => leBytes v 8) (fun _ => rfl)
    (fun full n => sliceRange full 0 n) cut_le

end GenIO
end Dsi
