/-
  Refinement L3 ⟶ L1 for the buffered bit reader: every operation of `BufR.impl e` (and
  `BufR.setBitPos e`) simulates the reference reader `RefR` under `BufR.Rel e`, and so does every
  reader program whose peeks are bounded by the word size.

  Hypotheses beyond `BufR.Rel e s r` (which already implies `0 < W`):
  * `readBits_sim`, `rprog_sim`, `rprog_sim_credit`, `table_sim`: `e = .be → W ≤ 64` (the BE slow
    path computes `(w as u64) >> (W - n)`; for `W > 64` the model truncates the word, see
    `readBitsBE_needs_W_le_64`);
  * `peekBits_sim`: `n ≤ W`; `skipAfterPeek_rel`: `k ≤ s.bib`; `setBitPos_sim`: `p ≤ r.stream.length`;
  * `rprog_sim`, `rprog_sim_credit`, `table_sim`: `PeekBounded` (bounded peeks, covered skips);
  * `new_rel`: `0 < W`.
-/
import Dsi.Lemmas.ReaderReadBits
import Dsi.Lemmas.ProgSim
namespace Dsi
open BufR

variable {W : Nat}

/-! ### concrete states used by the `example`s: `W = 8`, a strict three-word backend, three bits
    already consumed, five bits left in the buffer -/

def readerExS (e : Endian) : BufR 8 :=
  { buffer := match e with | .le => 0x14#16 | .be => 0x2800#16, bib := 5,
    back := ⟨[0xA5#8, 0x3C#8, 0xF0#8], 1, true⟩ }

def readerExR (e : Endian) : RefR :=
  { e := e, stream := [0xA5#8, 0x3C#8, 0xF0#8].flatMap (wordBits e), pos := 3, strict := true,
    peekMax := 8 }

theorem readerEx_rel (e : Endian) : BufR.Rel e (readerExS e) (readerExR e) := by
  cases e <;> (unfold BufR.Rel BufR.Clean BufR.window; decide)

theorem Rel.pos_W {e : Endian} {s : BufR W} {r : RefR} (h : BufR.Rel e s r) : 0 < W := by
  have := h.1
  omega

/-- from the stream-order relation of the lemma files back to `Rel` -/
private theorem lift {α : Type} {e : Endian} {x : Res (α × BufR W)} {y : Res (α × RefR)}
    (h : ResRel (SimPost (RelS e)) x y) :
    ResRel (fun (a, s') (b, r') => a = b ∧ BufR.Rel e s' r') x y :=
  h.mono fun _ _ hab => ⟨hab.1, (rel_iff _ _ _).2 hab.2⟩

theorem readBits_sim {e : Endian} (hW64 : e = .be → W ≤ 64) {s : BufR W} {r : RefR}
    (h : BufR.Rel e s r) (n : Nat) :
    ResRel (fun (a, s') (b, r') => a = b ∧ BufR.Rel e s' r')
      ((BufR.impl e).readBits s n) (RefR.readBits r n) :=
  lift (((rel_iff _ _ _).1 h).readBits_sim hW64 n)

-- slow path (13 > 5 buffered bits, one whole word and a partial one), both endiannesses
example (e : Endian) : ResRel (fun (a, s') (b, r') => a = b ∧ BufR.Rel e s' r')
    ((BufR.impl e).readBits (readerExS e) 13) (RefR.readBits (readerExR e) 13) :=
  readBits_sim (fun _ => by decide) (readerEx_rel e) 13

/-- `n = 0` is `dpanic` on both sides, so only `n ≤ W` is needed -/
theorem peekBits_sim {e : Endian} {s : BufR W} {r : RefR} (h : BufR.Rel e s r) {n : Nat} (hn : n ≤ W) :
    ResRel (fun (a, s') (b, r') => a = b ∧ BufR.Rel e s' r')
      ((BufR.impl e).peekBits s n) (RefR.peekBits r n) :=
  lift (((rel_iff _ _ _).1 h).peekBits_sim hn)

-- a peek that has to refill (8 > 5 buffered bits)
example (e : Endian) : ResRel (fun (a, s') (b, r') => a = b ∧ BufR.Rel e s' r')
    ((BufR.impl e).peekBits (readerExS e) 8) (RefR.peekBits (readerExR e) 8) :=
  peekBits_sim (readerEx_rel e) (by decide)

/-- after a failed peek the interpreter continues from the old state `s`, which `h` already relates
    to `r`; the statement returns `h` and says nothing about the peek itself -/
theorem peek_fail_state {e : Endian} {s : BufR W} {r : RefR} (h : BufR.Rel e s r) {n : Nat} {x : Err}
    (_ : (BufR.impl e).peekBits s n = .err x) : BufR.Rel e s r := h

theorem peek_fail_ref {e : Endian} {s : BufR W} {r : RefR} (h : BufR.Rel e s r) {n : Nat} (hn : n ≤ W)
    {x : Err} (hx : (BufR.impl e).peekBits s n = .err x) : RefR.peekBits r n = .err x := by
  have := peekBits_sim h hn
  rw [hx] at this
  cases hr : RefR.peekBits r n <;> rw [hr] at this <;> simp [ResRel] at this
  rw [this]

theorem peek_ok_state {e : Endian} {s s1 : BufR W} {r : RefR} (h : BufR.Rel e s r) {n v : Nat}
    (hn : n ≤ W) (hpk : (BufR.impl e).peekBits s n = .ok (v, s1)) : BufR.Rel e s1 r := by
  have := peekBits_sim h hn
  rw [hpk] at this
  obtain ⟨⟨b, r'⟩, hr, hab⟩ := this.of_ok_left
  obtain rfl := (RefR.peekBits_ok hr).2
  exact hab.2

theorem skipAfterPeek_rel {e : Endian} {s : BufR W} {r : RefR} (h : BufR.Rel e s r) {k : Nat}
    (hk : k ≤ s.bib) :
    BufR.Rel e ((BufR.impl e).skipAfterPeek s k) (RefR.skipAfterPeek r k) :=
  (rel_iff _ _ _).2 (((rel_iff _ _ _).1 h).skipAfterPeek hk)

theorem skipAfterPeek_sim {e : Endian} {s s1 : BufR W} {r : RefR} (h : BufR.Rel e s r) {n v k : Nat}
    (hn : n ≤ W) (hpk : (BufR.impl e).peekBits s n = .ok (v, s1)) (hk : k ≤ n) :
    BufR.Rel e ((BufR.impl e).skipAfterPeek s1 k) (RefR.skipAfterPeek r k) :=
  skipAfterPeek_rel (peek_ok_state h hn hpk) (Nat.le_trans hk (peekBits_bib hpk))

example (e : Endian) : ∃ v s1, (BufR.impl e).peekBits (readerExS e) 8 = .ok (v, s1) ∧
    BufR.Rel e ((BufR.impl e).skipAfterPeek s1 7) (RefR.skipAfterPeek (readerExR e) 7) := by
  cases e
  · exact ⟨_, _, rfl, skipAfterPeek_sim (n := 8) (readerEx_rel .be) (by decide) rfl (by decide)⟩
  · exact ⟨_, _, rfl, skipAfterPeek_sim (n := 8) (readerEx_rel .le) (by decide) rfl (by decide)⟩

theorem skipBits_sim {e : Endian} {s : BufR W} {r : RefR} (h : BufR.Rel e s r) (n : Nat) :
    ResRel (fun s' r' => BufR.Rel e s' r') ((BufR.impl e).skipBits s n) (RefR.skipBits r n) :=
  (((rel_iff _ _ _).1 h).skipBits_sim n).mono fun _ _ => (rel_iff _ _ _).2

-- 14 > 5 buffered bits: skips one whole word and part of the next
example (e : Endian) : ResRel (fun s' r' => BufR.Rel e s' r')
    ((BufR.impl e).skipBits (readerExS e) 14) (RefR.skipBits (readerExR e) 14) :=
  skipBits_sim (readerEx_rel e) 14

/-- no restriction: on a zero-extended stream with no one ahead the model runs out of fuel
    (`dpanic`) exactly where the reference is `dpanic`; on a strict stream both are `err eof` -/
theorem readUnary_sim {e : Endian} {s : BufR W} {r : RefR} (h : BufR.Rel e s r) :
    ResRel (fun (a, s') (b, r') => a = b ∧ BufR.Rel e s' r')
      ((BufR.impl e).readUnary s) (RefR.readUnary r) :=
  lift ((rel_iff _ _ _).1 h).readUnary_sim

example (e : Endian) : ResRel (fun (a, s') (b, r') => a = b ∧ BufR.Rel e s' r')
    ((BufR.impl e).readUnary (readerExS e)) (RefR.readUnary (readerExR e)) :=
  readUnary_sim (readerEx_rel e)

theorem setBitPos_sim {e : Endian} {s : BufR W} {r : RefR} (h : BufR.Rel e s r) {p : Nat}
    (hp : p ≤ r.stream.length) :
    ResRel (fun s' r' => BufR.Rel e s' r') (BufR.setBitPos e s p) (.ok (r.seek p)) :=
  (((rel_iff _ _ _).1 h).setBitPos_sim hp).mono fun _ _ => (rel_iff _ _ _).2

example (e : Endian) : ResRel (fun s' r' => BufR.Rel e s' r')
    (BufR.setBitPos e (readerExS e) 19) (.ok ((readerExR e).seek 19)) :=
  setBitPos_sim (readerEx_rel e) (by cases e <;> decide)

theorem bitPos_eq {e : Endian} {s : BufR W} {r : RefR} (h : BufR.Rel e s r) : s.bitPos = r.pos :=
  ((rel_iff _ _ _).1 h).bitPos

example (e : Endian) : (readerExS e).bitPos = 3 := bitPos_eq (readerEx_rel e)

theorem new_rel (e : Endian) (hW : 0 < W) (data : List (BitVec W)) (strict : Bool) :
    BufR.Rel e (BufR.new ⟨data, 0, strict⟩)
      { e := e, stream := data.flatMap (wordBits e), pos := 0, strict := strict, peekMax := W } :=
  (rel_iff _ _ _).2 (RelS.empty hW rfl rfl rfl rfl (Nat.zero_mul W).symm fun _ => Nat.zero_le _)

example (e : Endian) : BufR.Rel e (BufR.new ⟨[0xA5#8, 0x3C#8], 0, true⟩)
    { e := e, stream := [0xA5#8, 0x3C#8].flatMap (wordBits e), pos := 0, strict := true, peekMax := 8 } :=
  new_rel e (by decide) _ _

def readerCexS : BufR 65 := BufR.new ⟨[BitVec.ofNat 65 (2 ^ 64)], 0, false⟩
def readerCexR : RefR :=
  { e := .be, stream := [BitVec.ofNat 65 (2 ^ 64)].flatMap (wordBits .be), pos := 0, strict := false,
    peekMax := 65 }

/-- `W ≤ 64` is necessary for the BE reader as modelled: with `W = 65`, `read_bits(1)` on `readerCexS`
    returns `0`, the reference returns `1` (`(w as u64) >> (W - n)` truncates the word).
    The Rust only instantiates `W ≤ 64`. -/
theorem readBitsBE_needs_W_le_64 :
    BufR.Rel .be readerCexS readerCexR ∧
    ¬ ResRel (fun (a, s') (b, r') => a = b ∧ BufR.Rel .be s' r')
        ((BufR.impl .be).readBits readerCexS 1) (RefR.readBits readerCexR 1) := by
  refine ⟨new_rel .be (by decide) _ _, ?_⟩
  obtain ⟨s', hs⟩ : ∃ s', (BufR.impl .be).readBits readerCexS 1 = .ok (0, s') := ⟨_, rfl⟩
  obtain ⟨r', hr⟩ : ∃ r', RefR.readBits readerCexR 1 = .ok (1, r') := ⟨_, rfl⟩
  rw [hs, hr]
  intro h
  exact absurd h.1 (by decide)

/-- `PeekBounded W c p`: every `peek` of `p` asks for at most `W` bits and every
    `skipAfterPeek k` is covered by the credit of bits known to be in the buffer: `c` initially,
    `n` after a successful `peek n`, the remainder after a `skipAfterPeek`, nothing after any
    other operation. -/
def PeekBounded {α : Type} (W : Nat) : Nat → RProg α → Prop
  | _, .ret _ => True
  | _, .fail _ => True
  | _, .panic => True
  | _, .dpanic => True
  | _, .readBits _ k => ∀ v, PeekBounded W 0 (k v)
  | _, .readUnary k => ∀ v, PeekBounded W 0 (k v)
  | c, .peek n k => n ≤ W ∧ (∀ v, PeekBounded W n (k (.ok v))) ∧ (∀ x, PeekBounded W c (k (.error x)))
  | c, .skipAfterPeek n k => n ≤ c ∧ PeekBounded W (c - n) k
  | _, .skip _ k => PeekBounded W 0 k

/-- what relates the states from which `p` is about to run: the credit is buffered -/
private def Cred {α : Type} (e : Endian) (p : RProg α) (s : BufR W) (r : RefR) : Prop :=
  ∃ c, PeekBounded W c p ∧ RelS e s r ∧ c ≤ s.bib

private theorem cred_simIx {α : Type} {e : Endian} (hW64 : e = .be → W ≤ 64) :
    RImpl.SimIx (BufR.impl e) RefR.impl (Cred (α := α) (W := W) e) where
  readBits := fun ⟨_, hp, h, _⟩ =>
    (h.readBits_sim hW64 _).mono fun a _ hab => ⟨hab.1, 0, hp a.1, hab.2, Nat.zero_le _⟩
  readUnary := fun ⟨_, hp, h, _⟩ =>
    h.readUnary_sim.mono fun a _ hab => ⟨hab.1, 0, hp a.1, hab.2, Nat.zero_le _⟩
  peekBits := fun {n _ _ _} ⟨_, hp, h, hc⟩ =>
    ⟨(h.peekBits_sim hp.1).mono_ok fun a _ ha _ hab => ⟨hab.1, n, hp.2.1 a.1, hab.2, peekBits_bib ha⟩,
      fun x _ => ⟨_, hp.2.2 x, h, hc⟩⟩
  skipAfterPeek := fun {n k s _} ⟨c, hp, h, hc⟩ =>
    ⟨c - n, hp.2, h.skipAfterPeek (Nat.le_trans hp.1 hc), by
      -- `BufR.impl e` is a match on `e`: its `skipAfterPeek` (`bib := s.bib - n`) shows only per case
      cases e <;> exact Nat.sub_le_sub_right hc n⟩
  skipBits := fun ⟨_, hp, h, _⟩ =>
    (h.skipBits_sim _).mono fun _ _ hab => ⟨0, hp, hab, Nat.zero_le _⟩

theorem rprog_sim_credit {α : Type} {e : Endian} (hW64 : e = .be → W ≤ 64) (p : RProg α)
    (c : Nat) (hp : PeekBounded W c p) {s : BufR W} {r : RefR} (h : BufR.Rel e s r) (hc : c ≤ s.bib) :
    ResRel (fun (a, s') (b, r') => a = b ∧ BufR.Rel e s' r')
      (p.run (BufR.impl e) s) (p.run RefR.impl r) :=
  RProg.run_simIx (cred_simIx hW64) (fun ⟨_, _, h, _⟩ => (rel_iff _ _ _).2 h) p
    ⟨c, hp, (rel_iff _ _ _).1 h, hc⟩

/-- every reader program with bounded, covered peeks runs identically (related outcomes, related
    final states) on the buffered reader and on the reference reader -/
theorem rprog_sim {α : Type} {e : Endian} (hW64 : e = .be → W ≤ 64) (p : RProg α)
    (hp : PeekBounded W 0 p) {s : BufR W} {r : RefR} (h : BufR.Rel e s r) :
    ResRel (fun (a, s') (b, r') => a = b ∧ BufR.Rel e s' r')
      (p.run (BufR.impl e) s) (p.run RefR.impl r) :=
  rprog_sim_credit hW64 p 0 hp h (Nat.zero_le _)

/-- the table-reader shape: peek `n ≤ W` bits, on success skip `len idx ≤ n` bits and return,
    on failure run a fallback -/
theorem peekBounded_table {α : Type} {n : Nat} (hn : n ≤ W) (len : Nat → Nat) (val : Nat → α)
    (fallback : Err → RProg α) (hlen : ∀ idx, len idx ≤ n) (hf : ∀ x, PeekBounded W 0 (fallback x)) :
    PeekBounded W 0 (.peek n (fun
      | .ok idx => .skipAfterPeek (len idx) (.ret (val idx))
      | .error x => fallback x)) :=
  ⟨hn, fun idx => ⟨hlen idx, trivial⟩, hf⟩

theorem table_sim {α : Type} {e : Endian} (hW64 : e = .be → W ≤ 64) {n : Nat} (hn : n ≤ W)
    (len : Nat → Nat) (val : Nat → α) (fallback : Err → RProg α) (hlen : ∀ idx, len idx ≤ n)
    (hf : ∀ x, PeekBounded W 0 (fallback x)) {s : BufR W} {r : RefR} (h : BufR.Rel e s r) :
    ResRel (fun (a, s') (b, r') => a = b ∧ BufR.Rel e s' r')
      ((RProg.peek n (fun
        | .ok idx => .skipAfterPeek (len idx) (.ret (val idx))
        | .error x => fallback x)).run (BufR.impl e) s)
      ((RProg.peek n (fun
        | .ok idx => .skipAfterPeek (len idx) (.ret (val idx))
        | .error x => fallback x)).run RefR.impl r) :=
  rprog_sim hW64 _ (peekBounded_table hn len val fallback hlen hf) h

def readerExProg : RProg Nat :=
  .peek 4 (fun
    | .ok idx => .skipAfterPeek 2 (.readBits 9 (fun v => .skip 3 (.readUnary (fun u => .ret (idx + v + u)))))
    | .error _ => .readUnary .ret)

theorem readerExProg_bounded : PeekBounded 8 0 readerExProg :=
  ⟨by decide, fun _ => ⟨by decide, fun _ => fun _ => trivial⟩, fun _ => fun _ => trivial⟩

example (e : Endian) : ResRel (fun (a, s') (b, r') => a = b ∧ BufR.Rel e s' r')
    (readerExProg.run (BufR.impl e) (readerExS e)) (readerExProg.run RefR.impl (readerExR e)) :=
  rprog_sim (fun _ => by decide) readerExProg readerExProg_bounded (readerEx_rel e)

end Dsi
