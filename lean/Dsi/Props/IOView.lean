/-
  C12 — the `std::io::Write` view of the bit writer and the `std::io::Read` view of the bit
  readers, on the L1 reference writer / reader:

  * bytes written through `io::Write` appear in the stream as exactly those bytes, in order,
    starting at the current bit position (`io_write_bits`, `io_write_run`);
  * bytes obtained through `io::Read` are the next `8 * len` stream bits grouped in stream order
    (`io_read_bytes`, `io_read_run`);
  * reading back what was written returns the same bytes (`io_roundtrip`);
  * on a byte-aligned position the bytes written are the bytes of the canonical layout
    (`io_aligned_image`, `io_aligned_image_at`).
-/
import Dsi.Lemmas.IOViewBits
namespace Dsi
open IOViewL

namespace IOViewL

theorem bytes_mem_append_left {a b : List Nat} (h : ∀ x ∈ a ++ b, x < 256) : ∀ x ∈ a, x < 256 :=
  fun x hx => h x (List.mem_append_left _ hx)

theorem bytes_mem_append_right {a b : List Nat} (h : ∀ x ∈ a ++ b, x < 256) : ∀ x ∈ b, x < 256 :=
  fun x hx => h x (List.mem_append_right _ hx)

theorem ioWriteChunks_cons (e : Endian) (c : List Nat) (cs : List (List Nat)) (k : WProg Unit)
    (hc : c.length = 8) :
    ioWriteChunks e (c :: cs) k = .writeBits (wordOf e c) 64 fun _ => ioWriteChunks e cs k := by
  cases e <;> simp [ioWriteChunks, hc, wordOf]

theorem writes_chunks (e : Endian) (checks : Bool) (cs : List (List Nat))
    (hl : ∀ c ∈ cs, c.length = 8) (hb : ∀ b ∈ cs.flatten, b < 256)
    {tail : WProg Unit} {tb : List Bool} (ht : WritesV tail e checks tb ()) :
    WritesV (ioWriteChunks e cs tail) e checks (bitsOfBytes e cs.flatten ++ tb) () := by
  induction cs with
  | nil => simpa [ioWriteChunks, bitsOfBytes_nil] using ht
  | cons c cs ih =>
    obtain ⟨hc, hl'⟩ := List.forall_mem_cons.1 hl
    have hbc : ∀ b ∈ c, b < 256 := bytes_mem_append_left hb
    have ih' := ih hl' (bytes_mem_append_right hb)
    rw [ioWriteChunks_cons e c cs tail hc]
    have hw := WritesV.writeBits (e := e) (checks := checks) (v := wordOf e c) (n := 64)
      (k := fun _ => ioWriteChunks e cs tail) (Nat.le_refl _)
      (Or.inr (Nat.mod_lt _ (by decide))) ih'
    apply hw.congr _ rfl
    have hf := fieldBits_wordOf e c hbc
    rw [hc] at hf
    rw [List.flatten_cons, bitsOfBytes_append, List.append_assoc, ← hf]

/-- the remainder word of `ioWrite` (`word <<= 8; word |= byte` on a u64) -/
def remWord (e : Endian) (rem : List Nat) : Nat :=
  match e with
  | .be => rem.foldl (fun a b => (a * 256) % 2 ^ 64 + b) 0
  | .le => rem.reverse.foldl (fun a b => (a * 256) % 2 ^ 64 + b) 0

theorem remWord_eq_wordOf (e : Endian) (rem : List Nat) (h : ∀ b ∈ rem, b < 256)
    (hl : rem.length ≤ 8) : remWord e rem = wordOf e rem :=
  remWord_eq e rem h hl

def remTail (e : Endian) (rem : List Nat) : WProg Unit :=
  if rem.isEmpty then .ret ()
  else .writeBits (remWord e rem) (rem.length * 8) fun _ => .ret ()

theorem ioWrite_unfold (e : Endian) (bs : List Nat) :
    ioWrite e 8 bs = (ioWriteChunks e (chunksExact 8 bs bs.length).1
        (remTail e (chunksExact 8 bs bs.length).2)).bind fun _ => .ret bs.length := rfl

theorem writes_remTail (e : Endian) (checks : Bool) (rem : List Nat) (hb : ∀ b ∈ rem, b < 256)
    (hl : rem.length < 8) : WritesV (remTail e rem) e checks (bitsOfBytes e rem) () := by
  unfold remTail
  cases rem with
  | nil => simpa [bitsOfBytes_nil] using WritesV.ret e checks ()
  | cons b r =>
    simp only [List.isEmpty_cons, Bool.false_eq_true, if_false]
    rw [remWord_eq_wordOf e (b :: r) hb (Nat.le_of_lt hl), Nat.mul_comm]
    have hlt := wordOf_lt e (b :: r) hb
    have hw := WritesV.writeBits (e := e) (checks := checks) (v := wordOf e (b :: r))
      (n := 8 * (b :: r).length) (k := fun _ => WProg.ret ())
      (Nat.mul_le_mul_left 8 (Nat.le_of_lt hl)) (Or.inr (Nat.lt_of_le_of_lt (Nat.mod_le _ _) hlt)) (WritesV.ret e checks ())
    apply hw.congr _ rfl
    rw [fieldBits_wordOf e (b :: r) hb, List.append_nil]

/-- `to_{be,le}_bytes` of a word, truncated to `k` bytes, as used by `ioRead` -/
def bytesOf (e : Endian) (v k : Nat) : List Nat :=
  match e with
  | .be => beBytes v k
  | .le => leBytes v k

theorem bytesOf_wordOf (e : Endian) (c : List Nat) (h : ∀ b ∈ c, b < 256) (k : Nat)
    (hk : c.length = k) : bytesOf e (wordOf e c % 2 ^ (8 * k)) k = c := by
  cases e
  · exact beBytes_beVal_mod c h k hk
  · exact leBytes_leVal_mod c h k hk

theorem ioReadLoop_succ (e : Endian) (k : Nat) (acc : List Nat) :
    ioReadLoop e (k + 1) acc = .readBits 64 fun v => ioReadLoop e k (acc ++ bytesOf e v 8) := by
  cases e <;> rfl

theorem reads_loop (e : Endian) (cs : List (List Nat))
    (hl : ∀ c ∈ cs, c.length = 8) (hb : ∀ b ∈ cs.flatten, b < 256) (acc : List Nat) :
    Reads (ioReadLoop e cs.length acc) e (bitsOfBytes e cs.flatten) (acc ++ cs.flatten) := by
  induction cs generalizing acc with
  | nil => simpa [ioReadLoop, bitsOfBytes_nil] using Reads.ret e acc
  | cons c cs ih =>
    obtain ⟨hc, hl'⟩ := List.forall_mem_cons.1 hl
    have hbc : ∀ b ∈ c, b < 256 := bytes_mem_append_left hb
    have ih' := ih hl' (bytes_mem_append_right hb) (acc ++ c)
    rw [List.length_cons, ioReadLoop_succ]
    have hby : bytesOf e (wordOf e c % 2 ^ 64) 8 = c := bytesOf_wordOf e c hbc 8 hc
    have hr := Reads.readBits (e := e) (n := 64) (v := wordOf e c)
      (k := fun v => ioReadLoop e cs.length (acc ++ bytesOf e v 8))
      (rest := bitsOfBytes e cs.flatten) (c := acc ++ c ++ cs.flatten) (Nat.le_refl _)
      (by simp only [hby]; exact ih')
    apply hr.congr _ (by simp)
    have hf := fieldBits_wordOf e c hbc
    rw [hc] at hf
    rw [List.flatten_cons, bitsOfBytes_append, ← hf]

def readTail (e : Endian) (len : Nat) (acc : List Nat) : RProg (List Nat) :=
  if len % 8 = 0 then .ret acc
  else .readBits (len % 8 * 8) fun v => .ret (acc ++ bytesOf e v (len % 8))

theorem ioRead_unfold (e : Endian) (len : Nat) :
    ioRead e len = (ioReadLoop e (len / 8) []).bind (readTail e len) := by
  cases e <;> rfl

theorem reads_readTail (e : Endian) (len : Nat) (acc rem : List Nat) (hb : ∀ b ∈ rem, b < 256)
    (hl : rem.length = len % 8) :
    Reads (readTail e len acc) e (bitsOfBytes e rem) (acc ++ rem) := by
  unfold readTail
  by_cases h0 : len % 8 = 0
  · obtain rfl : rem = [] := List.eq_nil_of_length_eq_zero (hl.trans h0)
    simpa [h0, bitsOfBytes_nil] using Reads.ret e acc
  · rw [if_neg h0, ← hl, Nat.mul_comm]
    have h8 : rem.length < 8 := hl ▸ Nat.mod_lt len (by decide)
    have hby := bytesOf_wordOf e rem hb rem.length rfl
    have hr := Reads.readBits (e := e) (n := 8 * rem.length) (v := wordOf e rem)
      (k := fun v => RProg.ret (acc ++ bytesOf e v rem.length))
      (rest := []) (c := acc ++ rem) (Nat.mul_le_mul_left 8 (Nat.le_of_lt h8))
      (by simp only [hby]; exact Reads.ret e _)
    apply hr.congr _ rfl
    rw [fieldBits_wordOf e rem hb, List.append_nil]

theorem byte_val (e : Endian) (x : Nat) : bitsVal e (fieldBits e x 8) = x % 256 := by
  cases e
  · exact byte_be x
  · exact byte_le x

theorem layout_bytes_append (e : Endian) (bs : List Nat) (hb : ∀ b ∈ bs, b < 256)
    (rest : List Bool) : layout e (bitsOfBytes e bs ++ rest) = bs ++ layout e rest := by
  induction bs with
  | nil => rfl
  | cons b bs ih =>
    rw [bitsOfBytes_cons, List.append_assoc, layout_chunk e _ _ (by simp), byte_val,
      ih (bytes_tail hb), Nat.mod_eq_of_lt (bytes_head hb), List.cons_append]

theorem layout_append_aligned (e : Endian) (n : Nat) : ∀ (a b : List Bool), a.length ≤ n →
    8 ∣ a.length → layout e (a ++ b) = layout e a ++ layout e b := by
  induction n with
  | zero =>
    intro a b hn _
    obtain rfl : a = [] := List.eq_nil_of_length_eq_zero (Nat.le_zero.1 hn)
    rfl
  | succ n ih =>
    intro a b hn hd
    by_cases h0 : a.length = 0
    · obtain rfl : a = [] := List.eq_nil_of_length_eq_zero h0
      rfl
    · -- split off the first byte of `a`
      have h8 : 8 ≤ a.length := Nat.le_of_dvd (Nat.pos_of_ne_zero h0) hd
      have ht : (a.take 8).length = 8 := by rw [List.length_take]; exact Nat.min_eq_left h8
      have hdl : (a.drop 8).length = a.length - 8 := List.length_drop ..
      have e2 := layout_chunk e (a.take 8) (a.drop 8) ht
      rw [List.take_append_drop] at e2
      rw [← List.take_append_drop 8 a, List.append_assoc, layout_chunk e _ _ ht,
        ih (a.drop 8) b (by omega) (by omega),
        List.take_append_drop, e2, List.cons_append]

end IOViewL

/-- **io::Write appends exactly the bytes.**  `write(buf)` through the `std::io::Write` view
    (8-byte chunks as 64-bit words, the remainder assembled into one word) appends to the stream
    exactly the bits of the bytes of `buf`, in order, and returns `buf.len()` — also with the
    `checks` feature (no assembled word is dirty). -/
theorem io_write_bits (e : Endian) (checks : Bool) (bs : List Nat) (hb : ∀ b ∈ bs, b < 256) :
    WritesV (ioWrite e 8 bs) e checks (bitsOfBytes e bs) bs.length := by
  obtain ⟨h1, h2, h3⟩ := chunksExact_spec bs.length bs (Nat.le_refl _)
  rw [ioWrite_unfold]
  generalize (chunksExact 8 bs bs.length).1 = cs at h1 h2
  generalize (chunksExact 8 bs bs.length).2 = rem at h1 h3
  have hb' : ∀ b ∈ cs.flatten ++ rem, b < 256 := by rw [← h1]; exact hb
  have ht := writes_remTail e checks rem (bytes_mem_append_right hb') h3
  have hc := writes_chunks e checks cs h2 (bytes_mem_append_left hb') ht
  have := WritesV.bind (k := fun _ => WProg.ret bs.length) hc (WritesV.ret e checks bs.length)
  apply this.congr _ rfl
  rw [List.append_nil, ← bitsOfBytes_append, ← h1]

/-- `io_write_bits` in plain words: on a growable reference writer of the same endianness the
    call succeeds, returns the number of bytes and appends `bitsOfBytes e bs` at the current bit
    position (aligned or not), whatever the `checks` feature. -/
theorem io_write_run (e : Endian) (bs : List Nat) (hb : ∀ b ∈ bs, b < 256) (w : RefW)
    (he : w.e = e) (hc : w.cap = none) :
    (ioWrite e 8 bs).run RefW.impl w
      = .ok (bs.length, { w with bits := w.bits ++ bitsOfBytes e bs }) :=
  io_write_bits e w.checks bs hb w he hc rfl

/-- 11 bytes: one 8-byte chunk (a 64-bit word) and a 3-byte remainder (a 24-bit word), at an
    unaligned position, big endian, with `checks` on. -/
example :
    (ioWrite .be 8 [1, 2, 3, 4, 5, 6, 7, 8, 9, 10, 255]).run RefW.impl
        { e := .be, W := 64, checks := true, bits := [true, false, true] }
      = .ok (11, { e := .be, W := 64, checks := true,
                   bits := [true, false, true]
                     ++ bitsOfBytes .be [1, 2, 3, 4, 5, 6, 7, 8, 9, 10, 255] }) :=
  io_write_run .be _ (by decide) _ rfl rfl

example : bitsOfBytes .be [1, 130] =
    [false, false, false, false, false, false, false, true,
     true, false, false, false, false, false, true, false] := by decide

example : bitsOfBytes .le [1, 130] =
    [true, false, false, false, false, false, false, false,
     false, true, false, false, false, false, false, true] := by decide

/-- **io::Read returns the next bytes of the stream.**  `read_exact` of `len` bytes through the
    `std::io::Read` view returns the next `8 * len` stream bits grouped into bytes in stream
    order, wherever these bits are embedded (any prefix — aligned or not —, any suffix, strict or
    zero-extended stream), and leaves the cursor just after them. -/
theorem io_read_bytes (e : Endian) (len : Nat) (bs : List Nat) (hlen : bs.length = len)
    (hb : ∀ b ∈ bs, b < 256) : Reads (ioRead e len) e (bitsOfBytes e bs) bs := by
  subst hlen
  obtain ⟨h1, h2, h3⟩ := chunksExact_spec bs.length bs (Nat.le_refl _)
  generalize (chunksExact 8 bs bs.length).1 = cs at h1 h2
  generalize (chunksExact 8 bs bs.length).2 = rem at h1 h3
  have hb' : ∀ b ∈ cs.flatten ++ rem, b < 256 := by rw [← h1]; exact hb
  have hlen : bs.length = 8 * cs.length + rem.length := by
    rw [h1, List.length_append, flatten_length8 cs h2]
  have hq : bs.length / 8 = cs.length := by omega
  have hr : rem.length = bs.length % 8 := by omega
  rw [ioRead_unfold, hq]
  have hl := reads_loop e cs h2 (bytes_mem_append_left hb') []
  have ht := reads_readTail e bs.length ([] ++ cs.flatten) rem (bytes_mem_append_right hb') hr
  have := Reads.bind (k := readTail e bs.length) hl ht
  apply this.congr
  · rw [← bitsOfBytes_append, ← h1]
  · rw [List.nil_append, ← h1]

/-- `io_read_bytes` in plain words: a reference reader positioned (at any bit position
    `pre.length`) in front of the bits of `bs` returns `bs` and advances by `8 * bs.length`. -/
theorem io_read_run (e : Endian) (bs : List Nat) (hb : ∀ b ∈ bs, b < 256)
    (pre post : List Bool) (strict : Bool) (pm : Nat) (hpm : 1 ≤ pm) :
    (ioRead e bs.length).run RefR.impl
        { e := e, stream := pre ++ bitsOfBytes e bs ++ post, pos := pre.length,
          strict := strict, peekMax := pm }
      = .ok (bs, { e := e, stream := pre ++ bitsOfBytes e bs ++ post,
                   pos := pre.length + 8 * bs.length, strict := strict, peekMax := pm }) := by
  have := io_read_bytes e bs.length bs rfl hb pre post strict pm hpm
  rw [RefR.at, RefR.after, bitsOfBytes_length] at this
  exact this

/-- 11 bytes read at bit position 3 of a strict little-endian stream: one 64-bit read and one
    24-bit read. -/
example :
    (ioRead .le 11).run RefR.impl
        { e := .le, strict := true, pos := 3,
          stream := [true, true, false]
            ++ bitsOfBytes .le [1, 2, 3, 4, 5, 6, 7, 8, 9, 10, 255] ++ [true] }
      = .ok ([1, 2, 3, 4, 5, 6, 7, 8, 9, 10, 255],
          { e := .le, strict := true, pos := 3 + 8 * 11,
            stream := [true, true, false]
              ++ bitsOfBytes .le [1, 2, 3, 4, 5, 6, 7, 8, 9, 10, 255] ++ [true] }) :=
  io_read_run .le [1, 2, 3, 4, 5, 6, 7, 8, 9, 10, 255] (by decide) [true, true, false] [true]
    true 64 (by decide)

/-- **Round trip.**  Writing `bs` through `io::Write` at the current position of a writer and then
    reading `bs.length` bytes through `io::Read` from that position of the resulting stream
    (followed by anything, strict or not) returns `bs` and consumes exactly `8 * bs.length` bits. -/
theorem io_roundtrip (e : Endian) (bs : List Nat) (hb : ∀ b ∈ bs, b < 256) (w : RefW)
    (he : w.e = e) (hc : w.cap = none) (post : List Bool) (strict : Bool) (pm : Nat)
    (hpm : 1 ≤ pm) :
    ∃ w' : RefW,
      (ioWrite e 8 bs).run RefW.impl w = .ok (bs.length, w') ∧
      w' = { w with bits := w.bits ++ bitsOfBytes e bs } ∧
      (ioRead e bs.length).run RefR.impl
          { e := e, stream := w'.bits ++ post, pos := w.bits.length, strict := strict,
            peekMax := pm }
        = .ok (bs, { e := e, stream := w'.bits ++ post, pos := w.bits.length + 8 * bs.length,
                     strict := strict, peekMax := pm }) :=
  ⟨_, io_write_run e bs hb w he hc, rfl, io_read_run e bs hb w.bits post strict pm hpm⟩

example : ∃ w' : RefW,
    (ioWrite .be 8 [1, 2, 3, 4, 5, 6, 7, 8, 9, 10, 255]).run RefW.impl
        { e := .be, W := 32, bits := [true] } = .ok (11, w') ∧
    (ioRead .be 11).run RefR.impl { e := .be, stream := w'.bits ++ [false, true], pos := 1 }
      = .ok ([1, 2, 3, 4, 5, 6, 7, 8, 9, 10, 255],
          { e := .be, stream := w'.bits ++ [false, true], pos := 1 + 8 * 11 }) := by
  obtain ⟨w', h1, _, h3⟩ := io_roundtrip .be [1, 2, 3, 4, 5, 6, 7, 8, 9, 10, 255] (by decide)
    { e := .be, W := 32, bits := [true] } rfl rfl [false, true] false 64 (by decide)
  exact ⟨w', h1, h3⟩

/-- **Byte image.**  The canonical byte layout (C01) of the bits of a byte list is that list. -/
theorem io_aligned_image (e : Endian) (bs : List Nat) (hb : ∀ b ∈ bs, b < 256) :
    layout e (bitsOfBytes e bs) = bs := by
  have := layout_bytes_append e bs hb []
  simpa [layout_nil] using this

theorem layout_append_of_aligned (e : Endian) (a b : List Bool) (h : 8 ∣ a.length) :
    layout e (a ++ b) = layout e a ++ layout e b :=
  layout_append_aligned e a.length a b (Nat.le_refl _) h

/-- **Byte image at an aligned position.**  When the writer is byte aligned, the bytes written
    through `io::Write` are exactly the next bytes of the output. -/
theorem io_aligned_image_at (e : Endian) (pre : List Bool) (bs : List Nat)
    (hb : ∀ b ∈ bs, b < 256) (h : 8 ∣ pre.length) :
    layout e (pre ++ bitsOfBytes e bs) = layout e pre ++ bs := by
  rw [layout_append_of_aligned e pre _ h, io_aligned_image e bs hb]

example : layout .be (bitsOfBytes .be [1, 2, 3, 4, 5, 6, 7, 8, 9, 10, 255])
    = [1, 2, 3, 4, 5, 6, 7, 8, 9, 10, 255] := io_aligned_image .be _ (by decide)

example : layout .le (fieldBits .le 0xAB 8 ++ bitsOfBytes .le [1, 2, 3]) = [0xAB, 1, 2, 3] := by
  decide

end Dsi
