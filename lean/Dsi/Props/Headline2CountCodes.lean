/-
  Headline theorems for C14, codes: the counting wrappers around the generated readers / writers of
  the codes, everything generated.

  How a code operation reaches the stream through `CountBitReader` / `CountBitWriter`:
  * γ, δ, ζ: the wrappers implement `GammaRead`, `DeltaRead`, `ZetaRead` (`read_zeta(k)`,
    `read_zeta3()`) and the `…Write` counterparts themselves: they call the wrapped object's method
    and add `len_<code>(value)` (readers) / the returned count (writers):
    `Gen.CountBitReader.read_gamma inner_read_gamma …` (lean/Dsi/Gen/CountBodies.lean) with
    `inner_read_gamma` the generated trait method of the generated `BufBitReader`
    (`(genOwnRead e ⟨.gamma, 0⟩).run (genRImpl e)`), and so on;
  * every other code (and these too, through the blanket impls): the generated reader program of the
    code run on the wrapper's own `BitRead` impl (`genCountRImpl (genRImpl e) P`), which counts each
    `read_bits` / `read_unary` / `skip_bits_after_peek` and not the peeks.
  Writers: `write_gamma`, `write_delta`, `write_zeta(k)` of the wrapper are covered by
  `gen_countw_forward_exact`; every other code writer is a program over the wrapper's `BitWrite`
  impl and is covered by `gen_countw_exact` (Props/Headline2Count.lean).
-/
import Dsi.Props.Headline2ReadBytes
import Dsi.Lemmas.Headline2Count
import Dsi.Lemmas.HeadlineRunW
import Dsi.Props.Glue2
namespace Dsi
namespace Headline2
open Headline E2E TrL EqvL CodeBodiesGen Gen SmallL

theorem forward_ok {ρ : Type} (ri : RImpl ρ) (p : RProg Nat) (len : Nat → Nat) {s s2 : ρ} {v k : Nat}
    (h : p.run ri s = .ok (v, s2)) : CountR.forward ri p len ⟨s, k⟩ = .ok (v, ⟨s2, k + len v⟩) := by
  unfold CountR.forward
  rw [h]; rfl

theorem forwardW_ok {ω : Type} (wi : WImpl ω) (p : WProg Nat) {t t2 : ω} {n k : Nat}
    (h : p.run wi t = .ok (n, t2)) : CountW.forward wi p ⟨t, k⟩ = .ok (n, ⟨t2, k + n⟩) := by
  unfold CountW.forward
  rw [h]; rfl

section readers
variable (e : Endian) {Wr : Nat} (hWr : 0 < Wr) (h8r : 8 ∣ Wr) (hW64 : e = .be → Wr ≤ 64)
  (strict P : Bool) (bytes : List Nat) (hbytes : ∀ b ∈ bytes, b < 256) (pre post : List Bool)
include hWr h8r hW64 hbytes

/-- **C14, any code, through the wrapper's `BitRead` impl.**  On a byte image whose bits are
    `pre ++ cw ++ post` (`cw` the codeword of `v` in the code `c`), after the generated
    `skip_bits(pre.len())` on the inner generated reader: the generated reader of `c` run on the
    generated counting wrapper (counter `k0`) returns `v`, leaves the inner reader where the
    unwrapped run leaves it, and the counter is `k0 + cw.len()`: it grew by the bits consumed. -/
theorem gen_countr_code_exact (hW12 : tablePeek ≤ Wr) (c : CodeId) (v : Nat) (hd : c.Dom v)
    {cw : List Bool} (hcw : c.codeword e v = some cw)
    (hbits : bitsOfBytes e bytes = pre ++ cw ++ post)
    (hfit : (pre ++ cw ++ post).length + 5 * Wr < 2 ^ 64) (k0 : Nat) :
    ∃ (s1 s2 : BufR Wr),
      (genRImpl e).skipBits (BufR.new ⟨wordsOfBytes e Wr (padTo (Wr / 8) bytes), 0, strict⟩) pre.length
        = .ok s1 ∧
      (genOwnRead e c).run (genRImpl e) s1 = .ok (v, s2) ∧
      (genOwnRead e c).run (genCountRImpl (genRImpl e) P) ⟨s1, k0⟩ = .ok (v, ⟨s2, k0 + cw.length⟩) ∧
      GenBufR.genBitPos e s2 = .ok (pre.length + cw.length, s2) := by
  have hrd := ownRead_reads_of hd hcw
  have hpb := (rside_ownRead e c hd).pb Wr hW12
  obtain ⟨zeros, s1, h1, hrel1, hi1⟩ := gen_image_start e hWr h8r strict hbytes hbits hfit
  obtain ⟨s2, h6, h2, hi2⟩ := buf_step_guarded hW64 ⟨hrel1, hi1⟩ hrd hW12 hpb
    (genOwnRead_guarded e c) (genOwnRead_peekLe e c hW12)
  have h3 := gen_bitPos_after hi2 (by simp only [List.length_append] at hfit; omega)
  refine ⟨s1, s2, h1, h2, ?_, h3⟩
  rw [genCountRImpl_eq,
    rrun_congr (ragree_gen (W := Wr) e).count (genOwnRead e c) (⟨s1, k0⟩ : CountR (BufR Wr)) hi1
      (genOwnRead_peekLe e c hW12)]
  -- the hand-written program through the wrapper, then `Guarded`
  obtain ⟨htr, _, hex⟩ := countr_concrete hW64 (ownRead e c) hpb hrel1 k0
  rw [h6] at htr
  obtain ⟨⟨a, ⟨s', c'⟩⟩, hx, hproj⟩ := Res.map_eq_ok.1 htr
  cases hproj
  obtain ⟨hc, _⟩ := hex _ _ c' hx
  have hb1 : s1.bitPos = pre.length := bitPos_eq hrel1
  have hbp : s'.bitPos = pre.length + cw.length := bitPos_eq hi2.1
  have hc' : c' = k0 + cw.length := by omega
  subst hc'
  exact agreeOff_ok (Bounded.guarded_countR_bufR (genOwnRead_guarded e c) e
    (⟨s1, k0⟩ : CountR (BufR Wr)) (Bounded.binv_of_rel hrel1)) hx

/-- the specialised `GammaRead` / `DeltaRead` / `ZetaRead::read_zeta` impls of the generated
    `CountBitReader`, over the generated trait methods of the generated `BufBitReader` -/
def genCountReadForward (c : CodeId) (x : CountR (BufR Wr)) : Res (Nat × CountR (BufR Wr)) :=
  match c.fam with
  | .gamma => Gen.CountBitReader.read_gamma (fun i => (genOwnRead e ⟨.gamma, 0⟩).run (genRImpl e) i) P x
  | .delta => Gen.CountBitReader.read_delta (fun i => (genOwnRead e ⟨.delta, 0⟩).run (genRImpl e) i) P x
  | .zeta => Gen.CountBitReader.read_zeta (fun i k => (genOwnRead e ⟨.zeta, k⟩).run (genRImpl e) i) P x c.p
  | _ => .panic     -- no specialised impl: see `gen_countr_code_exact`

omit hWr h8r hW64 hbytes in
theorem genCountReadForward_eq (c : CodeId) (hc : c = ⟨.gamma, 0⟩ ∨ c = ⟨.delta, 0⟩ ∨ c.fam = .zeta)
    (x : CountR (BufR Wr)) :
    genCountReadForward e P c x = CountR.forward (genRImpl e) (genOwnRead e c) (genOwnLen c) x := by
  rcases hc with rfl | rfl | hz
  · exact CountGen.read_gamma_eq' _ _ P x
  · exact CountGen.read_delta_eq' _ _ P x
  · obtain ⟨fam, p⟩ := c
    cases hz
    exact CountGen.read_zeta_eq' _ (fun k => genOwnRead e ⟨.zeta, k⟩) P x p

/-- **C14, `read_gamma` / `read_delta` / `read_zeta(k)` of the generated `CountBitReader`**: same
    value and inner state as the wrapped reader's method, and the counter grows by the length of the
    codeword consumed. -/
theorem gen_countr_forward_exact (hW12 : tablePeek ≤ Wr) (c : CodeId)
    (hc : c = ⟨.gamma, 0⟩ ∨ c = ⟨.delta, 0⟩ ∨ c.fam = .zeta) (v : Nat) (hd : c.Dom v)
    {cw : List Bool} (hcw : c.codeword e v = some cw)
    (hbits : bitsOfBytes e bytes = pre ++ cw ++ post)
    (hfit : (pre ++ cw ++ post).length + 5 * Wr < 2 ^ 64) (k0 : Nat) :
    ∃ (s1 s2 : BufR Wr),
      (genRImpl e).skipBits (BufR.new ⟨wordsOfBytes e Wr (padTo (Wr / 8) bytes), 0, strict⟩) pre.length
        = .ok s1 ∧
      (genOwnRead e c).run (genRImpl e) s1 = .ok (v, s2) ∧
      genCountReadForward e P c ⟨s1, k0⟩ = .ok (v, ⟨s2, k0 + cw.length⟩) ∧
      GenBufR.genBitPos e s2 = .ok (pre.length + cw.length, s2) := by
  obtain ⟨s1, s2, h1, h2, h3⟩ := gen_code_read_bytes e hWr h8r hW64 hW12 strict bytes hbytes pre post
    c v hd hcw hbits hfit
  refine ⟨s1, s2, h1, h2, ?_, h3⟩
  rw [genCountReadForward_eq e P c hc, forward_ok _ _ _ h2, gen_len_eq' e c v hd hcw]

/-- **C14, `read_zeta3` of the generated `CountBitReader`** over the generated (table-capable,
    flag from the generated `Params`) `read_zeta3` of the generated `BufBitReader`. -/
theorem gen_countr_zeta3_exact (hWt : Params.readZeta3Table = true → Zeta.READ_BITS ≤ Wr) (n : Nat)
    (hn : n < 2 ^ 64 - 1)
    (hbits : bitsOfBytes e bytes = pre ++ Spec.zetaWrapped e 3 n ++ post)
    (hfit : (pre ++ Spec.zetaWrapped e 3 n ++ post).length + 5 * Wr < 2 ^ 64) (k0 : Nat) :
    ∃ (s1 s2 : BufR Wr),
      (genRImpl e).skipBits (BufR.new ⟨wordsOfBytes e Wr (padTo (Wr / 8) bytes), 0, strict⟩) pre.length
        = .ok s1 ∧
      Gen.CountBitReader.read_zeta3
        (fun i => (TableFnsGen.readZeta3Param e Params.readZeta3Table).run (genRImpl e) i) P ⟨s1, k0⟩
        = .ok (n, ⟨s2, k0 + (Spec.zetaWrapped e 3 n).length⟩) ∧
      GenBufR.genBitPos e s2 = .ok (pre.length + (Spec.zetaWrapped e 3 n).length, s2) := by
  obtain ⟨s1, s2, h1, h2, h3⟩ := gen_zeta3_read_bytes e hWr h8r hW64 Params.readZeta3Table hWt strict
    bytes hbytes pre post n hn hbits hfit
  refine ⟨s1, s2, h1, ?_, h3⟩
  rw [CountGen.read_zeta3_eq' _ _ P, forward_ok _ _ _ h2]
  have : Gen.len_zeta n 3 = (Spec.zetaWrapped e 3 n).length := by
    unfold Gen.len_zeta
    exact gen_len_zeta_param_eq e _ 3 n (by decide) (by decide) hn
  rw [this]

end readers

/-- the specialised `GammaWrite` / `DeltaWrite` / `ZetaWrite::write_zeta` impls of the generated
    `CountBitWriter`, over the generated trait methods of the generated `BufBitWriter` -/
def genCountWriteForward (e : Endian) {Ww : Nat} (checks P : Bool) (c : CodeId) (x : CountW (BufW Ww))
    (v : Nat) : Res (Nat × CountW (BufW Ww)) :=
  match c.fam with
  | .gamma => Gen.CountBitWriter.write_gamma
      (fun i v => (genOwnWrite e checks ⟨.gamma, 0⟩ v).run (genWImpl e) i) P x v
  | .delta => Gen.CountBitWriter.write_delta
      (fun i v => (genOwnWrite e checks ⟨.delta, 0⟩ v).run (genWImpl e) i) P x v
  | .zeta => Gen.CountBitWriter.write_zeta
      (fun i v k => (genOwnWrite e checks ⟨.zeta, k⟩ v).run (genWImpl e) i) P x v c.p
  | _ => .panic     -- no specialised impl: a program over the wrapper's `BitWrite` impl

theorem genCountWriteForward_eq (e : Endian) {Ww : Nat} (checks P : Bool) (c : CodeId)
    (hc : c = ⟨.gamma, 0⟩ ∨ c = ⟨.delta, 0⟩ ∨ c.fam = .zeta) (x : CountW (BufW Ww)) (v : Nat) :
    genCountWriteForward e checks P c x v = CountW.forward (genWImpl e) (genOwnWrite e checks c v) x := by
  rcases hc with rfl | rfl | hz
  · exact CountGen.write_gamma_eq _ (fun v => genOwnWrite e checks ⟨.gamma, 0⟩ v) P x v
  · exact CountGen.write_delta_eq _ (fun v => genOwnWrite e checks ⟨.delta, 0⟩ v) P x v
  · obtain ⟨fam, p⟩ := c
    cases hz
    exact CountGen.write_zeta_eq _ (fun v k => genOwnWrite e checks ⟨.zeta, k⟩ v) P x v p

/-- **C14, `write_gamma` / `write_delta` / `write_zeta(k)` of the generated `CountBitWriter`.**
    After any preceding program on the generated `BufBitWriter`: the method returns the length of the
    codeword, leaves the inner writer as the wrapped writer's method does (so: the same bytes), and
    the counter grows by exactly the length of the codeword written. -/
theorem gen_countw_forward_exact {α : Type} (e : Endian) {Ww : Nat} (hWw : 0 < Ww) (h8w : 8 ∣ Ww)
    (hWw64 : Ww < 2 ^ 64) (checks P : Bool) (pre : WProg α) {a : α} {w1 : RefW}
    (hpre : pre.run RefW.impl (refW e Ww checks []) = .ok (a, w1))
    (c : CodeId) (hc : c = ⟨.gamma, 0⟩ ∨ c = ⟨.delta, 0⟩ ∨ c.fam = .zeta) (v : Nat) (hd : c.Dom v)
    {cw : List Bool} (hcw : c.codeword e v = some cw) (k0 : Nat) :
    ∃ (t t1 : BufW Ww) (k : Nat) (t2 : BufW Ww),
      pre.run (genWImpl e) (BufW.new Ww checks none) = .ok (a, t) ∧
      (genOwnWrite e checks c v).run (genWImpl e) t = .ok (cw.length, t1) ∧
      genCountWriteForward e checks P c ⟨t, k0⟩ v = .ok (cw.length, ⟨t1, k0 + cw.length⟩) ∧
      (genWImpl e).flush t1 = .ok (k, t2) ∧
      t2.outBytes e = layout e (w1.bits ++ cw ++ wpad Ww (w1.bits ++ cw).length) := by
  obtain ⟨t, ht, hrel⟩ := gen_wrun_relC e hWw hWw64 checks pre hpre
  have hwr := ownWrite_writes_of (checks := checks) hd hcw
  have hq : (genOwnWrite e checks c v).run RefW.impl (refW e Ww checks w1.bits)
      = .ok (cw.length, { refW e Ww checks w1.bits with bits := w1.bits ++ cw }) := by
    rw [genOwnWrite_eq e checks c v hd]
    exact hwr _ rfl rfl rfl
  obtain ⟨t1, k, t2, h1, h2, h3, _⟩ := gen_image_of_relC e h8w hWw64 hrel _ hq
  refine ⟨t, t1, k, t2, ht, h1, ?_, h2, h3⟩
  rw [genCountWriteForward_eq e checks P c hc, forwardW_ok _ _ h1]

example : ∃ (s1 s2 : BufR 16),
    (genRImpl .be).skipBits (BufR.new ⟨wordsOfBytes .be 16 (padTo (16 / 8) [0xA0, 0x01]), 0, true⟩) 3 = .ok s1 ∧
    (genOwnRead .be ⟨.unary, 0⟩).run (genCountRImpl (genRImpl .be) true) ⟨s1, 100⟩ = .ok (12, ⟨s2, 113⟩) ∧
    GenBufR.genBitPos .be s2 = .ok (16, s2) := ⟨_, _, rfl, rfl, rfl⟩

/-- δ(1000) at bit 5 of the image `[21, 149, 30]`: through `CountBitReader::read_delta`, and as a
    program over the wrapper -/
example (k0 : Nat) : ∃ (s1 s2 : BufR 16),
    (genRImpl .le).skipBits (BufR.new ⟨wordsOfBytes .le 16 (padTo (16 / 8) [21, 149, 30]), 0, true⟩)
      (fieldBits .le 21 5).length = .ok s1 ∧
    (genOwnRead .le ⟨.delta, 0⟩).run (genRImpl .le) s1 = .ok (1000, s2) ∧
    genCountReadForward .le false ⟨.delta, 0⟩ ⟨s1, k0⟩ = .ok (1000, ⟨s2, k0 + (Spec.delta .le 1000).length⟩) ∧
    GenBufR.genBitPos .le s2 = .ok ((fieldBits .le 21 5).length + (Spec.delta .le 1000).length, s2) :=
  gen_countr_forward_exact .le (by decide) (by decide) (fun h => by cases h) true false [21, 149, 30]
    (by decide) (fieldBits .le 21 5) [false, false, false] (by decide) ⟨.delta, 0⟩ (Or.inr (Or.inl rfl))
    1000 (by decide) rfl (by decide) (by decide) k0

example (k0 : Nat) : ∃ (s1 s2 : BufR 16),
    (genRImpl .le).skipBits (BufR.new ⟨wordsOfBytes .le 16 (padTo (16 / 8) [21, 149, 30]), 0, true⟩)
      (fieldBits .le 21 5).length = .ok s1 ∧
    (genOwnRead .le ⟨.delta, 0⟩).run (genRImpl .le) s1 = .ok (1000, s2) ∧
    (genOwnRead .le ⟨.delta, 0⟩).run (genCountRImpl (genRImpl .le) false) ⟨s1, k0⟩
      = .ok (1000, ⟨s2, k0 + (Spec.delta .le 1000).length⟩) ∧
    GenBufR.genBitPos .le s2 = .ok ((fieldBits .le 21 5).length + (Spec.delta .le 1000).length, s2) :=
  gen_countr_code_exact .le (by decide) (by decide) (fun h => by cases h) true false [21, 149, 30]
    (by decide) (fieldBits .le 21 5) [false, false, false] (by decide) ⟨.delta, 0⟩ 1000 (by decide) rfl
    (by decide) (by decide) k0

example (e : Endian) {w1 : RefW} (hpre : exPre.run RefW.impl (refW e 32 true []) = .ok (5, w1)) (k0 : Nat) :
    ∃ (t t1 : BufW 32) (k : Nat) (t2 : BufW 32),
      exPre.run (genWImpl e) (BufW.new 32 true none) = .ok (5, t) ∧
      (genOwnWrite e true ⟨.zeta, 3⟩ 12345).run (genWImpl e) t = .ok ((Spec.zeta e 3 12345).length, t1) ∧
      genCountWriteForward e true false ⟨.zeta, 3⟩ ⟨t, k0⟩ 12345
        = .ok ((Spec.zeta e 3 12345).length, ⟨t1, k0 + (Spec.zeta e 3 12345).length⟩) ∧
      (genWImpl e).flush t1 = .ok (k, t2) ∧
      t2.outBytes e = layout e (w1.bits ++ Spec.zeta e 3 12345 ++
        wpad 32 (w1.bits ++ Spec.zeta e 3 12345).length) :=
  gen_countw_forward_exact e (by decide) (by decide) (by decide) true false exPre hpre ⟨.zeta, 3⟩
    (Or.inr (Or.inr rfl)) 12345 (by decide) rfl k0

end Headline2
end Dsi
