/-
  Refinement L3 ⟶ L1 for the writer: `BufBitWriter` (model `BufW`, any width `W`, any garbage in
  the unused part of the buffer) simulates the reference writer `RefW` operation by operation,
  hence for every writer program and every sequence of operations.
-/
import Dsi.Lemmas.WriterSim
import Dsi.Lemmas.ProgSim
import Dsi.Lemmas.WriterLayout
namespace Dsi
open BufW

namespace BufW
variable {W : Nat}

/-- `Rel` together with the capacity invariant `CapOk` (the words delivered so far fit a fixed
    backend).  `Rel` alone is not inductive for `cap = some c`: see `rel_alone_not_enough`. -/
def RelC (e : Endian) (s : BufW W) (r : RefW) : Prop := Rel e s r ∧ s.CapOk

theorem RelC_of_growable {e : Endian} {s : BufW W} {r : RefW} (h : Rel e s r)
    (hcap : s.cap = none) : RelC e s r := ⟨h, CapOk_of_none hcap⟩

/-- equal results, related states, delivered words only appended to: the outcome relation of
    `Delivers.sim` and of the examples (the `*_sim` theorems spell the same lambda out) -/
abbrev Post {α : Type} (e : Endian) (s : BufW W) : α × BufW W → α × RefW → Prop :=
  fun (a, s') (b, r') => a = b ∧ RelC e s' r' ∧ s.out <+: s'.out

end BufW

variable {W : Nat}

/-- `W = 8`, five pending bits `10101` in a buffer whose three upper bits are garbage, one
    delivered word, a fixed backend of four words, `checks` on -/
def exS : BufW 8 := { buffer := 0xB5#8, space := 3, out := [0x12#8], cap := some 4, checks := true }
def exRbe : RefW :=
  { e := .be, W := 8, checks := true, cap := some 4,
    bits := [false, false, false, true, false, false, true, false, true, false, true, false, true] }
def exRle : RefW :=
  { e := .le, W := 8, checks := true, cap := some 4,
    bits := [false, true, false, false, true, false, false, false, false, true, true, false, true] }

theorem exS_be : RelC .be exS exRbe :=
  ⟨⟨⟨by decide, by decide⟩, rfl, rfl, rfl, rfl, by decide⟩, rfl⟩
theorem exS_le : RelC .le exS exRle :=
  ⟨⟨⟨by decide, by decide⟩, rfl, rfl, rfl, rfl, by decide⟩, rfl⟩

theorem fieldBits_mod64 (e : Endian) (v : Nat) {n : Nat} (h : n ≤ 64) :
    fieldBits e (v % 2 ^ 64) n = fieldBits e v n := fieldBits_mod e v h

/-- a closed-form outcome simulates `RefW.put`; under `CapOk` one capacity check decides whether the
    words are delivered, and it is the reference writer's check -/
theorem BufW.Delivers.sim {e : Endian} {s : BufW W} {r : RefW} {bs : List Bool} {ret : Nat}
    {res : Res (Nat × BufW W)} (h : RelC e s r) (hd : Delivers e s bs ret res) :
    ResRel (Post e s) res (r.put bs ret) := by
  obtain ⟨ws, b, sp, rfl, h1, h2, hb⟩ := hd
  obtain ⟨⟨⟨hi1, hi2⟩, he, hw, hcap, hchk, hbits⟩, hc⟩ := h
  have hlen := congrArg List.length hb
  simp only [List.length_append, validAt_length, length_flatMap_wordBits] at hlen
  have hW : 0 < W := Nat.lt_of_lt_of_le hi1 hi2
  -- the new stream is the delivered words, old and new, and fewer than `W` pending bits
  have hdiv : (r.bits ++ bs).length / r.W = s.out.length + ws.length := by
    rw [hw, List.length_append, hbits, abs_length, Nat.add_assoc, hlen, ← Nat.add_assoc,
      ← Nat.add_mul, Nat.add_comm, Nat.add_mul_div_right _ _ hW,
      Nat.div_eq_of_lt (Nat.sub_lt hW h1), Nat.zero_add]
  have hfit : r.fits (r.bits ++ bs) = capFits s.cap (s.out.length + ws.length) := by
    rw [fits_eq, hdiv, hcap]
  rw [emitAll_eq s ws hc]
  simp only [RefW.put, hfit]
  by_cases hf : capFits s.cap (s.out.length + ws.length) = true
  · simp only [hf, if_true, ResRel, Res.map]
    refine ⟨rfl, ⟨⟨⟨h1, h2⟩, he, hw, hcap, hchk, ?_⟩, ?_⟩, List.prefix_append _ _⟩
    · simp only [abs, valid_eq, List.flatMap_append, List.append_assoc, ← hb]
      rw [hbits, abs, valid_eq, List.append_assoc]
    · simpa [CapOk] using hf
  · simp only [hf, if_false, ResRel, Res.map, Bool.false_eq_true]

theorem writeBits_sim {e : Endian} {s : BufW W} {r : RefW} (h : RelC e s r) (v n : Nat) :
    ResRel (fun (a, s') (b, r') => a = b ∧ RelC e s' r' ∧ s.out <+: s'.out)
      ((BufW.impl e).writeBits s v n) (RefW.writeBits r v n) := by
  obtain ⟨hi, he, _, _, hchk, _⟩ := h.1
  show ResRel _ (BufW.writeBits e s (BitVec.ofNat 64 v) n) _
  unfold RefW.writeBits
  by_cases hn : n > 64
  · rw [if_pos hn, writeBits_wide e s _ hn]; trivial
  · have hd : s.dirty (BitVec.ofNat 64 v) n = (r.checks && decide (v % 2 ^ 64 ≥ 2 ^ n)) := by
      rw [dirty, hchk, BitVec.toNat_ofNat]
    rw [if_neg hn, ← hd]
    by_cases hdirty : s.dirty (BitVec.ofNat 64 v) n = true
    · rw [if_pos hdirty, writeBits_dirty e s _ hn hdirty]; trivial
    · rw [if_neg hdirty, he, ← fieldBits_mod64 e v (Nat.le_of_not_lt hn), ← BitVec.toNat_ofNat]
      exact (writeBits_delivers e s _ n hi (Nat.le_of_not_lt hn) (Bool.not_eq_true _ ▸ hdirty)).sim h

example : ResRel (Post .be exS) ((BufW.impl .be).writeBits exS 0x2B 6) (RefW.writeBits exRbe 0x2B 6) :=
  writeBits_sim exS_be _ _

example : ResRel (Post .le exS) ((BufW.impl .le).writeBits exS 0x2B 6) (RefW.writeBits exRle 0x2B 6) :=
  writeBits_sim exS_le _ _

theorem writeUnary_sim {e : Endian} {s : BufW W} {r : RefW} (h : RelC e s r) (x : Nat) :
    ResRel (fun (a, s') (b, r') => a = b ∧ RelC e s' r' ∧ s.out <+: s'.out)
      ((BufW.impl e).writeUnary s x) (RefW.writeUnary r x) := by
  show ResRel _ (BufW.writeUnary e s x) _
  unfold RefW.writeUnary
  by_cases hx : x ≥ 2 ^ 64 - 1
  · rw [if_pos hx, BufW.writeUnary, if_pos hx]; trivial
  · rw [if_neg hx]
    exact (writeUnary_delivers e s x h.1.1 (Nat.lt_of_not_le hx)).sim h

example : ResRel (Post .be exS) ((BufW.impl .be).writeUnary exS 17) (RefW.writeUnary exRbe 17) :=
  writeUnary_sim exS_be _

theorem flush_sim {e : Endian} {s : BufW W} {r : RefW} (h : RelC e s r) :
    ResRel (fun (a, s') (b, r') => a = b ∧ RelC e s' r' ∧ s.out <+: s'.out)
      ((BufW.impl e).flush s) (RefW.flush r) := by
  obtain ⟨⟨_, hi2⟩, _, hw, _, _, hbits⟩ := h.1
  -- the reference writer's pending bits are the `W - space` valid bits of the buffer
  have hp : r.pending = W - s.space := by
    rw [RefW.pending, hbits, abs_length, hw, Nat.mul_add_mod',
      Nat.mod_eq_of_lt (Nat.sub_lt (Nat.lt_of_lt_of_le h.1.1.1 hi2) h.1.1.1)]
  show ResRel _ (BufW.flush e s) _
  rw [RefW.flush, hp, hw]
  exact (flush_delivers e s h.1.1).sim h

example : ResRel (Post .le exS) ((BufW.impl .le).flush exS) (RefW.flush exRle) :=
  flush_sim exS_le

/-- after a successful flush, a second flush returns `0` and changes nothing (in particular
    `out`); no invariant is needed -/
theorem flush_idempotent (e : Endian) {s s1 : BufW W} {k : Nat}
    (h : (BufW.impl e).flush s = .ok (k, s1)) :
    (BufW.impl e).flush s1 = .ok (0, s1) := by
  show BufW.flush e s1 = .ok (0, s1)
  rw [BufW.flush, (flush_ok e h).1]
  rfl

example : ∃ k s1, (BufW.impl .be).flush exS = .ok (k, s1) ∧ k = 5 ∧ s1.out.length = 2 :=
  ⟨_, _, rfl, rfl, rfl⟩

def Res.andThen {σ β : Type} (x : Res (Nat × σ)) (f : Nat → σ → Res β) : Res β :=
  match x with
  | .ok (a, s) => f a s
  | .err e => .err e
  | .panic => .panic
  | .dpanic => .dpanic

theorem Res.andThen_eq_bind {σ β : Type} (x : Res (Nat × σ)) (f : Nat → σ → Res β) :
    x.andThen f = x.bind fun p => f p.1 p.2 := by
  cases x <;> rfl

/-- the relation also records that the words delivered since the state `s0` are only ever
    appended to -/
theorem wimpl_sim (e : Endian) (s0 : BufW W) :
    WImpl.Sim (BufW.impl e) RefW.impl fun s r => RelC e s r ∧ s0.out <+: s.out where
  writeBits h v n := (writeBits_sim h.1 v n).mono
    fun _ _ ⟨h1, h2, h3⟩ => ⟨h1, h2, h.2.trans h3⟩
  writeUnary h x := (writeUnary_sim h.1 x).mono
    fun _ _ ⟨h1, h2, h3⟩ => ⟨h1, h2, h.2.trans h3⟩
  flush h := (flush_sim h.1).mono fun _ _ ⟨h1, h2, h3⟩ => ⟨h1, h2, h.2.trans h3⟩

theorem wprog_sim {α : Type} (e : Endian) (p : WProg α) :
    ∀ {s : BufW W} {r : RefW}, RelC e s r →
      ResRel (fun (a, s') (b, r') => a = b ∧ RelC e s' r' ∧ s.out <+: s'.out)
        (p.run (BufW.impl e) s) (p.run RefW.impl r) :=
  fun {s} _ h => (p.run_sim (wimpl_sim e s) ⟨h, List.prefix_refl _⟩).mono
    fun _ _ ⟨h1, h2, h3⟩ => ⟨h1, h2, h3⟩

example : ResRel (Post .be exS)
    ((do let a ← WProg.wbits 5 3; let b ← WProg.wunary 9; pure (a + b) : WProg Nat).run
      (BufW.impl .be) exS)
    ((do let a ← WProg.wbits 5 3; let b ← WProg.wunary 9; pure (a + b) : WProg Nat).run
      RefW.impl exRbe) :=
  wprog_sim .be _ exS_be

inductive WOp where
  | bits (v n : Nat)
  | unary (x : Nat)
  | flush
  deriving Repr

def WOp.stepC (e : Endian) (s : BufW W) : WOp → Res (Nat × BufW W)
  | .bits v n => (BufW.impl e).writeBits s v n
  | .unary x => (BufW.impl e).writeUnary s x
  | .flush => (BufW.impl e).flush s

def WOp.stepR (r : RefW) : WOp → Res (Nat × RefW)
  | .bits v n => RefW.writeBits r v n
  | .unary x => RefW.writeUnary r x
  | .flush => RefW.flush r

def runOps {σ : Type} (step : σ → WOp → Res (Nat × σ)) : σ → List WOp → Res (List Nat × σ)
  | s, [] => .ok ([], s)
  | s, op :: ops =>
    (step s op).andThen fun a s' => (runOps step s' ops).map fun p => (a :: p.1, p.2)

theorem WOp.step_sim {e : Endian} {s : BufW W} {r : RefW} (h : RelC e s r) (op : WOp) :
    ResRel (fun (a, s') (b, r') => a = b ∧ RelC e s' r' ∧ s.out <+: s'.out)
      (op.stepC e s) (op.stepR r) := by
  cases op with
  | bits v n => exact writeBits_sim h v n
  | unary x => exact writeUnary_sim h x
  | flush => exact flush_sim h

theorem runOps_sim {e : Endian} (ops : List WOp) :
    ∀ {s : BufW W} {r : RefW}, RelC e s r →
      ResRel (fun (as, s') (bs, r') => as = bs ∧ RelC e s' r' ∧ s.out <+: s'.out)
        (runOps (WOp.stepC e) s ops) (runOps WOp.stepR r ops) := by
  induction ops with
  | nil => intro s r h; exact ⟨rfl, h, List.prefix_refl _⟩
  | cons op ops ih =>
    intro s r h
    simp only [runOps, Res.andThen_eq_bind]
    refine (WOp.step_sim h op).bind ?_
    rintro ⟨a, s1⟩ ⟨b, r1⟩ ⟨rfl, h1, hp⟩
    refine (ih h1).map _ _ ?_
    rintro ⟨as, s2⟩ ⟨bs, r2⟩ ⟨rfl, h2, hp2⟩
    exact ⟨rfl, h2, hp.trans hp2⟩

theorem runOps_append {σ : Type} (step : σ → WOp → Res (Nat × σ)) (l1 l2 : List WOp) (s : σ) :
    runOps step s (l1 ++ l2) =
      (runOps step s l1).bind fun p => (runOps step p.2 l2).map fun q => (p.1 ++ q.1, q.2) := by
  induction l1 generalizing s with
  | nil => show runOps step s l2 = (runOps step s l2).map _; cases runOps step s l2 <;> rfl
  | cons op l1 ih =>
    simp only [List.cons_append, runOps, Res.andThen_eq_bind, ih]
    cases step s op with
    | ok p =>
      show Res.map _ (Res.bind _ _) = Res.bind (Res.map _ _) _
      cases runOps step p.2 l1 with
      | ok q => show Res.map _ (Res.map _ _) = Res.map _ _; cases runOps step q.2 l2 <;> rfl
      | _ => rfl
    | _ => rfl

theorem rel_new (e : Endian) (hW : 0 < W) (checks : Bool) (cap : Option Nat) :
    RelC e (BufW.new W checks cap) { e := e, W := W, checks := checks, cap := cap } := by
  refine ⟨⟨⟨hW, Nat.le_refl _⟩, rfl, rfl, rfl, rfl, ?_⟩, ?_⟩
  · simp [BufW.abs, BufW.new, valid_eq]
    -- left: `validAt e 0 W = []`, the valid bits of an empty buffer (`space = W`)
    apply List.eq_nil_of_length_eq_zero; simp
  · cases cap <;> simp [CapOk, BufW.new, capFits]

/-- From the initial state, every prefix `pre` of a list of operations `ops` leaves the concrete
    writer and the reference writer with the same outcome (same results, related states, or the
    same error / panic); and what the backend holds after `pre` is a prefix of what it holds
    after `ops` (likewise for the returned values). -/
theorem writer_refines (e : Endian) (hW : 0 < W) (checks : Bool) (cap : Option Nat)
    (ops pre : List WOp) (hpre : pre <+: ops) :
    ResRel (fun (as, s') (bs, r') => as = bs ∧ RelC e s' r')
        (runOps (WOp.stepC e) (BufW.new W checks cap) pre)
        (runOps WOp.stepR { e := e, W := W, checks := checks, cap := cap } pre) ∧
      ∀ as1 s1 as2 s2, runOps (WOp.stepC e) (BufW.new W checks cap) pre = .ok (as1, s1) →
        runOps (WOp.stepC e) (BufW.new W checks cap) ops = .ok (as2, s2) →
        s1.out <+: s2.out ∧ as1 <+: as2 := by
  have h0 := rel_new e hW checks cap
  have hsim := runOps_sim (e := e) pre h0
  refine ⟨hsim.mono (fun ⟨_, _⟩ ⟨_, _⟩ ⟨h1, h2, _⟩ => ⟨h1, h2⟩), ?_⟩
  intro as1 s1 as2 s2 h1 h2
  obtain ⟨rest, rfl⟩ := hpre
  rw [runOps_append, h1] at h2
  dsimp only [Res.bind] at h2
  rw [h1] at hsim
  obtain ⟨⟨bs, r1⟩, _, _, hrel1, _⟩ := hsim.of_ok_left
  have hsim2 := runOps_sim (e := e) rest hrel1
  cases hc : runOps (WOp.stepC e) s1 rest <;> rw [hc] at h2 <;> cases h2
  rw [hc] at hsim2
  obtain ⟨_, _, _, _, hp⟩ := hsim2.of_ok_left
  exact ⟨hp, List.prefix_append _ _⟩

example : runOps (WOp.stepC .le) (BufW.new 8 true (some 2))
    [.bits 0x5 3, .unary 6, .bits 0xFFFF 16, .flush] = .err .eof := rfl

example : ∃ s, runOps (WOp.stepC .le) (BufW.new 8 true (some 4))
    [.bits 0x5 3, .unary 6, .bits 0xFFFF 16, .flush] = .ok ([3, 7, 16, 2], s) ∧
    s.out = [0x05#8, 0xFE#8, 0xFF#8, 0x03#8] := ⟨_, rfl, rfl⟩

theorem layout_word (e : Endian) (h8 : 8 ∣ W) (w : BitVec W) (rest : List Bool) :
    layout e (wordBits e w ++ rest) = BufW.wordBytes e w ++ layout e rest := by
  obtain ⟨m, rfl⟩ := h8
  unfold wordBits BufW.wordBytes
  rw [Nat.mul_div_cancel_left m (by omega : 0 < 8)]
  cases e
  · exact layout_field_be m _ rest
  · exact layout_field_le m _ rest

theorem layout_words (e : Endian) (h8 : 8 ∣ W) (ws : List (BitVec W)) :
    layout e (ws.flatMap (wordBits e)) = ws.flatMap (BufW.wordBytes e) := by
  induction ws with
  | nil => rfl
  | cons w ws ih => rw [List.flatMap_cons, List.flatMap_cons, layout_word e h8, ih]

/-- the memory image of the backend of a writer is the canonical layout of what it delivered -/
theorem outBytes_eq_layout (e : Endian) (h8 : 8 ∣ W) (s : BufW W) :
    s.outBytes e = layout e (s.out.flatMap (wordBits e)) := (layout_words e h8 s.out).symm

theorem layout_spec (e : Endian) (bits : List Bool) (i : Nat) (h : i < bits.length) :
    ((layout e bits).getD (i / 8) 0).testBit (match e with | .be => 7 - i % 8 | .le => i % 8)
      = bits.getD i false := by
  revert i
  induction bits using layout_induction with
  | nil => intro i hi; cases hi
  | step b t ih =>
    intro i hi
    rw [layout_unfold]
    by_cases h8 : i < 8
    · rw [Nat.div_eq_of_lt h8, List.getD_cons_zero, Nat.mod_eq_of_lt h8]
      exact testBit_byteOfBits e _ h8
    · obtain ⟨j, rfl⟩ := Nat.exists_eq_add_of_le (Nat.le_of_not_lt h8)
      rw [Nat.add_div_left j (by decide), Nat.add_mod_left, List.getD_cons_succ,
        ih j (by rw [List.length_drop]; omega), List.getD_eq_getElem?_getD,
        List.getD_eq_getElem?_getD, List.getElem?_drop]

example : layout .be ([0x12#8, 0xB5#8].flatMap (wordBits .be)) = [0x12, 0xB5] := by decide
example : layout .le ([0x1234#16].flatMap (wordBits .le)) = [0x34, 0x12] := by decide
example : layout .be ([0x1234#16].flatMap (wordBits .be)) = [0x12, 0x34] := by decide

theorem writeBits_sim_growable {e : Endian} {s : BufW W} {r : RefW} (h : BufW.Rel e s r)
    (hcap : s.cap = none) (v n : Nat) :
    ResRel (fun (a, s') (b, r') => a = b ∧ BufW.Rel e s' r' ∧ s.out <+: s'.out)
      ((BufW.impl e).writeBits s v n) (RefW.writeBits r v n) :=
  (writeBits_sim (RelC_of_growable h hcap) v n).mono
    (fun ⟨_, _⟩ ⟨_, _⟩ ⟨h1, h2, h3⟩ => ⟨h1, h2.1, h3⟩)

theorem writeUnary_sim_growable {e : Endian} {s : BufW W} {r : RefW} (h : BufW.Rel e s r)
    (hcap : s.cap = none) (x : Nat) :
    ResRel (fun (a, s') (b, r') => a = b ∧ BufW.Rel e s' r' ∧ s.out <+: s'.out)
      ((BufW.impl e).writeUnary s x) (RefW.writeUnary r x) :=
  (writeUnary_sim (RelC_of_growable h hcap) x).mono
    (fun ⟨_, _⟩ ⟨_, _⟩ ⟨h1, h2, h3⟩ => ⟨h1, h2.1, h3⟩)

theorem flush_sim_growable {e : Endian} {s : BufW W} {r : RefW} (h : BufW.Rel e s r)
    (hcap : s.cap = none) :
    ResRel (fun (a, s') (b, r') => a = b ∧ BufW.Rel e s' r' ∧ s.out <+: s'.out)
      ((BufW.impl e).flush s) (RefW.flush r) :=
  (flush_sim (RelC_of_growable h hcap)).mono
    (fun ⟨_, _⟩ ⟨_, _⟩ ⟨h1, h2, h3⟩ => ⟨h1, h2.1, h3⟩)

theorem wprog_sim_growable {α : Type} (e : Endian) (p : WProg α) {s : BufW W} {r : RefW}
    (h : BufW.Rel e s r) (hcap : s.cap = none) :
    ResRel (fun (a, s') (b, r') => a = b ∧ BufW.Rel e s' r' ∧ s.out <+: s'.out)
      (p.run (BufW.impl e) s) (p.run RefW.impl r) :=
  (wprog_sim e p (RelC_of_growable h hcap)).mono
    (fun ⟨_, _⟩ ⟨_, _⟩ ⟨h1, h2, h3⟩ => ⟨h1, h2.1, h3⟩)

def exG : BufW 8 := { buffer := 0xB5#8, space := 3, out := [0x12#8] }
def exGr : RefW :=
  { e := .be, W := 8,
    bits := [false, false, false, true, false, false, true, false, true, false, true, false, true] }
example : BufW.Rel .be exG exGr ∧ exG.cap = none :=
  ⟨⟨⟨by decide, by decide⟩, rfl, rfl, rfl, rfl, by decide⟩, rfl⟩

/-- Why `CapOk` is needed: `Rel` does not say that the delivered words fit the fixed backend.
    In the (unreachable) state below two words sit in a backend of capacity one; writing zero
    bits succeeds on the concrete writer and is refused by the reference writer. -/
theorem rel_alone_not_enough :
    ∃ (s : BufW 8) (r : RefW), BufW.Rel .be s r ∧
      ¬ ResRel (fun (a, s') (b, r') => a = b ∧ BufW.Rel .be s' r' ∧ s.out <+: s'.out)
        ((BufW.impl .be).writeBits s 0 0) (RefW.writeBits r 0 0) :=
  ⟨{ buffer := 0, space := 8, out := [0, 0], cap := some 1 },
   { e := .be, W := 8, cap := some 1, bits := List.replicate 16 false },
   ⟨⟨by decide, by decide⟩, rfl, rfl, rfl, rfl, by decide⟩, fun h => h⟩

end Dsi
