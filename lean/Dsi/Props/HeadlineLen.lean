/-
  Headline, C06: the length functions as GENERATED from src/codes/*.rs on this run
  (Gen/LenFormulas.lean) return the length of the published codeword.  Depends on no reader /
  writer body.  See Props/Headline.lean.
-/
import Dsi.Props.LenGen
import Dsi.Props.Equiv
namespace Dsi
namespace Headline
open Gen

/-- `len_unary` is `n + 1` in the dispatchers -/
def genOwnLen (c : CodeId) (v : Nat) : Nat :=
  match c.fam with
  | .unary => v + 1
  | .gamma => Gen.len_gamma v
  | .delta => Gen.len_delta v
  | .omega => Gen.len_omega v
  | .vbyteBe | .vbyteLe => Gen.bit_len_vbyte v
  | .zeta => Gen.len_zeta v c.p
  | .pi => Gen.len_pi v c.p
  | .golomb => Gen.len_golomb v c.p
  | .expGolomb => Gen.len_exp_golomb v c.p
  | .rice => Gen.len_rice v c.p


theorem genOwnLen_eq (c : CodeId) (v : Nat) (hd : c.Dom v) : genOwnLen c v = ownLen c v := by
  obtain ⟨fam, p⟩ := c
  cases fam
  case unary => rfl
  case gamma => exact LenGen.len_gamma_eq v
  case delta => exact LenGen.len_delta_eq v
  case omega => exact LenGen.len_omega_eq hd
  case vbyteBe => exact LenGen.bit_len_vbyte_eq hd
  case vbyteLe => exact LenGen.bit_len_vbyte_eq hd
  case zeta =>
    obtain ⟨_, _, h3, _⟩ :
      1 ≤ p ∧ p ≤ 63 ∧ v < 2 ^ 64 - 1 ∧ ((v + 1).log2 / p + 1) * p ≤ 64 := hd
    exact LenGen.len_zeta_eq p h3
  case pi => exact LenGen.len_pi_eq v p
  case golomb => exact LenGen.len_golomb_eq v p
  case expGolomb => exact LenGen.len_exp_golomb_eq v p
  case rice => exact LenGen.len_rice_eq v p

/-- **the generated `len_*` function of a code returns the length of the published codeword** -/
theorem gen_len_eq (e : Endian) (c : CodeId) (v : Nat) (hd : c.Dom v) :
    c.codewordLen e v = some (genOwnLen c v) := by
  rw [genOwnLen_eq c v hd]
  exact ownLen_codeword e c v hd

theorem gen_len_eq' (e : Endian) (c : CodeId) (v : Nat) (hd : c.Dom v) {cw : List Bool}
    (hcw : c.codeword e v = some cw) : genOwnLen c v = cw.length := by
  have := gen_len_eq e c v hd
  rw [CodeId.codewordLen, hcw] at this
  exact (Option.some.inj this).symm

theorem gen_len_gamma_param_eq (e : Endian) (t : Bool) (n : Nat) :
    Gen.len_gamma_param t n = (Spec.gamma e n).length := by
  rw [LenGen.len_gamma_param_eq, lenGammaP_eq, gamma_len e]

theorem gen_len_delta_param_eq (e : Endian) (td tg : Bool) (n : Nat) :
    Gen.len_delta_param td tg n = (Spec.delta e n).length := by
  rw [LenGen.len_delta_param_eq, lenDeltaP_eq, delta_len e]

theorem gen_len_zeta_param_eq (e : Endian) (t : Bool) (k n : Nat) (hk1 : 1 ≤ k) (hk : k ≤ 63)
    (hn : n < 2 ^ 64 - 1) : Gen.len_zeta_param t n k = (Spec.zetaWrapped e k n).length := by
  rw [LenGen.len_zeta_param_eq t k hn, lenZetaP_eq, zeta_len e k n hk1 hk hn]

theorem gen_len_minimal_binary_eq (e : Endian) (x u : Nat) (hu : 1 ≤ u) (h64 : u < 2 ^ 64) :
    Gen.len_minimal_binary x u = (Spec.minimalBinary e x u).length := by
  rw [LenGen.len_minimal_binary_eq, minbin_len e x u hu h64]

example : (⟨.pi, 2⟩ : CodeId).codewordLen .be 77 = some (genOwnLen ⟨.pi, 2⟩ 77) :=
  gen_len_eq .be ⟨.pi, 2⟩ 77 (by decide)
example : genOwnLen ⟨.omega, 0⟩ 1000000 = (Spec.omega .le 1000000).length :=
  gen_len_eq' .le ⟨.omega, 0⟩ 1000000 (by decide) rfl
example : Gen.len_delta_param true false 1000 = (Spec.delta .be 1000).length :=
  gen_len_delta_param_eq .be true false 1000
example : Gen.len_zeta_param true 12345 3 = (Spec.zetaWrapped .le 3 12345).length :=
  gen_len_zeta_param_eq .le true 3 12345 (by decide) (by decide) (by decide)

end Headline
end Dsi
