/-
  C03 at the concrete level: what the concrete writer `BufW Ww` delivers as bytes, read
  back by the concrete readers `BufR Wr` / `BitR` built on those bytes, decodes to what was written,
  for every endianness, writer word size and reader word size.

  Hypotheses, and why:
  * `0 < Ww`, `0 < Wr`, `8 ∣ Ww`, `8 ∣ Wr`: words are whole bytes (`wordBytes` / `wordsOfBytes`
    divide by 8);
  * `e = .be → Wr ≤ 64`: hypothesis of `rprog_sim` (see `readBitsBE_needs_W_le_64`);
  * `PeekBounded Wr 0 rp` (buffered reader), `BitR.ProgOK 0 rp` and `BitR.NoSkip rp ∨ strict = false`
    (unbuffered reader): hypotheses of `rprog_sim` / `bitr_rprog_sim`;
  * raw fields of at most 64 bits, clean under `checks` (`write_bits` asserts it).
-/
import Dsi.Lemmas.EndToEndSim
import Dsi.Props.CodesA
import Dsi.Props.CodesB
namespace Dsi
open E2E

/-- From the initial state of a growable concrete writer, a program that succeeds on the reference
    writer succeeds with the same result, `flush` succeeds, and the delivered bytes are the
    reference bits followed by zero padding up to a multiple of `Ww`. -/
theorem e2e_writer_image {α : Type} (e : Endian) {Ww : Nat} (hW : 0 < Ww) (h8 : 8 ∣ Ww)
    (checks : Bool) (p : WProg α) {a : α} {r' : RefW}
    (hp : p.run RefW.impl { e := e, W := Ww, checks := checks, cap := none, bits := [] } = .ok (a, r')) :
    ∃ (s : BufW Ww) (k : Nat) (s' : BufW Ww),
      p.run (BufW.impl e) (BufW.new Ww checks none) = .ok (a, s) ∧
      (BufW.impl e).flush s = .ok (k, s') ∧
      bitsOfBytes e (s'.outBytes e)
        = r'.bits ++ List.replicate ((Ww - r'.bits.length % Ww) % Ww) false ∧
      (∀ b ∈ s'.outBytes e, b < 256) ∧
      (s'.outBytes e).length % (Ww / 8) = 0 := by
  have hsim := wprog_sim e p (rel_new e hW checks none)
  rw [hp] at hsim
  obtain ⟨⟨_, s⟩, hrun, rfl, hrel, _⟩ := hsim.of_ok_right
  obtain ⟨k, s', hflush, hbits⟩ := flush_image e h8 hrel (p.run_steps refw_steps hp).2.2.2
  exact ⟨s, k, s', hrun, hflush, hbits, outBytes_lt e h8 s',
    by rw [outBytes_length, Nat.mul_mod_left]⟩

/-- the stream seen by a reader of word size `Wr` built on the image of the writer: the reference
    bits followed by zeros -/
theorem e2e_reader_stream {α : Type} (e : Endian) {Ww Wr : Nat} (hWw : 0 < Ww) (h8w : 8 ∣ Ww)
    (hWr : 0 < Wr) (h8r : 8 ∣ Wr) (checks : Bool) (p : WProg α) {a : α} {r' : RefW}
    (hp : p.run RefW.impl { e := e, W := Ww, checks := checks, cap := none, bits := [] } = .ok (a, r')) :
    ∃ (s : BufW Ww) (k : Nat) (s' : BufW Ww) (zeros : List Bool),
      p.run (BufW.impl e) (BufW.new Ww checks none) = .ok (a, s) ∧
      (BufW.impl e).flush s = .ok (k, s') ∧
      (∀ b ∈ zeros, b = false) ∧
      (wordsOfBytes e Wr (padTo (Wr / 8) (s'.outBytes e))).flatMap (wordBits e) = r'.bits ++ zeros := by
  obtain ⟨s, k, s', h1, h2, h3, h4, _⟩ := e2e_writer_image e hWw h8w checks p hp
  refine ⟨s, k, s', wpad Ww r'.bits.length ++ rpad Wr (s'.outBytes e).length, h1, h2, ?_, ?_⟩
  · intro b hb
    rcases List.mem_append.1 hb with h | h <;> exact (List.mem_replicate.1 h).2
  · rw [e2e_words_padTo e h8r hWr, reader_stream e hWr h8r _ h4, h3, List.append_assoc, wpad]

/-- **Round trip, buffered reader.**  `pw` writes `pre ++ bits ++ post` (on the reference writer);
    `rp` decodes `bits` to `v` (on the reference reader, wherever `bits` is embedded).  Then on the
    concrete machines: run `pw` and `flush` on a fresh `BufW Ww`, build a `BufR Wr` on the delivered
    bytes (zero-padded to whole reader words), skip `pre.length` bits and run `rp`: the result is `v`
    and the reader stands at `pre.length + bits.length`. -/
theorem e2e_roundtrip {α β : Type} (e : Endian) {Ww Wr : Nat} (hWw : 0 < Ww) (h8w : 8 ∣ Ww)
    (hWr : 0 < Wr) (h8r : 8 ∣ Wr) (hW64 : e = .be → Wr ≤ 64) (checks strict : Bool)
    (pw : WProg α) {a : α} {r' : RefW} (pre bits post : List Bool)
    (hpw : pw.run RefW.impl { e := e, W := Ww, checks := checks, cap := none, bits := [] } = .ok (a, r'))
    (hbits : r'.bits = pre ++ bits ++ post)
    (rp : RProg β) {v : β} (hr : Reads rp e bits v) (hpb : PeekBounded Wr 0 rp) :
    ∃ (sw : BufW Ww) (k : Nat) (sw' : BufW Ww) (s1 s2 : BufR Wr),
      pw.run (BufW.impl e) (BufW.new Ww checks none) = .ok (a, sw) ∧
      (BufW.impl e).flush sw = .ok (k, sw') ∧
      (BufR.impl e).skipBits
        (BufR.new ⟨wordsOfBytes e Wr (padTo (Wr / 8) (sw'.outBytes e)), 0, strict⟩) pre.length = .ok s1 ∧
      rp.run (BufR.impl e) s1 = .ok (v, s2) ∧
      s2.bitPos = pre.length + bits.length := by
  obtain ⟨sw, k, sw', zeros, h1, h2, _, hst⟩ := e2e_reader_stream e hWw h8w hWr h8r checks pw hpw
  rw [hbits, List.append_assoc] at hst
  obtain ⟨s1, h3, hrel⟩ := buf_start e hWr _ strict pre bits (post ++ zeros) hst
  obtain ⟨s2, h4, _, h5⟩ := buf_step_pm hW64 hrel (hr.toPM 0) (Nat.zero_le _) hpb
  exact ⟨sw, k, sw', s1, s2, h1, h2, h3, h4, h5⟩

/-- the same with the reader built as the differential driver does (`machL3.mkReader`: no explicit
    padding, `wordsOfBytes` pads by itself) -/
theorem e2e_roundtrip_mach {α β : Type} (e : Endian) {Ww Wr : Nat} (hWw : 0 < Ww) (h8w : 8 ∣ Ww)
    (hWr : 0 < Wr) (h8r : 8 ∣ Wr) (hW64 : e = .be → Wr ≤ 64) (checks strict : Bool)
    (pw : WProg α) {a : α} {r' : RefW} (pre bits post : List Bool)
    (hpw : pw.run RefW.impl { e := e, W := Ww, checks := checks, cap := none, bits := [] } = .ok (a, r'))
    (hbits : r'.bits = pre ++ bits ++ post)
    (rp : RProg β) {v : β} (hr : Reads rp e bits v) (hpb : PeekBounded Wr 0 rp) :
    ∃ (sw : BufW Ww) (k : Nat) (sw' : BufW Ww) (s1 s2 : BufR Wr),
      pw.run (BufW.impl e) (BufW.new Ww checks none) = .ok (a, sw) ∧
      (BufW.impl e).flush sw = .ok (k, sw') ∧
      (BufR.impl e).skipBits
        (BufR.new ⟨wordsOfBytes e Wr (sw'.outBytes e), 0, strict⟩) pre.length = .ok s1 ∧
      rp.run (BufR.impl e) s1 = .ok (v, s2) ∧
      s2.bitPos = pre.length + bits.length := by
  obtain ⟨sw, k, sw', s1, s2, h1, h2, h3, h4, h5⟩ :=
    e2e_roundtrip e hWw h8w hWr h8r hW64 checks strict pw pre bits post hpw hbits rp hr hpb
  rw [e2e_words_padTo e h8r hWr] at h3
  exact ⟨sw, k, sw', s1, s2, h1, h2, h3, h4, h5⟩

/-- **Round trip, unbuffered reader** (`BitR`, 64-bit words).  Side conditions of
    `bitr_rprog_sim`: reads of at most 64 bits and covered peeks of 1 to 32 bits (`BitR.ProgOK`),
    and either no `skip` in the program or a zero-extended backend. -/
theorem e2e_roundtrip_bitr {α β : Type} (e : Endian) {Ww : Nat} (hWw : 0 < Ww) (h8w : 8 ∣ Ww)
    (checks strict : Bool) (pw : WProg α) {a : α} {r' : RefW} (pre bits post : List Bool)
    (hpw : pw.run RefW.impl { e := e, W := Ww, checks := checks, cap := none, bits := [] } = .ok (a, r'))
    (hbits : r'.bits = pre ++ bits ++ post)
    (rp : RProg β) {v : β} (hr : Reads rp e bits v) (hok : BitR.ProgOK 0 rp)
    (hskip : BitR.NoSkip rp ∨ strict = false) :
    ∃ (sw : BufW Ww) (k : Nat) (sw' : BufW Ww) (s1 s2 : BitR),
      pw.run (BufW.impl e) (BufW.new Ww checks none) = .ok (a, sw) ∧
      (BufW.impl e).flush sw = .ok (k, sw') ∧
      (BitR.impl e).skipBits
        { data := ⟨wordsOfBytes e 64 (padTo 8 (sw'.outBytes e)), 0, strict⟩ } pre.length = .ok s1 ∧
      rp.run (BitR.impl e) s1 = .ok (v, s2) ∧
      s2.bitPos = pre.length + bits.length := by
  obtain ⟨sw, k, sw', zeros, h1, h2, _, hst⟩ :=
    e2e_reader_stream (Wr := 64) e hWw h8w (by decide) (by decide) checks pw hpw
  rw [hbits, List.append_assoc] at hst
  obtain ⟨s1, h3, hrel⟩ := bitr_start e _ strict pre bits (post ++ zeros) hst
  obtain ⟨s2, h4, _, h5⟩ := bitr_step_pm hrel (hr.toPM 0) (Nat.zero_le _) hok hskip
  exact ⟨sw, k, sw', s1, s2, h1, h2, h3, h4, h5⟩

def framedW (a na : Nat) (wc : WProg Nat) (b nb : Nat) : WProg Nat :=
  (WProg.wbits a na).bind fun x => wc.bind fun y => (WProg.wbits b nb).bind fun z => .ret (x + y + z)

theorem framedW_writes {e : Endian} {checks : Bool} {wc : WProg Nat} {code : List Bool}
    (hw : Writes wc e checks code) {a na b nb : Nat} (hna : na ≤ 64) (hnb : nb ≤ 64)
    (ha : checks = false ∨ a % 2 ^ 64 < 2 ^ na) (hb : checks = false ∨ b % 2 ^ 64 < 2 ^ nb) :
    WritesV (framedW a na wc b nb) e checks (fieldBits e a na ++ (code ++ (fieldBits e b nb ++ [])))
      (na + code.length + nb) := by
  unfold framedW
  have h1 := (Writes.wbits (e := e) (checks := checks) (v := a) hna ha).toV
  have h3 := (Writes.wbits (e := e) (checks := checks) (v := b) hnb hb).toV
  rw [fieldBits_length] at h1 h3
  exact WritesV.bind h1 (WritesV.bind hw.toV (WritesV.bind h3 (WritesV.ret e checks _)))

/-- The concrete round trip of `[a : na bits] [code] [b : nb bits]` with the buffered reader:
    the concrete writer accepts the three writes and the flush; the concrete reader built on the
    delivered bytes returns `a % 2^na`, the value `v`, `b % 2^nb`, in order, and ends at the end of
    the data. -/
def RoundTripsFramed (e : Endian) (Ww Wr : Nat) (checks strict : Bool) (wc : WProg Nat)
    (rc : RProg Nat) (len v a na b nb : Nat) : Prop :=
  ∃ (sw : BufW Ww) (k : Nat) (sw' : BufW Ww) (s1 s2 s3 : BufR Wr),
    (framedW a na wc b nb).run (BufW.impl e) (BufW.new Ww checks none) = .ok (na + len + nb, sw) ∧
    (BufW.impl e).flush sw = .ok (k, sw') ∧
    (BufR.impl e).readBits
      (BufR.new ⟨wordsOfBytes e Wr (padTo (Wr / 8) (sw'.outBytes e)), 0, strict⟩) na
        = .ok (a % 2 ^ na, s1) ∧
    rc.run (BufR.impl e) s1 = .ok (v, s2) ∧
    (BufR.impl e).readBits s2 nb = .ok (b % 2 ^ nb, s3) ∧
    s3.bitPos = na + len + nb

def RoundTripsFramedBitR (e : Endian) (Ww : Nat) (checks strict : Bool) (wc : WProg Nat)
    (rc : RProg Nat) (len v a na b nb : Nat) : Prop :=
  ∃ (sw : BufW Ww) (k : Nat) (sw' : BufW Ww) (s1 s2 s3 : BitR),
    (framedW a na wc b nb).run (BufW.impl e) (BufW.new Ww checks none) = .ok (na + len + nb, sw) ∧
    (BufW.impl e).flush sw = .ok (k, sw') ∧
    (BitR.impl e).readBits
      { data := ⟨wordsOfBytes e 64 (padTo 8 (sw'.outBytes e)), 0, strict⟩ } na = .ok (a % 2 ^ na, s1) ∧
    rc.run (BitR.impl e) s1 = .ok (v, s2) ∧
    (BitR.impl e).readBits s2 nb = .ok (b % 2 ^ nb, s3) ∧
    s3.bitPos = na + len + nb

theorem framed_stream (e : Endian) {Ww Wr : Nat} (hWw : 0 < Ww) (h8w : 8 ∣ Ww) (hWr : 0 < Wr)
    (h8r : 8 ∣ Wr) (checks : Bool) {wc : WProg Nat} {code : List Bool}
    (hw : Writes wc e checks code) (a na b nb : Nat) (hna : na ≤ 64) (hnb : nb ≤ 64)
    (ha : checks = false ∨ a % 2 ^ 64 < 2 ^ na) (hb : checks = false ∨ b % 2 ^ 64 < 2 ^ nb) :
    ∃ (sw : BufW Ww) (k : Nat) (sw' : BufW Ww) (zeros : List Bool),
      (framedW a na wc b nb).run (BufW.impl e) (BufW.new Ww checks none)
        = .ok (na + code.length + nb, sw) ∧
      (BufW.impl e).flush sw = .ok (k, sw') ∧
      (wordsOfBytes e Wr (padTo (Wr / 8) (sw'.outBytes e))).flatMap (wordBits e)
        = [] ++ fieldBits e a na ++ (code ++ (fieldBits e b nb ++ zeros)) := by
  have hrun := framedW_writes hw hna hnb ha hb
    { e := e, W := Ww, checks := checks, cap := none, bits := [] } rfl rfl rfl
  obtain ⟨sw, k, sw', zeros, h1, h2, _, hst⟩ := e2e_reader_stream e hWw h8w hWr h8r checks _ hrun
  refine ⟨sw, k, sw', zeros, h1, h2, ?_⟩
  rw [hst]
  simp only [List.nil_append, List.append_nil, List.append_assoc]

/-- three consecutive fields, the outer two raw, read by any reader that has a one-step lemma `step`
    for the programs (with their bits and values) that satisfy `Good` -/
theorem three_fields {ρ : Type} {ri : RImpl ρ} {Rl : ρ → RefR → Prop} {pos : ρ → Nat} {e : Endian}
    {strict : Bool} {pm : Nat} {Good : RProg Nat → List Bool → Nat → Prop}
    (step : ∀ {s : ρ} {pre bits post : List Bool} {rp : RProg Nat} {v : Nat},
      Rl s (RefR.at e pre bits post strict pm) → Good rp bits v →
      ∃ s', rp.run ri s = .ok (v, s') ∧ Rl s' (RefR.after e pre bits post strict pm) ∧
        pos s' = pre.length + bits.length)
    {s0 : ρ} {A C B z : List Bool} {na nb va vc vb : Nat} {rc : RProg Nat}
    (h0 : Rl s0 (RefR.at e [] A (C ++ (B ++ z)) strict pm))
    (hA : Good (RProg.rbits na) A va) (hC : Good rc C vc) (hB : Good (RProg.rbits nb) B vb) :
    ∃ s1 s2 s3, ri.readBits s0 na = .ok (va, s1) ∧ rc.run ri s1 = .ok (vc, s2) ∧
      ri.readBits s2 nb = .ok (vb, s3) ∧ pos s3 = A.length + C.length + B.length := by
  obtain ⟨s1, r1, hrel1, _⟩ := step h0 hA
  rw [after_eq_at] at hrel1
  obtain ⟨s2, r2, hrel2, _⟩ := step hrel1 hC
  rw [after_eq_at] at hrel2
  obtain ⟨s3, r3, _, hpos⟩ := step hrel2 hB
  refine ⟨s1, s2, s3, run_rbits_ok _ _ _ _ _ r1, r2, run_rbits_ok _ _ _ _ _ r3, ?_⟩
  rw [hpos, List.length_append, List.length_append, List.length_nil, Nat.zero_add]

/-- `e2e_framed` for a reader program that looks `K ≤ Wr` bits ahead -/
theorem e2e_framed_pm (e : Endian) {Ww Wr : Nat} (hWw : 0 < Ww) (h8w : 8 ∣ Ww) (hWr : 0 < Wr)
    (h8r : 8 ∣ Wr) (hW64 : e = .be → Wr ≤ 64) (checks strict : Bool)
    {wc : WProg Nat} {rc : RProg Nat} {code : List Bool} {v : Nat} {K : Nat}
    (hw : Writes wc e checks code) (hr : ReadsPM K rc e code v) (hK : K ≤ Wr)
    (hpb : PeekBounded Wr 0 rc)
    (a na b nb : Nat) (hna : na ≤ 64) (hnb : nb ≤ 64)
    (ha : checks = false ∨ a % 2 ^ 64 < 2 ^ na) (hb : checks = false ∨ b % 2 ^ 64 < 2 ^ nb) :
    RoundTripsFramed e Ww Wr checks strict wc rc code.length v a na b nb := by
  obtain ⟨sw, k, sw', zeros, h1, h2, hst⟩ :=
    framed_stream e hWw h8w hWr h8r checks hw a na b nb hna hnb ha hb
  have hrel0 := new_rel e hWr (wordsOfBytes e Wr (padTo (Wr / 8) (sw'.outBytes e))) strict
  rw [hst] at hrel0
  obtain ⟨s1, s2, s3, r1, r2, r3, hpos⟩ := three_fields
    (Good := fun rp bits v => ∃ K, ReadsPM K rp e bits v ∧ K ≤ Wr ∧ PeekBounded Wr 0 rp)
    (fun h ⟨_, hr, hK, hpb⟩ => buf_step_pm hW64 h hr hK hpb) hrel0
    ⟨0, (reads_rbits e hna a).toPM 0, Nat.zero_le _, pb_rbits Wr na⟩ ⟨K, hr, hK, hpb⟩
    ⟨0, (reads_rbits e hnb b).toPM 0, Nat.zero_le _, pb_rbits Wr nb⟩
  rw [fieldBits_length, fieldBits_length] at hpos
  exact ⟨sw, k, sw', s1, s2, s3, h1, h2, r1, r2, r3, hpos⟩

/-- any code with a `Writes` and a `Reads` theorem round-trips between two raw fields -/
theorem e2e_framed (e : Endian) {Ww Wr : Nat} (hWw : 0 < Ww) (h8w : 8 ∣ Ww) (hWr : 0 < Wr)
    (h8r : 8 ∣ Wr) (hW64 : e = .be → Wr ≤ 64) (checks strict : Bool)
    {wc : WProg Nat} {rc : RProg Nat} {code : List Bool} {v : Nat}
    (hw : Writes wc e checks code) (hr : Reads rc e code v) (hpb : PeekBounded Wr 0 rc)
    (a na b nb : Nat) (hna : na ≤ 64) (hnb : nb ≤ 64)
    (ha : checks = false ∨ a % 2 ^ 64 < 2 ^ na) (hb : checks = false ∨ b % 2 ^ 64 < 2 ^ nb) :
    RoundTripsFramed e Ww Wr checks strict wc rc code.length v a na b nb :=
  e2e_framed_pm e hWw h8w hWr h8r hW64 checks strict hw (hr.toPM 0) (Nat.zero_le _) hpb
    a na b nb hna hnb ha hb

/-- `e2e_framed_bitr` for a reader program that looks `K ≤ 32` bits ahead -/
theorem e2e_framed_bitr_pm (e : Endian) {Ww : Nat} (hWw : 0 < Ww) (h8w : 8 ∣ Ww)
    (checks strict : Bool) {wc : WProg Nat} {rc : RProg Nat} {code : List Bool} {v : Nat} {K : Nat}
    (hw : Writes wc e checks code) (hr : ReadsPM K rc e code v) (hK : K ≤ 32)
    (hok : BitR.ProgOK 0 rc) (hskip : BitR.NoSkip rc ∨ strict = false)
    (a na b nb : Nat) (hna : na ≤ 64) (hnb : nb ≤ 64)
    (ha : checks = false ∨ a % 2 ^ 64 < 2 ^ na) (hb : checks = false ∨ b % 2 ^ 64 < 2 ^ nb) :
    RoundTripsFramedBitR e Ww checks strict wc rc code.length v a na b nb := by
  obtain ⟨sw, k, sw', zeros, h1, h2, hst⟩ :=
    framed_stream (Wr := 64) e hWw h8w (by decide) (by decide) checks hw a na b nb hna hnb ha hb
  have hrel0 := bitr_new_rel e (wordsOfBytes e 64 (padTo 8 (sw'.outBytes e))) 0 strict
  -- `hst` (`framed_stream` at `Wr := 64`) spells the padding `padTo (64 / 8)`; `rw` matches syntactically
  rw [show wordsOfBytes e 64 (padTo 8 (sw'.outBytes e))
    = wordsOfBytes e 64 (padTo (64 / 8) (sw'.outBytes e)) from rfl, hst] at hrel0
  obtain ⟨s1, s2, s3, r1, r2, r3, hpos⟩ := three_fields
    (Good := fun rp bits v => ∃ K, ReadsPM K rp e bits v ∧ K ≤ 32 ∧ BitR.ProgOK 0 rp ∧
      (BitR.NoSkip rp ∨ strict = false))
    (fun h ⟨_, hr, hK, hok, hskip⟩ => bitr_step_pm h hr hK hok hskip) hrel0
    ⟨0, (reads_rbits e hna a).toPM 0, Nat.zero_le _, ok_rbits hna, Or.inl (ns_rbits na)⟩
    ⟨K, hr, hK, hok, hskip⟩
    ⟨0, (reads_rbits e hnb b).toPM 0, Nat.zero_le _, ok_rbits hnb, Or.inl (ns_rbits nb)⟩
  rw [fieldBits_length, fieldBits_length] at hpos
  exact ⟨sw, k, sw', s1, s2, s3, h1, h2, r1, r2, r3, hpos⟩

theorem e2e_framed_bitr (e : Endian) {Ww : Nat} (hWw : 0 < Ww) (h8w : 8 ∣ Ww) (checks strict : Bool)
    {wc : WProg Nat} {rc : RProg Nat} {code : List Bool} {v : Nat}
    (hw : Writes wc e checks code) (hr : Reads rc e code v) (hok : BitR.ProgOK 0 rc)
    (hskip : BitR.NoSkip rc ∨ strict = false)
    (a na b nb : Nat) (hna : na ≤ 64) (hnb : nb ≤ 64)
    (ha : checks = false ∨ a % 2 ^ 64 < 2 ^ na) (hb : checks = false ∨ b % 2 ^ 64 < 2 ^ nb) :
    RoundTripsFramedBitR e Ww checks strict wc rc code.length v a na b nb :=
  e2e_framed_bitr_pm e hWw h8w checks strict hw (hr.toPM 0) (Nat.zero_le _) hok hskip
    a na b nb hna hnb ha hb

section codes
variable (e : Endian) {Ww Wr : Nat} (hWw : 0 < Ww) (h8w : 8 ∣ Ww) (hWr : 0 < Wr) (h8r : 8 ∣ Wr)
  (hW64 : e = .be → Wr ≤ 64) (checks strict : Bool) (a na b nb : Nat) (hna : na ≤ 64) (hnb : nb ≤ 64)
  (ha : checks = false ∨ a % 2 ^ 64 < 2 ^ na) (hb : checks = false ∨ b % 2 ^ 64 < 2 ^ nb)
include hWw h8w hna hnb ha hb

section buffered
include hWr h8r hW64

theorem e2e_gamma (n : Nat) (hn : n < 2 ^ 64 - 1) :
    RoundTripsFramed e Ww Wr checks strict (writeGammaDefault checks n) readGammaDefault
      (Spec.gamma e n).length n a na b nb :=
  e2e_framed e hWw h8w hWr h8r hW64 checks strict (gamma_writes e checks n hn) (gamma_reads e n hn)
    (TrL.simple_gamma.peekBounded Wr _ 0) a na b nb hna hnb ha hb

theorem e2e_delta (n : Nat) (hn : n < 2 ^ 64 - 1) :
    RoundTripsFramed e Ww Wr checks strict (writeDeltaDefault checks none n) (readDeltaDefault none)
      (Spec.delta e n).length n a na b nb :=
  e2e_framed e hWw h8w hWr h8r hW64 checks strict (delta_writes e checks n hn) (delta_reads e n hn)
    (TrL.simple_delta.peekBounded Wr _ 0) a na b nb hna hnb ha hb

theorem e2e_zeta (k n : Nat) (hk1 : 1 ≤ k) (hk : k ≤ 63) (hn : n < 2 ^ 64 - 1) :
    RoundTripsFramed e Ww Wr checks strict (writeZetaDefault n k) (readZetaDefault k)
      (Spec.zetaWrapped e k n).length n a na b nb :=
  e2e_framed e hWw h8w hWr h8r hW64 checks strict (zeta_writes e checks k n hk1 hk hn)
    (zeta_reads e k n hk1 hk hn) ((TrL.simple_zeta k).peekBounded Wr _ 0) a na b nb hna hnb ha hb

theorem e2e_omega (n : Nat) (hn : n < 2 ^ 64 - 1) :
    RoundTripsFramed e Ww Wr checks strict (writeOmega e checks n) (readOmega e)
      (Spec.omega e n).length n a na b nb :=
  e2e_framed e hWw h8w hWr h8r hW64 checks strict (omega_writes e checks n hn) (omega_reads e n hn)
    (pb_omega e hWr) a na b nb hna hnb ha hb

end buffered

theorem e2e_gamma_bitr (n : Nat) (hn : n < 2 ^ 64 - 1) :
    RoundTripsFramedBitR e Ww checks strict (writeGammaDefault checks n) readGammaDefault
      (Spec.gamma e n).length n a na b nb :=
  e2e_framed_bitr e hWw h8w checks strict (gamma_writes e checks n hn) (gamma_reads e n hn)
    (TrL.simple_gamma.progOK _ 0) (Or.inl (TrL.simple_gamma.noSkip _)) a na b nb hna hnb ha hb

theorem e2e_delta_bitr (n : Nat) (hn : n < 2 ^ 64 - 1) :
    RoundTripsFramedBitR e Ww checks strict (writeDeltaDefault checks none n) (readDeltaDefault none)
      (Spec.delta e n).length n a na b nb :=
  e2e_framed_bitr e hWw h8w checks strict (delta_writes e checks n hn) (delta_reads e n hn)
    (TrL.simple_delta.progOK _ 0) (Or.inl (TrL.simple_delta.noSkip _)) a na b nb hna hnb ha hb

theorem e2e_zeta_bitr (k n : Nat) (hk1 : 1 ≤ k) (hk : k ≤ 63) (hn : n < 2 ^ 64 - 1) :
    RoundTripsFramedBitR e Ww checks strict (writeZetaDefault n k) (readZetaDefault k)
      (Spec.zetaWrapped e k n).length n a na b nb :=
  e2e_framed_bitr e hWw h8w checks strict (zeta_writes e checks k n hk1 hk hn)
    (zeta_reads e k n hk1 hk hn) ((TrL.simple_zeta k).progOK _ 0)
    (Or.inl ((TrL.simple_zeta k).noSkip _)) a na b nb hna hnb ha hb

theorem e2e_omega_bitr (n : Nat) (hn : n < 2 ^ 64 - 1) :
    RoundTripsFramedBitR e Ww checks strict (writeOmega e checks n) (readOmega e)
      (Spec.omega e n).length n a na b nb :=
  e2e_framed_bitr e hWw h8w checks strict (omega_writes e checks n hn) (omega_reads e n hn)
    (ok_omega e) (Or.inl (ns_omega e)) a na b nb hna hnb ha hb

end codes

/-- `Ww = 16`, `Wr = 8`, little-endian, strict backend: five raw bits `10101`, δ(1000), no trailer -/
example : RoundTripsFramed .le 16 8 false true (writeDeltaDefault false none 1000)
    (readDeltaDefault none) (Spec.delta .le 1000).length 1000 21 5 0 0 :=
  e2e_delta .le (by decide) (by decide) (by decide) (by decide) (fun h => by cases h) false true
    21 5 0 0 (by decide) (by decide) (Or.inl rfl) (Or.inl rfl) 1000 (by decide)

/-- `Ww = 64`, `Wr = 32`, big-endian, `checks` on: ζ_3(12345) between a 7-bit and a 13-bit field -/
example : RoundTripsFramed .be 64 32 true false (writeZetaDefault 12345 3) (readZetaDefault 3)
    (Spec.zetaWrapped .be 3 12345).length 12345 100 7 5000 13 :=
  e2e_zeta .be (by decide) (by decide) (by decide) (by decide) (fun _ => by decide) true false
    100 7 5000 13 (by decide) (by decide) (Or.inr (by decide)) (Or.inr (by decide)) 3 12345
    (by decide) (by decide) (by decide)

/-- the unbuffered reader on the image of an 8-bit writer: ω(10^6) after 3 raw bits -/
example : RoundTripsFramedBitR .be 8 false true (writeOmega .be false 1000000) (readOmega .be)
    (Spec.omega .be 1000000).length 1000000 5 3 1 1 :=
  e2e_omega_bitr .be (by decide) (by decide) false true 5 3 1 1 (by decide) (by decide)
    (Or.inl rfl) (Or.inl rfl) 1000000 (by decide)

/-- `e2e_roundtrip` on concrete numbers: γ(9) written after the five bits `10101` by a 16-bit
    LE writer, read by an 8-bit LE reader after skipping five bits -/
example : ∃ (sw : BufW 16) (k : Nat) (sw' : BufW 16) (s1 s2 : BufR 8),
    (framedW 21 5 (writeGammaDefault false 9) 0 0).run (BufW.impl .le) (BufW.new 16 false none)
      = .ok (5 + (Spec.gamma .le 9).length + 0, sw) ∧
    (BufW.impl .le).flush sw = .ok (k, sw') ∧
    (BufR.impl .le).skipBits
      (BufR.new ⟨wordsOfBytes .le 8 (padTo (8 / 8) (sw'.outBytes .le)), 0, true⟩) 5 = .ok s1 ∧
    readGammaDefault.run (BufR.impl .le) s1 = .ok (9, s2) ∧
    s2.bitPos = 5 + (Spec.gamma .le 9).length := by
  have hW := framedW_writes (e := .le) (checks := false) (gamma_writes .le false 9 (by decide))
    (a := 21) (na := 5) (b := 0) (nb := 0) (by decide) (by decide) (Or.inl rfl) (Or.inl rfl)
  have hrun := hW { e := .le, W := 16, checks := false, cap := none, bits := [] } rfl rfl rfl
  have := e2e_roundtrip .le (Ww := 16) (Wr := 8) (by decide) (by decide) (by decide) (by decide)
    (fun h => by cases h) false true _ (fieldBits .le 21 5) (Spec.gamma .le 9) (fieldBits .le 0 0 ++ [])
    hrun (by simp) readGammaDefault (gamma_reads .le 9 (by decide))
    (TrL.simple_gamma.peekBounded 8 _ 0)
  rwa [show (fieldBits .le 21 5).length = 5 from rfl] at this

/-- the δ(1000) session above computed: the four bytes a 16-bit LE writer delivers for `10101`, δ(1000), and
    what an 8-bit LE strict reader makes of them (this is the instance of `e2e_delta` above) -/
example : ∃ (sw : BufW 16) (k : Nat) (sw' : BufW 16),
    (framedW 21 5 (writeDeltaDefault false none 1000) 0 0).run (BufW.impl .le) (BufW.new 16 false none)
      = .ok (21, sw) ∧
    (BufW.impl .le).flush sw = .ok (k, sw') ∧ sw'.outBytes .le = [21, 149, 30, 0] :=
  ⟨_, _, _, rfl, rfl, rfl⟩

example : ∃ (s1 s2 : BufR 8),
    (BufR.impl .le).readBits (BufR.new ⟨wordsOfBytes .le 8 (padTo (8 / 8) [21, 149, 30, 0]), 0, true⟩) 5
      = .ok (21, s1) ∧
    (readDeltaDefault none).run (BufR.impl .le) s1 = .ok (1000, s2) ∧ s2.bitPos = 21 :=
  ⟨_, _, rfl, rfl, rfl⟩

end Dsi
