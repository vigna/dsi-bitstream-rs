/-
  C11 over the generated definitions: the regenerated `WordAdapter::write_word` / `read_word`
  (lean/Dsi/Gen/AdapterBodies.lean), run against a wrapped object that answers with an arbitrary fault
  schedule, are lossless-or-error.
-/
import Dsi.Props.AdapterGen
import Dsi.Props.C11
import Dsi.Lemmas.Res

namespace Dsi.Headline2
open Dsi Dsi.AdapterGen

/-- the generated `write_word` over any fault schedule: either it succeeds, and then the sink has received
    exactly the `n` bytes of the word, once and in order, after what it held (a prefix of the schedule
    consumed), or it reports an error; it never panics -/
theorem gen_adapter_write_lossless (n : Nat) (s : Sink) (w : Nat) :
    (∀ a', Gen.WordAdapter.write_word n Sink.writeWord { backend := s } w = .ok a' →
        a'.backend.bytes = s.bytes ++ leBytes w n ∧ ∃ used, s.sched = used ++ a'.backend.sched) ∧
    ((∃ a', Gen.WordAdapter.write_word n Sink.writeWord { backend := s } w = .ok a') ∨
     (∃ e, Gen.WordAdapter.write_word n Sink.writeWord { backend := s } w = .err e)) := by
  rw [write_word_sink_eq]
  obtain ⟨h1, h2⟩ := adapter_write_lossless s (leBytes w n)
  refine ⟨fun a' h => ?_, ?_⟩
  · obtain ⟨s', hw, hs'⟩ := Res.map_eq_ok.1 h
    cases hs'
    exact h1 s' hw
  · rcases h2 with ⟨s', hs⟩ | ⟨e, he⟩
    · exact .inl ⟨_, by rw [hs]; rfl⟩
    · exact .inr ⟨e, by rw [he]; rfl⟩

/-- the generated `read_word` over any fault schedule: a successful read returns the next `n` bytes of
    the source (as the little-endian value of the word) and leaves the rest -/
theorem gen_adapter_read_exact (n : Nat) (src : Source) (v : Nat) (a' : WordAdapter Source)
    (h : Gen.WordAdapter.read_word n (fun s buf => s.readWord buf.length) { backend := src } = .ok (v, a')) :
    v = leVal (src.bytes.take n) ∧ a'.backend.bytes = src.bytes.drop n := by
  rw [read_word_source_eq] at h
  obtain ⟨⟨bytes, src'⟩, hr, hx⟩ := Res.map_eq_ok.1 h
  obtain ⟨hv, ha⟩ := Prod.mk.inj hx
  obtain ⟨hb, _, hd⟩ := adapter_read_exact src src' n bytes hr
  subst ha
  exact ⟨by rw [← hv, hb], hd⟩

example : ∃ a', Gen.WordAdapter.write_word 2 Sink.writeWord
    { backend := { bytes := [], sched := [.accept 1, .interrupted, .accept 5] } } 0x1234 = .ok a' ∧
    a'.backend.bytes = [0x34, 0x12] := ⟨_, rfl, rfl⟩

end Dsi.Headline2
