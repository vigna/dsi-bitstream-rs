/-
  The generated ω writer / reader (lean/Dsi/Gen/OmegaBodies.lean, produced by
  tools/translate_codes2.py from src/codes/omega.rs on every run) against the hand-written
  programs `omegaWriteRec` / `writeOmega` / `omegaReadLoop` / `readOmega` of Dsi/Codes.lean.

  * writer: equal for every u64 argument (`n < 2^64 - 1` for `write_omega`, which computes `n + 1`);
  * reader: `Guarded` — the hand-written loop is the generated one plus the `n ≥ 64` panic point.
-/
import Dsi.Codes
import Dsi.Gen.OmegaBodies
import Dsi.Props.CodeBodiesGen
namespace Dsi
namespace OmegaGen
open Gen CodeBodiesGen

/-- `(n << 1) | 1` on a u64 -/
theorem shl1_or1 (n : Nat) : ((n <<< 1) % 2 ^ 64) ||| 1 = (2 * n + 1) % 2 ^ 64 := by
  have h : (n <<< 1) % 2 ^ 64 = (n % 2 ^ 63) <<< 1 := by
    rw [Nat.shiftLeft_eq, Nat.shiftLeft_eq]; exact Nat.mul_mod_mul_right (2 ^ 1) n (2 ^ 63)
  rw [h, ← Nat.shiftLeft_add_eq_or_of_lt (by decide : 1 < 2 ^ 1), Nat.shiftLeft_eq, Nat.pow_one,
    Nat.mul_comm]
  exact (two_mul_add_one_mod n (2 ^ 63)).symm

/-- `u64::MAX >> (u64::BITS - 1 - λ)` is the mask of the `λ + 1` low bits -/
theorem mask_shr : ∀ l, l < 64 → (2 ^ 64 - 1) >>> (64 - 1 - l) = 2 ^ (l + 1) - 1 := by
  decide

theorem and_mask_shr (n : Nat) {l : Nat} (hl : l < 64) :
    n &&& ((2 ^ 64 - 1) >>> (64 - 1 - l)) = n % 2 ^ (l + 1) := by
  rw [mask_shr l hl, Nat.and_two_pow_sub_one_eq_mod]

/-- `(v >> 1) | (1 << λ)` for a `λ + 1`-bit `v` -/
theorem shr1_or_pow {v l : Nat} (hl : l < 64) (hv : v < 2 ^ (l + 1)) :
    (v >>> 1) ||| ((1 <<< l) % 2 ^ 64) = v / 2 + 2 ^ l := by
  rw [one_shl_mod hl, Nat.shiftRight_eq_div_pow, Nat.pow_one, Nat.or_comm, Nat.add_comm]
  have h : v / 2 < 2 ^ l := by rw [Nat.pow_succ] at hv; omega
  have := Nat.two_pow_add_eq_or_of_lt h 1
  rw [Nat.mul_one] at this
  exact this.symm

theorem recursive_write_eq (e : Endian) (checks : Bool) (fuel : Nat) :
    ∀ n, n < 2 ^ 64 → Gen.recursive_write fuel e checks n = omegaWriteRec e checks fuel n := by
  induction fuel with
  | zero => intro n _; rfl
  | succ fuel ih =>
    intro n hn
    have hl : n.log2 < 64 := log2_lt_64 hn
    have hl' : n.log2 < 2 ^ 64 := by omega
    unfold Gen.recursive_write omegaWriteRec
    by_cases h1 : n ≤ 1
    · simp only [h1, if_true]
    · simp only [h1, if_false, ih _ hl']
      cases e with
      | be => simp only [reduceCtorEq, if_false]
      | le =>
        cases checks with
        | false => simp only [if_true, shl1_or1, Bool.false_eq_true, if_false]
        | true => simp only [if_true, shl1_or1, and_mask_shr _ hl]

theorem write_omega_eq (e : Endian) (checks : Bool) {n : Nat} (hn : n < 2 ^ 64 - 1) :
    Gen.write_omega e checks n = writeOmega e checks n := by
  have hn' : ¬ n ≥ 2 ^ 64 - 1 := by omega
  unfold Gen.write_omega writeOmega
  simp only [hn', if_false, recursive_write_eq e checks 8 (n + 1) (by omega)]

set_option linter.unusedSimpArgs false in
theorem read_omega_loop_guarded (e : Endian) (fuel : Nat) :
    ∀ n, Guarded (omegaReadLoop e fuel n) (Gen.read_omega_loop1 fuel e n) := by
  induction fuel with
  | zero => intro n; exact Guarded.dpanic _
  | succ fuel ih =>
    intro n
    unfold omegaReadLoop Gen.read_omega_loop1
    refine Guarded.peek _ fun r => ?_
    cases r with
    | error er => exact Guarded.refl _
    | ok bit =>
      simp only
      by_cases hb : bit = 0
      · simp only [hb, if_true]; exact Guarded.refl _
      · simp only [hb, if_false]
        by_cases hn : n ≥ 64
        · simp only [hn, if_true]; exact Guarded.dpanic _
        · simp only [hn, if_false, Nat.add_comm 1 n]      -- (`1 + λ` and `λ + 1` alike)
          refine Guarded.readBits _ fun v hv => ?_
          cases e with
          | be => simp only [reduceCtorEq, if_false]; exact ih v
          | le =>
            simp only [if_true, shr1_or_pow (by omega : n < 64) hv]
            exact ih _

theorem read_omega_guarded (e : Endian) : Guarded (readOmega e) (Gen.read_omega e) :=
  read_omega_loop_guarded e 8 1

end OmegaGen
end Dsi
