/-
  `BufBitWriter::copy_from` as TRANSLATED from src/impls/buf_bit_writer.rs on every run
  (`Dsi.Gen.BufW.copy_from_be/le` in lean/Dsi/Gen/BufWriterBodies.lean, tools/translate_bufw.py) is
  EQUAL to the hand-written model `BufW.copyFrom` (lean/Dsi/Impl/Copy.lean).

  Hypotheses, and why they are there:
  * `W ≤ 64`: the words the specialised path handles.  For wider words (`u128`) the Rust takes the
    generic chunked loop; its equality with `copyGeneric` is in Props/BufWriterCopyWideGen.lean
    (`copy_from_{be,le}_wide_eq`, `genCopyFrom_wide_eq_generic`).
  * `0 < W` (LE only): the rotation amount `n as u32` of the last partial word is `n % W`, which is
    below `2^32` only for a real word width.
  * `s.space ≤ W` (the struct invariant): `self.space_left_in_buffer as u64` / `as u32` agree with
    the `Nat` value only when it fits; under the invariant it does.
-/
import Dsi.Gen.BufWriterBodies
import Dsi.Props.BufWriterGen
import Dsi.Props.Copy
namespace Dsi
namespace GenBufW
variable {W : Nat}

theorem cast64 (v : Nat) (hW : W ≤ 64) : (BitVec.ofNat 64 v).setWidth W = BitVec.ofNat W v := by
  apply BitVec.eq_of_toNat_eq
  rw [BitVec.toNat_setWidth, BitVec.toNat_ofNat, BitVec.toNat_ofNat]
  exact Nat.mod_mod_of_dvd v (Nat.pow_dvd_pow 2 hW)

theorem ofNat64_toNat (x : Nat) (h : x ≤ 64) : (BitVec.ofNat 64 x).toNat = x := by
  rw [BitVec.toNat_ofNat]; omega

theorem forN_copyWordsFrom {ρ : Type} (ri : RImpl ρ) (hW : W ≤ 64)
    (f : ρ × BufW W → Res (ρ × BufW W))
    (hf : ∀ st, f st = Res.bind (ri.readBits st.1 W) fun rr =>
      Res.bind (st.2.emit ((BitVec.ofNat 64 rr.1).setWidth W)) fun s => .ok (rr.2, s)) :
    ∀ k r s, forN k (r, s) f = BufW.copyWordsFrom ri k r s :=
  fun k r s => forN_eq (fun k st => BufW.copyWordsFrom ri k st.1 st.2) (fun _ => rfl)
    (fun k st => by
      rw [BufW.copyWordsFrom, hf]
      cases ri.readBits st.1 W with
      | ok p =>
        obtain ⟨v, r'⟩ := p
        rw [Res.bind_ok, cast64 v hW]
        dsimp only
        cases st.2.emit (BitVec.ofNat W v) <;> rfl
      | _ => rfl) k (r, s)

theorem copyWordsFrom_upd {ρ : Type} (ri : RImpl ρ) (b : BitVec W) (sp : Nat) :
    ∀ k r (s : BufW W), BufW.copyWordsFrom ri k r (upd b sp s) =
      (BufW.copyWordsFrom ri k r s).map fun p => (p.1, upd b sp p.2)
  | 0, r, s => rfl
  | k + 1, r, s => by
    simp only [BufW.copyWordsFrom]
    cases ri.readBits r W with
    | ok p =>
      obtain ⟨v, r'⟩ := p
      simp only [emit_upd]
      cases s.emit (BitVec.ofNat W v) with
      | ok s' => exact copyWordsFrom_upd ri b sp k r' s'
      | _ => rfl
    | _ => rfl

theorem copy_from_be_eq {ρ : Type} (ri : RImpl ρ) (s : BufW W) (r : ρ) (n : BitVec 64)
    (hW : W ≤ 64) (hs : s.space ≤ W) :
    Gen.BufW.copy_from_be ri s r n = BufW.copyFrom .be ri s r n.toNat := by
  obtain ⟨b, sp, out, cap, ch⟩ := s
  dsimp only at hs
  have hW64 : W < 2 ^ 64 := Nat.lt_of_le_of_lt hW (by decide)
  have hlt : (n < BitVec.ofNat 64 sp) ↔ n.toNat < sp := by
    rw [BitVec.lt_def, u64_ofNat (Nat.lt_of_le_of_lt hs hW64)]
  unfold Gen.BufW.copy_from_be BufW.copyFrom BufW.shiftIn BufW.placed
  rw [if_neg (Nat.not_lt.2 hW), if_neg (Nat.not_lt.2 hW)]
  dsimp only
  by_cases hfast : n.toNat < sp
  · rw [if_pos (hlt.2 hfast), if_pos hfast]
    cases ri.readBits r n.toNat with
    | ok p => rw [Res.bind_ok, cast64 p.1 hW]
    | _ => rfl
  · have hle : sp ≤ n.toNat := Nat.le_of_not_lt hfast
    rw [if_neg (fun h => hfast (hlt.1 h)), if_neg hfast]
    cases ri.readBits r sp with
    | ok p =>
      rw [Res.bind_ok]
      dsimp only
      rw [cast64 p.1 hW, emit_mk, emit_mk]
      by_cases hc : capOk cap out.length = true
      · rw [if_pos hc, if_pos hc, Res.bind_ok]
        dsimp only
        generalize b <<< (sp - 1) <<< 1 ||| BitVec.ofNat W p.1 = b1
        rw [u64_div hle hW64, u64_mod hle hW64, forN_copyWordsFrom ri hW _ (fun _ => rfl),
          show (⟨b1, sp, out ++ [b1], cap, ch⟩ : BufW W)
            = upd b1 sp ⟨b, sp, out ++ [b1], cap, ch⟩ from rfl, copyWordsFrom_upd]
        cases BufW.copyWordsFrom ri ((n.toNat - sp) / W) p.2 _ with
        | ok q =>
          rw [Res.map, Res.bind_ok]
          dsimp only
          cases ri.readBits q.1 ((n.toNat - sp) % W) with
          | ok p3 => rw [Res.bind_ok, cast64 p3.1 hW]
          | _ => rfl
        | _ => rfl
      · rw [if_neg hc, if_neg hc]; rfl
    | _ => rfl

theorem copy_from_le_eq {ρ : Type} (ri : RImpl ρ) (s : BufW W) (r : ρ) (n : BitVec 64)
    (hW0 : 0 < W) (hW : W ≤ 64) (hs : s.space ≤ W) :
    Gen.BufW.copy_from_le ri s r n = BufW.copyFrom .le ri s r n.toNat := by
  obtain ⟨b, sp, out, cap, ch⟩ := s
  dsimp only at hs
  have hW64 : W < 2 ^ 64 := Nat.lt_of_le_of_lt hW (by decide)
  have hlt : (n < BitVec.ofNat 64 sp) ↔ n.toNat < sp := by
    rw [BitVec.lt_def, u64_ofNat (Nat.lt_of_le_of_lt hs hW64)]
  -- the rotation amounts are cast to `u32`; all of them are below the word width
  have h32 : ∀ {k : Nat}, k ≤ W → k % 4294967296 = k := fun hk =>
    Nat.mod_eq_of_lt (Nat.lt_of_le_of_lt (Nat.le_trans hk hW) (by decide))
  unfold Gen.BufW.copy_from_le BufW.copyFrom BufW.shiftIn BufW.placed
  rw [if_neg (Nat.not_lt.2 hW), if_neg (Nat.not_lt.2 hW)]
  dsimp only
  by_cases hfast : n.toNat < sp
  · rw [if_pos (hlt.2 hfast), if_pos hfast]
    cases ri.readBits r n.toNat with
    | ok p => rw [Res.bind_ok, cast64 p.1 hW, h32 (Nat.le_trans (Nat.le_of_lt hfast) hs)]
    | _ => rfl
  · have hle : sp ≤ n.toNat := Nat.le_of_not_lt hfast
    rw [if_neg (fun h => hfast (hlt.1 h)), if_neg hfast]
    cases ri.readBits r sp with
    | ok p =>
      rw [Res.bind_ok]
      dsimp only
      rw [cast64 p.1 hW, h32 hs, emit_mk, emit_mk]
      by_cases hc : capOk cap out.length = true
      · rw [if_pos hc, if_pos hc, Res.bind_ok]
        dsimp only
        generalize b >>> (sp - 1) >>> 1 ||| (BitVec.ofNat W p.1).rotateRight sp = b1
        rw [u64_div hle hW64, u64_mod hle hW64, forN_copyWordsFrom ri hW _ (fun _ => rfl),
          show (⟨b1, sp, out ++ [b1], cap, ch⟩ : BufW W)
            = upd b1 sp ⟨b, sp, out ++ [b1], cap, ch⟩ from rfl, copyWordsFrom_upd,
          h32 (Nat.le_of_lt (Nat.mod_lt (n.toNat - sp) hW0))]
        cases BufW.copyWordsFrom ri ((n.toNat - sp) / W) p.2 _ with
        | ok q =>
          rw [Res.map, Res.bind_ok]
          dsimp only
          cases ri.readBits q.1 ((n.toNat - sp) % W) with
          | ok p3 => rw [Res.bind_ok, cast64 p3.1 hW]
          | _ => rfl
        | _ => rfl
      · rw [if_neg hc, if_neg hc]; rfl
    | _ => rfl

/-- the translated `copy_from` of the two `BitWrite` impls -/
def genCopyFrom {ρ : Type} (e : Endian) (ri : RImpl ρ) (s : BufW W) (r : ρ) (n : BitVec 64) :
    Res (ρ × BufW W) :=
  match e with
  | .be => Gen.BufW.copy_from_be ri s r n
  | .le => Gen.BufW.copy_from_le ri s r n

theorem genCopyFrom_eq {ρ : Type} (e : Endian) (ri : RImpl ρ) (s : BufW W) (r : ρ) (n : BitVec 64)
    (hW : W ≤ 64) (hi : s.Inv) : genCopyFrom e ri s r n = BufW.copyFrom e ri s r n.toNat := by
  cases e
  · exact copy_from_be_eq ri s r n hW hi.2
  · exact copy_from_le_eq ri s r n (by have := hi.1; have := hi.2; omega) hW hi.2

/-- `Dsi.copyFrom_sim` (lean/Dsi/Props/Copy.lean) for the translated body, writer words of at most
    64 bits -/
theorem gen_copyFrom_sim {Wr Ww : Nat} {e : Endian} (hW64 : e = .be → Wr ≤ 64) (hWw : Ww ≤ 64)
    {s : BufR Wr} {r : RefR} {t : BufW Ww} {w : RefW} (hs : BufR.Rel e s r) (ht : BufW.RelC e t w)
    {n : BitVec 64} (hav : r.avail n.toNat = true) :
    ResRel (CopyPost e) (genCopyFrom e (BufR.impl e) t s n) (refCopy r w n.toNat) := by
  rw [genCopyFrom_eq e _ t s n hWw ht.1.1]
  exact copyFrom_sim hW64 hs ht hav

end GenBufW
end Dsi
