/-
  `BufBitWriter::copy_from` as TRANSLATED from src/impls/buf_bit_writer.rs, for backend words wider
  than 64 bits (`u128`; BufWriterCopyGen.lean has `W ≤ 64`), where the Rust takes the generic chunked
  loop `while n > 0 { write_bits(read_bits(min(n, 64)), ..) }`
  and the hand model `BufW.copyFrom` is `copyGeneric ri (BufW.impl e) (n / 64 + 2)`, the model of the
  trait-default `copy_from`.  Both cases together give the equality and the refinement of the
  reference copy for every word width.

  The only hypothesis on the writer is the struct invariant `s.Inv` (`1 ≤ space ≤ W`): `write_bits`
  keeps it (`writeBits_inv`), and it gives the `0 < space` of `write_bits_XX_eq`.  No hypothesis on
  the reader interface: the Rust casts the `u64` it read, the model's `BufW.impl` truncates the `Nat`
  it is given to 64 bits, which is the same thing.

  About `Wr ≤ 64` in `GenCopy.gen_copyTo_sim` (CopyGen.lean): it cannot be dropped, not even for LE:
  `genCopyTo_needs_W_le_64` (the counterexample `copyTo_needs_W_le_64` of Props/Copy.lean, which is
  little-endian, carried over to the translated body): with 65-bit reader words the word loop of
  `copy_to` calls `write_bits(word, 65)`, a debug assertion of `write_bits`.  The Rust cannot
  instantiate it: `BitRead for BufBitReader<E, WR>` needs `WR::Word: DoubleType + UpcastableInto<u64>`,
  which `u128` is not.
-/
import Dsi.Gen.BufWriterBodies
import Dsi.Props.BufWriterCopyGen
import Dsi.Props.CopyGen
namespace Dsi
namespace GenBufWWide
variable {W : Nat}
open GenBufW GenCopy

theorem emit_space {s s' : BufW W} {w : BitVec W} (h : s.emit w = .ok s') : s'.space = s.space := by
  unfold BufW.emit at h
  split at h
  · split at h
    · cases h; rfl
    · cases h
  · cases h; rfl

theorem writeBitsBE_inv {s s' : BufW W} {v : BitVec 64} {n x : Nat} (hi : s.Inv)
    (h : BufW.writeBitsBE s v n = .ok (x, s')) : s'.Inv := (BufW.writeBits_ok .be hi h).1

theorem writeBitsLE_inv {s s' : BufW W} {v : BitVec 64} {n x : Nat} (hi : s.Inv)
    (h : BufW.writeBitsLE s v n = .ok (x, s')) : s'.Inv := (BufW.writeBits_ok .le hi h).1

/-- `BufBitWriter::write_bits` keeps `1 ≤ space_left_in_buffer ≤ W` -/
theorem writeBits_inv (e : Endian) {s s' : BufW W} {v n x : Nat} (hi : s.Inv)
    (h : (BufW.impl e).writeBits s v n = .ok (x, s')) : s'.Inv := (BufW.writeBits_ok e hi h).1

/-- the translated `while n > 0 { .. }` over a writer method `wr` that agrees with the interface
    `wi` on an invariant `wi` keeps -/
theorem whileN_copyGeneric_inv {ρ ω : Type} (ri : RImpl ρ) (wi : WImpl ω) (Inv : ω → Prop)
    (wr : ω → BitVec 64 → Nat → Res (Nat × ω))
    (hwr : ∀ w v k, Inv w → wr w (BitVec.ofNat 64 v) k = wi.writeBits w v k)
    (hinv : ∀ w v k x w', Inv w → wi.writeBits w v k = .ok (x, w') → Inv w')
    (c : BitVec 64 × ρ × ω → Bool) (f : BitVec 64 × ρ × ω → Res (BitVec 64 × ρ × ω))
    (hc : ∀ st, c st = decide (st.1 > 0))
    (hf : ∀ st, f st = Res.bind (ri.readBits st.2.1 (if st.1 ≤ 64 then st.1 else 64).toNat) fun rr =>
      Res.bind (wr st.2.2 (BitVec.ofNat 64 rr.1) (if st.1 ≤ 64 then st.1 else 64).toNat) fun ww =>
      .ok (st.1 - BitVec.ofNat 64 (if st.1 ≤ 64 then st.1 else 64).toNat, rr.2, ww.2)) :
    ∀ k k' (n : BitVec 64) (r : ρ) (w : ω), Inv w → n.toNat ≤ 64 * k → n.toNat ≤ 64 * k' →
      whileN k (n, r, w) c f = (copyGeneric ri wi k' r w n.toNat).map fun p => (0, p.1, p.2)
  | 0, k', n, r, w, _, h1, _ => by
    have : n = 0 := (eq_zero_iff n).2 (Nat.le_zero.1 h1)
    subst this
    cases k' <;> simp only [whileN, copyGeneric, toNat_zero64, if_true, Res.map]
  | k + 1, k', n, r, w, hw, h1, h2 => by
    by_cases h0 : n.toNat = 0
    · have : n = 0 := (eq_zero_iff n).2 h0
      subst this
      cases k' <;> simp only [whileN, copyGeneric, hc, gt_iff_lt, BitVec.lt_irrefl, decide_false,
        Bool.false_eq_true, if_false, toNat_zero64, if_true, Res.map]
    · have hg : n > 0 := (gt_zero_iff n).2 h0
      cases k' with
      | zero => exact absurd (Nat.le_zero.1 h2) h0
      | succ k' =>
        simp only [whileN, copyGeneric, hc, hf, min64_toNat, hg, decide_true, if_true, h0, if_false]
        cases hr : ri.readBits r (min n.toNat 64) with
        | ok p =>
          obtain ⟨v, r'⟩ := p
          simp only [Res.bind, hwr w v _ hw]
          cases hww : wi.writeBits w v (min n.toNat 64) with
          | ok q =>
            obtain ⟨x, w'⟩ := q
            simp only []
            have hsub := sub_toNat n (min n.toNat 64) (Nat.min_le_left _ _)
            have hstep : ∀ {j : Nat}, n.toNat ≤ 64 * (j + 1) → n.toNat - min n.toNat 64 ≤ 64 * j :=
              fun h => by omega
            rw [whileN_copyGeneric_inv ri wi Inv wr hwr hinv c f hc hf k k' _ r' w'
              (hinv w v _ x w' hw hww) (hsub ▸ hstep h1) (hsub ▸ hstep h2), hsub]
          | _ => rfl
        | _ => rfl

theorem fuel_le (n : Nat) : n ≤ 64 * (n / 64 + 2) := by omega

theorem copy_from_be_wide_eq {ρ : Type} (ri : RImpl ρ) (s : BufW W) (r : ρ) (n : BitVec 64)
    (hW : W > 64) (hi : s.Inv) :
    Gen.BufW.copy_from_be ri s r n = BufW.copyFrom .be ri s r n.toNat := by
  unfold Gen.BufW.copy_from_be BufW.copyFrom
  simp only [if_pos hW]
  rw [whileN_copyGeneric_inv ri (BufW.impl .be) BufW.Inv Gen.BufW.write_bits_be
    (fun w v k hw => write_bits_be_eq w _ k hw.1) (fun w v k x w' hw h => writeBits_inv .be hw h)
    _ _ (fun _ => rfl) (fun _ => rfl) _ (n.toNat / 64 + 2) n r s hi (fuel_le _) (fuel_le _)]
  cases copyGeneric ri (BufW.impl .be) (n.toNat / 64 + 2) r s n.toNat with
  | ok p => rfl
  | _ => rfl

theorem copy_from_le_wide_eq {ρ : Type} (ri : RImpl ρ) (s : BufW W) (r : ρ) (n : BitVec 64)
    (hW : W > 64) (hi : s.Inv) :
    Gen.BufW.copy_from_le ri s r n = BufW.copyFrom .le ri s r n.toNat := by
  unfold Gen.BufW.copy_from_le BufW.copyFrom
  simp only [if_pos hW]
  rw [whileN_copyGeneric_inv ri (BufW.impl .le) BufW.Inv Gen.BufW.write_bits_le
    (fun w v k hw => write_bits_le_eq w _ k hw.1) (fun w v k x w' hw h => writeBits_inv .le hw h)
    _ _ (fun _ => rfl) (fun _ => rfl) _ (n.toNat / 64 + 2) n r s hi (fuel_le _) (fuel_le _)]
  cases copyGeneric ri (BufW.impl .le) (n.toNat / 64 + 2) r s n.toNat with
  | ok p => rfl
  | _ => rfl

/-- for words wider than 64 bits the translated `copy_from` is the generic chunked loop (the model of
    the trait-default `copy_from`) over the hand model's `write_bits` -/
theorem genCopyFrom_wide_eq_generic {ρ : Type} (e : Endian) (ri : RImpl ρ) (s : BufW W) (r : ρ)
    (n : BitVec 64) (hW : W > 64) (hi : s.Inv) :
    genCopyFrom e ri s r n = copyGeneric ri (BufW.impl e) (n.toNat / 64 + 2) r s n.toNat := by
  have : BufW.copyFrom e ri s r n.toNat = copyGeneric ri (BufW.impl e) (n.toNat / 64 + 2) r s n.toNat := by
    unfold BufW.copyFrom; rw [if_pos hW]
  rw [← this]
  cases e
  · exact copy_from_be_wide_eq ri s r n hW hi
  · exact copy_from_le_wide_eq ri s r n hW hi

/-- ... and the TRANSLATED trait-default `copy_from` run on the hand model's writer (reader
    interface returning `u64` values, the hypothesis of `copy_from_default_eq`) -/
theorem copy_from_wide_default {ρ : Type} (e : Endian) (ri : RImpl ρ)
    (hri : ∀ r k v r', ri.readBits r k = .ok (v, r') → v < 2 ^ 64) (s : BufW W) (r : ρ)
    (n : BitVec 64) (hW : W > 64) (hi : s.Inv) :
    genCopyFrom e ri s r n = Gen.Traits.copy_from_default ri (BufW.impl e) r s n := by
  rw [genCopyFrom_wide_eq_generic e ri s r n hW hi,
    copy_from_default_eq ri (BufW.impl e) hri r s n (n.toNat / 64 + 2) (by omega)]

/-- the translated `copy_from` equals the hand model for EVERY word width, under the struct
    invariant only -/
theorem genCopyFrom_eq_all {ρ : Type} (e : Endian) (ri : RImpl ρ) (s : BufW W) (r : ρ) (n : BitVec 64)
    (hi : s.Inv) : genCopyFrom e ri s r n = BufW.copyFrom e ri s r n.toNat := by
  by_cases hW : W ≤ 64
  · exact genCopyFrom_eq e ri s r n hW hi
  · cases e
    · exact copy_from_be_wide_eq ri s r n (by omega) hi
    · exact copy_from_le_wide_eq ri s r n (by omega) hi

/-- **for every writer word width** (`0 < Ww` is part of `RelC`) the translated
    `BufBitWriter::copy_from` from a buffered reader copies the next `n` bits of the reference
    stream.  (`Wr ≤ 64` for a BE reader is the hypothesis of
    `readBits_sim`; the Rust has no wider reader words.) -/
theorem gen_copyFrom_sim_all {Wr Ww : Nat} {e : Endian} (hW64 : e = .be → Wr ≤ 64)
    {s : BufR Wr} {r : RefR} {t : BufW Ww} {w : RefW} (hs : BufR.Rel e s r) (ht : BufW.RelC e t w)
    {n : BitVec 64} (hav : r.avail n.toNat = true) :
    ResRel (CopyPost e) (genCopyFrom e (BufR.impl e) t s n) (refCopy r w n.toNat) := by
  rw [genCopyFrom_eq_all e _ t s n ht.1.1]
  exact copyFrom_sim hW64 hs ht hav

/-- the same reading through ANY reader `ri` whose `read_bits` simulates the reference reader under
    a state relation `P` (`CopyL.RSim`; e.g. the unbuffered `BitReader`): no width hypothesis at all -/
theorem gen_copyFrom_sim_gen_all {ρ : Type} {ri : RImpl ρ} {P : ρ → RefR → Prop} (hr : CopyL.RSim ri P)
    {e : Endian} {t : BufW W} {w : RefW} {s : ρ} {r : RefR} {n : BitVec 64} (hQ : BufW.RelC e t w)
    (hP : P s r) (he : r.e = e) (hav : r.avail n.toNat = true) :
    ResRel (CopyL.PQ P (BufW.RelC e)) (genCopyFrom e ri t s n) (refCopy r w n.toNat) := by
  rw [genCopyFrom_eq_all e _ t s n hQ.1.1]
  exact CopyL.copyFrom_sim_gen hr hQ hP he hav

/-- the counterexample of `copyTo_needs_W_le_64` (a fresh LE reader over 65-bit words, 66 bits to
    copy) on the TRANSLATED `copy_to`: a debug panic (`write_bits(word, 65)`), while the
    specification succeeds -/
theorem genCopyTo_needs_W_le_64 :
    BufR.Rel .le copyCexS copyCexR ∧ BufW.RelC .le copyCexT copyCexW ∧
    genCopyTo .le false (BufW.impl .le) copyCexS copyCexT 66 = .dpanic ∧
    (refCopy copyCexR copyCexW 66).isOk = true := by
  obtain ⟨h1, h2, h3, h4⟩ := copyTo_needs_W_le_64
  refine ⟨h1, h2, ?_, h4⟩
  rw [genCopyTo_eq .le false _ copyCexS copyCexT 66 (by decide) (by decide) h1.1]
  exact h3

end GenBufWWide
end Dsi
