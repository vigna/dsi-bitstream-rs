/-
  Headline theorems for C07 (reported bit positions and seeks are exact for every history), stated
  over the bodies regenerated from src/impls/buf_bit_reader.rs and src/impls/bit_reader.rs:
  `genRImpl e` / `genBitRImpl e` (the five `BitRead` methods, Lemmas/HeadlineRunR.lean),
  `GenBufR.genBitPos` / `GenBufR.genSetBitPos` and `genBitRBitPos` / `genBitRSetBitPos` (the
  `BitSeek` methods).  The specification is the reference reader `RefR` (lean/Dsi/Ref.lean): a list
  of bits and a cursor; its position *is* the number of bits preceding the next bit to be read, and
  `refAt e data strict pm pos` is "a fresh reader that has consumed exactly `pos` bits".
  Not generated: `BufR.new` (the constructor: zeroed struct over the backend `⟨data, 0, strict⟩`).

  Hypotheses, and why:
  * `PeekBounded W 0 p` (every peek asks for at most `W` bits and every `skip_bits_after_peek` is
    covered by the preceding peek): the contract of `peek_bits` / `skip_bits_after_peek`;
    `BitROK` for the unbuffered reader (reads ≤ 64, peeks 1..32, `skip_bits` only on a zero-extended
    stream: its `skip_bits` never fails);
  * `e = .be → W ≤ 64`: from `readBits_sim` (the Rust has no wider reader words);
  * `hfit`: the backend is shorter than `2^64` bits (positions are `u64`);
  * the position condition `strict = true ∨ pos + 2 * W ≤ 2^64`: on a zero-extended backend the
    cursor can run arbitrarily far beyond the data and the Rust computes `word_pos * W - bits_in_buffer`
    in `u64`; on a strict backend it never leaves the data.
-/
import Dsi.Lemmas.Headline2Reader
namespace Dsi
namespace Headline2
open Headline
variable {W : Nat}

/-- **C07, positions.**  Any generated program from a fresh generated `BufBitReader`: same outcome
    (value, or the same error / panic kind) as on the reference reader, and the generated `bit_pos`
    then answers exactly the reference position (the number of bits consumed). -/
theorem gen_bitPos_exact {α : Type} (e : Endian) (hW : 0 < W) (hW64 : e = .be → W ≤ 64)
    (data : List (BitVec W)) (strict : Bool) (hfit : data.length * W + 4 * W < 2 ^ 64)
    (p : RProg α) (hp : PeekBounded W 0 p) :
    ResRel (fun (x : α × BufR W) (y : α × RefR) => x.1 = y.1 ∧
        ((y.2.strict = true ∨ y.2.pos + 2 * W ≤ 2 ^ 64) →
          GenBufR.genBitPos e x.2 = .ok (y.2.pos, x.2)))
      (p.run (genRImpl e) (BufR.new ⟨data, 0, strict⟩))
      (p.run RefR.impl (refAt e data strict W 0)) :=
  (gen_run_sim hW64 p hp (ginv_new e hW data strict hfit)).mono
    (fun _ _ h => ⟨h.1, fun hf => gen_bitPos_ginv h.2 hf⟩)

/-- **C07, seeks.**  After any generated program `p` from a fresh reader, the generated
    `set_bit_pos(pos)` (`0 ≤ pos ≤` stream length, aligned or not) succeeds, and every subsequent
    generated program `q` has the outcome it has on the reference reader standing at `pos` — a
    fresh reader that had consumed exactly `pos` bits — and the generated `bit_pos` then answers
    the reference position. -/
theorem gen_setBitPos_fresh {α β : Type} (e : Endian) (hW : 0 < W) (hW64 : e = .be → W ≤ 64)
    (data : List (BitVec W)) (strict : Bool) (hfit : data.length * W + 4 * W < 2 ^ 64)
    (p : RProg α) (hp : PeekBounded W 0 p) {a : α} {s1 : BufR W}
    (hrun : p.run (genRImpl e) (BufR.new ⟨data, 0, strict⟩) = .ok (a, s1))
    (pos : Nat) (hpos : pos ≤ data.length * W) :
    ∃ s2, GenBufR.genSetBitPos e s1 (BitVec.ofNat 64 pos) = .ok s2 ∧
      ∀ (q : RProg β), PeekBounded W 0 q →
        ResRel (fun (x : β × BufR W) (y : β × RefR) => x.1 = y.1 ∧
            ((y.2.strict = true ∨ y.2.pos + 2 * W ≤ 2 ^ 64) →
              GenBufR.genBitPos e x.2 = .ok (y.2.pos, x.2)))
          (q.run (genRImpl e) s2) (q.run RefR.impl (refAt e data strict W pos)) := by
  obtain ⟨r1, hr1, hi1⟩ := gen_run_ok hW64 p hp (ginv_new e hW data strict hfit) hrun
  have hr1' := ref_run_refAt hr1
  obtain ⟨s2, hs2, hi2⟩ := gen_setBitPos_ginv hi1 (pos := pos) (by rw [hr1', refAt_length]; exact hpos)
  have hseek : r1.seek pos = refAt e data strict W pos := by rw [hr1']; rfl
  rw [hseek] at hi2
  exact ⟨s2, hs2, fun q hq => (gen_run_sim hW64 q hq hi2).mono
    (fun _ _ h => ⟨h.1, fun hf => gen_bitPos_ginv h.2 hf⟩)⟩

/-- … hence as a fresh generated reader that skipped `pos` bits: same values, same failures. -/
theorem gen_setBitPos_eq_skip {α β : Type} (e : Endian) (hW : 0 < W) (hW64 : e = .be → W ≤ 64)
    (data : List (BitVec W)) (strict : Bool) (hfit : data.length * W + 4 * W < 2 ^ 64)
    (p : RProg α) (hp : PeekBounded W 0 p) {a : α} {s1 : BufR W}
    (hrun : p.run (genRImpl e) (BufR.new ⟨data, 0, strict⟩) = .ok (a, s1))
    (pos : Nat) (hpos : pos ≤ data.length * W) :
    ∃ s2 s3, GenBufR.genSetBitPos e s1 (BitVec.ofNat 64 pos) = .ok s2 ∧
      (genRImpl e).skipBits (BufR.new ⟨data, 0, strict⟩) pos = .ok s3 ∧
      ∀ (q : RProg β), PeekBounded W 0 q →
        (q.run (genRImpl e) s2).map Prod.fst = (q.run (genRImpl e) s3).map Prod.fst := by
  obtain ⟨s2, hs2, hq2⟩ := gen_setBitPos_fresh (β := β) e hW hW64 data strict hfit p hp hrun pos hpos
  have hi0 := ginv_new e hW data strict hfit
  obtain ⟨s3, hs3, hi3⟩ := gen_skip_ginv hi0 (n := pos) <| avail_of_le <| by
    rw [refAt_length]; exact (Nat.zero_add pos).symm ▸ hpos
  refine ⟨s2, s3, hs2, hs3, fun q hq => ?_⟩
  rw [show ({ refAt e data strict W 0 with pos := (refAt e data strict W 0).pos + pos } : RefR)
    = refAt e data strict W pos from congrArg (refAt e data strict W) (Nat.zero_add pos)] at hi3
  exact resRel_fst_eq (fun _ _ h => h.1) (fun _ _ h => h.1) (hq2 q hq) (gen_run_sim hW64 q hq hi3)

inductive SeekOp where
  | run (p : RProg Nat)
  | seek (pos : Nat)

/-- run a history on a seekable reader; after every step ask `bit_pos`; the observations are the
    pairs (value returned — the target for a seek —, position reported) -/
def runHist {σ : Type} (I : RImpl σ) (bitPos : σ → Res (Nat × σ)) (setBitPos : σ → Nat → Res σ) :
    List SeekOp → σ → Res (List (Nat × Nat) × σ)
  | [], s => .ok ([], s)
  | op :: ops, s =>
    Res.bind (match op with
      | .run p => p.run I s
      | .seek pos => (setBitPos s pos).map fun s' => (pos, s')) fun x =>
    Res.bind (bitPos x.2) fun y =>
    Res.bind (runHist I bitPos setBitPos ops y.2) fun z => .ok ((x.1, y.1) :: z.1, z.2)

def refBitPos (r : RefR) : Res (Nat × RefR) := .ok (r.pos, r)
def refSetBitPos (r : RefR) (pos : Nat) : Res RefR := .ok (r.seek pos)

theorem hist_ok {σ : Type} (I : RImpl σ) (bp : σ → Res (Nat × σ)) (sp : σ → Nat → Res σ)
    (Inv : σ → RefR → Prop) (OK : RProg Nat → Prop) (FitPos : Nat → Prop) (L : Nat)
    (hrun : ∀ p s r a r', OK p → Inv s r → p.run RefR.impl r = .ok (a, r') → FitPos r'.pos →
      ∃ s', p.run I s = .ok (a, s') ∧ Inv s' r')
    (hbp : ∀ s r, Inv s r → FitPos r.pos → bp s = .ok (r.pos, s))
    (hsp : ∀ s r pos, Inv s r → pos ≤ L → ∃ s', sp s pos = .ok s' ∧ Inv s' (r.seek pos)) :
    ∀ (ops : List SeekOp) (s : σ) (r : RefR) (obs : List (Nat × Nat)) (r' : RefR),
      (∀ p, SeekOp.run p ∈ ops → OK p) → (∀ pos, SeekOp.seek pos ∈ ops → pos ≤ L) → Inv s r →
      runHist RefR.impl refBitPos refSetBitPos ops r = .ok (obs, r') → (∀ o ∈ obs, FitPos o.2) →
      ∃ s', runHist I bp sp ops s = .ok (obs, s') ∧ Inv s' r' := by
  intro ops
  induction ops with
  | nil =>
    intro s r obs r' _ _ hi h _
    cases h
    exact ⟨s, rfl, hi⟩
  | cons op ops ih =>
    intro s r obs r' hok hsk hi h hfit
    simp only [runHist] at h ⊢
    -- the reference side, read backwards: the step yields `(a, r1)`, `bit_pos` yields `r1.pos`
    obtain ⟨⟨a, r1⟩, hstep, h⟩ := Res.bind_eq_ok.1 h
    obtain ⟨_, hpos, h⟩ := Res.bind_eq_ok.1 h
    cases hpos
    obtain ⟨⟨obs1, r2⟩, hrest, h⟩ := Res.bind_eq_ok.1 h
    cases h
    have hf1 : FitPos r1.pos := hfit (a, r1.pos) List.mem_cons_self
    have hfirst : ∃ s1, (match op with
        | .run p => p.run I s
        | .seek pos => (sp s pos).map fun s' => (pos, s')) = .ok (a, s1) ∧ Inv s1 r1 := by
      cases op with
      | run p => exact hrun p s r a r1 (hok p List.mem_cons_self) hi hstep hf1
      | seek pos =>
        cases hstep
        obtain ⟨s1, hs1, hi1⟩ := hsp s r _ hi (hsk _ List.mem_cons_self)
        exact ⟨s1, by show Res.map _ (sp s _) = _; rw [hs1]; rfl, hi1⟩
    obtain ⟨s1, hs1, hi1⟩ := hfirst
    obtain ⟨s2, hs2, hi2⟩ := ih s1 r1 obs1 r2 (fun p hp => hok p (List.mem_cons_of_mem _ hp))
      (fun p hp => hsk p (List.mem_cons_of_mem _ hp)) hi1 hrest
      (fun o ho => hfit o (List.mem_cons_of_mem _ ho))
    exact ⟨s2, by rw [hs1, Res.bind, hbp s1 r1 hi1 hf1, Res.bind, hs2]; rfl, hi2⟩

/-- **C07, histories, `BufBitReader`.**  Any interleaving of generated programs (reads, peeks,
    skips, unary reads, code reads) and generated `set_bit_pos` calls (targets anywhere in
    `0..=stream length`) from a fresh reader, the generated `bit_pos` asked after every step: every
    value returned and every position reported is the one of the reference reader — where
    `bit_pos` is the cursor (number of bits preceding the next bit to be read) and `set_bit_pos`
    moves the cursor. -/
theorem gen_seek_history (e : Endian) (hW : 0 < W) (hW64 : e = .be → W ≤ 64)
    (data : List (BitVec W)) (strict : Bool) (hfit : data.length * W + 4 * W < 2 ^ 64)
    (ops : List SeekOp) (hops : ∀ p, SeekOp.run p ∈ ops → PeekBounded W 0 p)
    (hseek : ∀ pos, SeekOp.seek pos ∈ ops → pos ≤ data.length * W)
    {obs : List (Nat × Nat)} {r' : RefR}
    (href : runHist RefR.impl refBitPos refSetBitPos ops (refAt e data strict W 0) = .ok (obs, r'))
    (hpos : strict = true ∨ ∀ o ∈ obs, o.2 + 2 * W ≤ 2 ^ 64) :
    ∃ s', runHist (genRImpl e) (GenBufR.genBitPos e)
        (fun s pos => GenBufR.genSetBitPos e s (BitVec.ofNat 64 pos)) ops (BufR.new ⟨data, 0, strict⟩)
      = .ok (obs, s') := by
  have := hist_ok (genRImpl e) (GenBufR.genBitPos e)
    (fun s pos => GenBufR.genSetBitPos e s (BitVec.ofNat 64 pos))
    (fun s r => GInv e s r ∧ r = refAt e data strict W r.pos) (PeekBounded W 0)
    (fun q => strict = true ∨ q + 2 * W ≤ 2 ^ 64) (data.length * W)
    (by
      intro p s r a r1 hp hi hr _
      obtain ⟨s1, hs1, hi1⟩ := gen_run_of_ref_ok hW64 p hp hi.1 hr
      rw [hi.2] at hr
      exact ⟨s1, hs1, hi1, ref_run_refAt hr⟩)
    (fun s r hi hf => gen_bitPos_ginv hi.1 (hf.imp_left fun h => by rw [hi.2]; exact h))
    (by
      intro s r pos hi hp
      obtain ⟨s1, hs1, hi1⟩ := gen_setBitPos_ginv hi.1 (pos := pos) (by rw [hi.2, refAt_length]; exact hp)
      refine ⟨s1, hs1, hi1, ?_⟩
      rw [hi.2]; rfl)
    ops (BufR.new ⟨data, 0, strict⟩) (refAt e data strict W 0) obs r' hops hseek
    ⟨ginv_new e hW data strict hfit, rfl⟩ href
    (fun o ho => hpos.imp_right fun h => h o ho)
  obtain ⟨s', hs', _⟩ := this
  exact ⟨s', hs'⟩

/-- **C07, histories, unbuffered `BitReader`** (64-bit words; look-ahead capacity 32): the same
    statement; every position observed fits a `u64` with three words of margin beyond the data
    (`self.bit_index` is a `u64`; `set_bit_pos` of this reader accepts any target, so on a strict
    stream targets are restricted to the stream, where the reference reader is defined). -/
theorem gen_bitr_seek_history (e : Endian) (data : List (BitVec 64)) (strict : Bool)
    (ops : List SeekOp) (hops : ∀ p, SeekOp.run p ∈ ops → BitROK strict p)
    (hseek : ∀ pos, SeekOp.seek pos ∈ ops → pos ≤ data.length * 64)
    {obs : List (Nat × Nat)} {r' : RefR}
    (href : runHist RefR.impl refBitPos refSetBitPos ops (refAt e data strict 32 0) = .ok (obs, r'))
    (hpos : ∀ o ∈ obs, o.2 + (data.length + 3) * 64 < 2 ^ 64) :
    ∃ s', runHist (genBitRImpl e) (genBitRBitPos e)
        (fun s pos => genBitRSetBitPos e s (BitVec.ofNat 64 pos)) ops { data := ⟨data, 0, strict⟩ }
      = .ok (obs, s') := by
  by_cases hemp : obs = []
  · -- no step at all
    subst hemp
    cases ops with
    | nil => exact ⟨_, rfl⟩
    | cons op ops =>
      simp only [runHist] at href
      obtain ⟨_, _, h⟩ := Res.bind_eq_ok.1 href
      obtain ⟨_, _, h⟩ := Res.bind_eq_ok.1 h
      obtain ⟨_, _, h⟩ := Res.bind_eq_ok.1 h
      cases h
  · have hlen64 : data.length * 64 + 3 * 64 < 2 ^ 64 := by
      obtain ⟨o, ho⟩ := List.exists_mem_of_ne_nil obs hemp
      have := hpos o ho
      rw [Nat.add_mul] at this
      omega
    have := hist_ok (genBitRImpl e) (genBitRBitPos e)
      (fun s pos => genBitRSetBitPos e s (BitVec.ofNat 64 pos))
      (fun s r => BitR.Rel' e s r ∧ s.data.data = data ∧ r = refAt e data strict 32 r.pos)
      (BitROK strict) (fun q => q + (data.length + 3) * 64 < 2 ^ 64) (data.length * 64)
      (by
        intro p s r a r1 hp hi hr hf
        have hst : r.strict = strict := by rw [hi.2.2]; rfl
        obtain ⟨s1, hs1, hi1, hd1⟩ := gen_bitr_run_of_ref_ok p hi.1 (by rw [hst]; exact hp) hr
          (by rw [hi.2.1]; exact hf)
        rw [hi.2.2] at hr
        exact ⟨s1, hs1, hi1, by rw [hd1, hi.2.1], ref_run_refAt hr⟩)
      (fun s r hi hf => genBitRBitPos_rel hi.1.1 (Nat.lt_of_le_of_lt (Nat.le_add_right _ _) hf))
      (by
        intro s r pos hi hp
        obtain ⟨s1, hs1, hi1, hd1⟩ := genBitRSetBitPos_rel hi.1 (pos := pos)
          (Nat.lt_of_le_of_lt hp (Nat.lt_of_le_of_lt (Nat.le_add_right _ _) hlen64))
          (fun _ => by rw [hi.2.2, refAt_length]; exact hp)
        refine ⟨s1, hs1, hi1, by rw [hd1, hi.2.1], ?_⟩
        rw [hi.2.2]; rfl)
      ops { data := ⟨data, 0, strict⟩ } (refAt e data strict 32 0) obs r' hops hseek
      ⟨bitr_new_rel e data 0 strict, rfl, rfl⟩ href hpos
    obtain ⟨s', hs', _⟩ := this
    exact ⟨s', hs'⟩

def exHist : List SeekOp :=
  [.run readerExProg, .seek 5, .run (RProg.rbits 7), .seek 0, .run RProg.runary]

theorem exHist_ok : ∀ p, SeekOp.run p ∈ exHist → PeekBounded 8 0 p := by
  intro p hp
  simp only [exHist, List.mem_cons, SeekOp.run.injEq, List.mem_nil_iff, or_false, reduceCtorEq,
    false_or] at hp
  rcases hp with rfl | rfl | rfl
  · exact readerExProg_bounded
  · exact fun _ => trivial
  · exact fun _ => trivial

example : ∃ s', runHist (genRImpl .be) (GenBufR.genBitPos .be)
      (fun s pos => GenBufR.genSetBitPos .be s (BitVec.ofNat 64 pos)) exHist
      (BufR.new ⟨[0xA5#8, 0x3C#8, 0xF0#8], 0, true⟩)
    = .ok ([(309, 17), (5, 5), (83, 12), (0, 0), (0, 1)], s') := ⟨_, rfl⟩

example : ∃ r', runHist RefR.impl refBitPos refSetBitPos exHist
      (refAt .be [0xA5#8, 0x3C#8, 0xF0#8] true 8 0)
    = .ok ([(309, 17), (5, 5), (83, 12), (0, 0), (0, 1)], r') := ⟨_, rfl⟩

example (e : Endian) {obs : List (Nat × Nat)} {r' : RefR}
    (href : runHist RefR.impl refBitPos refSetBitPos exHist
      (refAt e [0xA5#8, 0x3C#8, 0xF0#8] true 8 0) = .ok (obs, r')) :
    ∃ s', runHist (genRImpl e) (GenBufR.genBitPos e)
      (fun s pos => GenBufR.genSetBitPos e s (BitVec.ofNat 64 pos)) exHist
      (BufR.new ⟨[0xA5#8, 0x3C#8, 0xF0#8], 0, true⟩) = .ok (obs, s') :=
  gen_seek_history e (by decide) (fun _ => by decide) _ true (by decide) exHist exHist_ok
    (by intro pos hp; simp [exHist] at hp; rcases hp with rfl | rfl <;> decide) href (Or.inl rfl)

example (e : Endian) : ResRel (fun (x : Nat × BufR 8) (y : Nat × RefR) => x.1 = y.1 ∧
      ((y.2.strict = true ∨ y.2.pos + 2 * 8 ≤ 2 ^ 64) → GenBufR.genBitPos e x.2 = .ok (y.2.pos, x.2)))
    (readerExProg.run (genRImpl e) (BufR.new ⟨[0xA5#8, 0x3C#8, 0xF0#8], 0, true⟩))
    (readerExProg.run RefR.impl (refAt e [0xA5#8, 0x3C#8, 0xF0#8] true 8 0)) :=
  gen_bitPos_exact e (by decide) (fun _ => by decide) _ true (by decide) _ readerExProg_bounded

example : ∃ s2, GenBufR.genSetBitPos .le
      (BufR.new ⟨[0xA5#8, 0x3C#8, 0xF0#8], 0, false⟩ : BufR 8) (BitVec.ofNat 64 13) = .ok s2 ∧
    ∀ (q : RProg Nat), PeekBounded 8 0 q →
      ResRel (fun (x : Nat × BufR 8) (y : Nat × RefR) => x.1 = y.1 ∧
          ((y.2.strict = true ∨ y.2.pos + 2 * 8 ≤ 2 ^ 64) → GenBufR.genBitPos .le x.2 = .ok (y.2.pos, x.2)))
        (q.run (genRImpl .le) s2) (q.run RefR.impl (refAt .le [0xA5#8, 0x3C#8, 0xF0#8] false 8 13)) :=
  gen_setBitPos_fresh .le (by decide) (fun h => by cases h) _ false (by decide) (.ret ()) trivial
    (a := ()) rfl 13 (by decide)

/-- the unbuffered reader: a 7-bit read across the word boundary after a seek, a unary read -/
def exHistB : List SeekOp := [.seek 61, .run (RProg.rbits 7), .run RProg.runary, .seek 3, .run (RProg.rbits 64)]

example : ∃ s', runHist (genBitRImpl .le) (genBitRBitPos .le)
      (fun s pos => genBitRSetBitPos .le s (BitVec.ofNat 64 pos)) exHistB { data := ⟨bitrExData, 0, true⟩ }
    = .ok ([(61, 61), (64, 68), (1, 70), (3, 3), (237366192402446301, 67)], s') := ⟨_, rfl⟩

example (e : Endian) {obs : List (Nat × Nat)} {r' : RefR}
    (href : runHist RefR.impl refBitPos refSetBitPos exHistB (refAt e bitrExData true 32 0) = .ok (obs, r'))
    (hpos : ∀ o ∈ obs, o.2 + (bitrExData.length + 3) * 64 < 2 ^ 64) :
    ∃ s', runHist (genBitRImpl e) (genBitRBitPos e)
      (fun s pos => genBitRSetBitPos e s (BitVec.ofNat 64 pos)) exHistB { data := ⟨bitrExData, 0, true⟩ }
      = .ok (obs, s') :=
  gen_bitr_seek_history e bitrExData true exHistB
    (by
      intro p hp
      simp only [exHistB, List.mem_cons, SeekOp.run.injEq, List.mem_nil_iff, or_false, reduceCtorEq,
        false_or] at hp
      rcases hp with rfl | rfl | rfl
      · exact ⟨⟨by decide, fun _ => trivial⟩, Or.inl (fun _ => trivial)⟩
      · exact ⟨fun _ => trivial, Or.inl (fun _ => trivial)⟩
      · exact ⟨⟨by decide, fun _ => trivial⟩, Or.inl (fun _ => trivial)⟩)
    (by intro pos hp; simp [exHistB] at hp; rcases hp with rfl | rfl <;> decide) href hpos

end Headline2
end Dsi
