/-
  C17 — the zig-zag maps `ToNat` / `ToInt` are mutually inverse bijections on every width and
  implement the documented integer mapping.
-/
import Dsi.Glue.ZigZag
namespace Dsi
namespace SmallL

theorem getLsbD_neg_and_one {w : Nat} (u : BitVec w) (i : Nat) :
    (-(u &&& 1#w)).getLsbD i = (decide (i < w) && u.getLsbD 0) := by
  rw [BitVec.and_one_eq_setWidth_ofBool_getLsbD]
  cases u.getLsbD 0
  · simp
  · rw [show BitVec.setWidth w (BitVec.ofBool true) = 1#w from by
      apply BitVec.eq_of_toNat_eq; simp]
    simp [BitVec.neg_one_eq_allOnes]

theorem getLsbD_sshift_top {w : Nat} (x : BitVec w) (i : Nat) :
    (x.sshiftRight (w - 1)).getLsbD i = (decide (i < w) && x.msb) := by
  rw [BitVec.getLsbD_sshiftRight]
  by_cases hi : i < w
  · have h1 : ¬ w ≤ i := by omega
    simp only [h1, hi, decide_false, decide_true, Bool.not_false, Bool.true_and]
    by_cases hi0 : i = 0
    · subst hi0
      simp [BitVec.msb_eq_getLsbD_last]
    · have : ¬ (w - 1 + i < w) := by omega
      simp only [this, if_false]
  · have h1 : w ≤ i := by omega
    simp [h1, hi]

theorem getLsbD_zzToNat {w : Nat} (x : BitVec w) (i : Nat) :
    (zzToNat x).getLsbD i = (decide (i < w) && ((!decide (i < 1) && x.getLsbD (i - 1)) ^^ x.msb)) := by
  unfold zzToNat
  rw [BitVec.getLsbD_xor, BitVec.getLsbD_shiftLeft, getLsbD_sshift_top]
  by_cases hi : i < w <;> simp [hi]

theorem getLsbD_zzToInt {w : Nat} (u : BitVec w) (i : Nat) :
    (zzToInt u).getLsbD i = (u.getLsbD (1 + i) ^^ (decide (i < w) && u.getLsbD 0)) := by
  show ((u >>> 1) ^^^ (-(u &&& 1#w))).getLsbD i = _
  rw [BitVec.getLsbD_xor, BitVec.getLsbD_ushiftRight, getLsbD_neg_and_one]

end SmallL

open SmallL

/-- `to_int (to_nat x) = x` on every width. -/
theorem zz_toInt_toNat {w : Nat} (x : BitVec w) : zzToInt (zzToNat x) = x := by
  apply BitVec.eq_of_getLsbD_eq
  intro i hi
  rw [getLsbD_zzToInt, getLsbD_zzToNat, getLsbD_zzToNat]
  have h0 : (0 : Nat) < w := Nat.zero_lt_of_lt hi
  by_cases hl : 1 + i < w
  · simp [hl, hi, h0, Nat.add_sub_cancel_left]
  · have hiw : i = w - 1 := by omega
    have : x.msb = x.getLsbD i := by rw [BitVec.msb_eq_getLsbD_last, hiw]
    simp [hl, hi, h0, this]

/-- `to_nat (to_int u) = u` on every width. -/
theorem zz_toNat_toInt {w : Nat} (u : BitVec w) : zzToNat (zzToInt u) = u := by
  apply BitVec.eq_of_getLsbD_eq
  intro i hi
  rw [getLsbD_zzToNat, BitVec.msb_eq_getLsbD_last, getLsbD_zzToInt, getLsbD_zzToInt]
  have h0 : (0 : Nat) < w := Nat.zero_lt_of_lt hi
  have hw1 : w - 1 < w := Nat.sub_one_lt (Nat.ne_of_gt h0)
  have htop : u.getLsbD (1 + (w - 1)) = false :=
    BitVec.getLsbD_of_ge _ _ (Nat.le_of_eq (Nat.add_sub_cancel' h0).symm)
  rcases i with _ | i
  · simp [h0, hw1, htop]
  · have h3 : i < w := Nat.lt_of_succ_lt hi
    simp [hi, h3, hw1, htop, Nat.add_comm 1 i]

/-- `to_nat` and `to_int` are mutually inverse bijections of `BitVec w`. -/
theorem zz_bijective {w : Nat} :
    (Function.Injective (zzToNat : BitVec w → BitVec w) ∧ Function.Surjective (zzToNat : BitVec w → BitVec w)) ∧
    (Function.Injective (zzToInt : BitVec w → BitVec w) ∧ Function.Surjective (zzToInt : BitVec w → BitVec w)) ∧
    Function.LeftInverse (zzToInt : BitVec w → BitVec w) zzToNat ∧
    Function.RightInverse (zzToInt : BitVec w → BitVec w) zzToNat := by
  refine ⟨⟨?_, ?_⟩, ⟨?_, ?_⟩, zz_toInt_toNat, zz_toNat_toInt⟩
  · intro a b h; have := congrArg zzToInt h; rwa [zz_toInt_toNat, zz_toInt_toNat] at this
  · intro u; exact ⟨zzToInt u, zz_toNat_toInt u⟩
  · intro a b h; have := congrArg zzToNat h; rwa [zz_toNat_toInt, zz_toNat_toInt] at this
  · intro x; exact ⟨zzToNat x, zz_toInt_toNat x⟩

namespace SmallL

theorem zzToNat_of_msb_false {w : Nat} (x : BitVec w) (h : x.msb = false) : zzToNat x = x <<< 1 := by
  apply BitVec.eq_of_getLsbD_eq
  intro i hi
  rw [getLsbD_zzToNat, BitVec.getLsbD_shiftLeft, h]
  simp [hi]

theorem zzToNat_of_msb_true {w : Nat} (x : BitVec w) (h : x.msb = true) : zzToNat x = ~~~(x <<< 1) := by
  apply BitVec.eq_of_getLsbD_eq
  intro i hi
  rw [getLsbD_zzToNat, BitVec.getLsbD_not, BitVec.getLsbD_shiftLeft, h]
  simp [hi]

end SmallL

theorem zz_spec_nonneg {w : Nat} (x : BitVec w) (h : 0 ≤ x.toInt) :
    ((zzToNat x).toNat : Int) = 2 * x.toInt := by
  have hmsb : x.msb = false := by rw [BitVec.msb_eq_toInt, decide_eq_false (Int.not_lt.mpr h)]
  have hlt := BitVec.msb_eq_false_iff_two_mul_lt.mp hmsb
  rw [zzToNat_of_msb_false x hmsb, BitVec.toInt_eq_toNat_of_msb hmsb, BitVec.toNat_shiftLeft,
    Nat.shiftLeft_eq, Nat.pow_one, Nat.mul_comm, Nat.mod_eq_of_lt hlt, Int.natCast_mul]
  rfl

theorem zz_spec_neg {w : Nat} (x : BitVec w) (h : x.toInt < 0) :
    ((zzToNat x).toNat : Int) = -2 * x.toInt - 1 := by
  have hmsb : x.msb = true := by rw [BitVec.msb_eq_toInt, decide_eq_true h]
  have hge := BitVec.msb_eq_true_iff_two_mul_ge.mp hmsb
  have hx := x.isLt
  -- the doubled value wraps once: `2x mod 2^w = 2x - 2^w`
  have hm : 2 * x.toNat % 2 ^ w = 2 * x.toNat - 2 ^ w := by
    rw [Nat.mod_eq_sub_mod hge, Nat.mod_eq_of_lt (by omega)]
  rw [zzToNat_of_msb_true x hmsb, BitVec.toInt_eq_msb_cond, if_pos hmsb, BitVec.toNat_not,
    BitVec.toNat_shiftLeft, Nat.shiftLeft_eq, Nat.pow_one, Nat.mul_comm, hm]
  omega

/-- the documented mapping `x ≥ 0 ↦ 2x`, `x < 0 ↦ -2x - 1`, as integers -/
theorem zz_spec {w : Nat} (x : BitVec w) : ((zzToNat x).toNat : Int) = zzSpec x.toInt := by
  unfold zzSpec
  by_cases h : 0 ≤ x.toInt
  · rw [if_pos h]; exact zz_spec_nonneg x h
  · rw [if_neg h]; exact zz_spec_neg x (by omega)

/-- the form the driver compares (`handleZ`): both sides as naturals -/
theorem zz_spec_toNat {w : Nat} (x : BitVec w) : (zzToNat x).toNat = (zzSpec x.toInt).toNat := by
  rw [← zz_spec]; rfl

/-- exactly what the driver's `Z tonat` request compares, for an in-range integer -/
theorem zz_spec_ofInt {w : Nat} (hw : 0 < w) (n : Int) (hlo : -2 ^ (w - 1) ≤ n) (hhi : n < 2 ^ (w - 1)) :
    (zzToNat (BitVec.ofInt w n)).toNat = (zzSpec n).toNat := by
  rw [zz_spec_toNat, BitVec.toInt_ofInt_eq_self hw hlo hhi]

/-- the driver's reference for `to_int`: even `u ↦ u/2`, odd `u ↦ -(u+1)/2` -/
theorem zz_spec_toInt {w : Nat} (u : BitVec w) :
    (zzToInt u).toInt = if u.toNat % 2 = 0 then ((u.toNat / 2 : Nat) : Int) else -(((u.toNat + 1) / 2 : Nat) : Int) := by
  have h := zz_spec (zzToInt u)
  rw [zz_toNat_toInt] at h
  unfold zzSpec at h
  split at h <;> split <;> omega

theorem zz_roundtrip_8 (x : BitVec 8) : zzToInt (zzToNat x) = x ∧ zzToNat (zzToInt x) = x := ⟨zz_toInt_toNat x, zz_toNat_toInt x⟩
theorem zz_roundtrip_16 (x : BitVec 16) : zzToInt (zzToNat x) = x ∧ zzToNat (zzToInt x) = x := ⟨zz_toInt_toNat x, zz_toNat_toInt x⟩
theorem zz_roundtrip_32 (x : BitVec 32) : zzToInt (zzToNat x) = x ∧ zzToNat (zzToInt x) = x := ⟨zz_toInt_toNat x, zz_toNat_toInt x⟩
theorem zz_roundtrip_64 (x : BitVec 64) : zzToInt (zzToNat x) = x ∧ zzToNat (zzToInt x) = x := ⟨zz_toInt_toNat x, zz_toNat_toInt x⟩
theorem zz_roundtrip_128 (x : BitVec 128) : zzToInt (zzToNat x) = x ∧ zzToNat (zzToInt x) = x := ⟨zz_toInt_toNat x, zz_toNat_toInt x⟩

/-- `i64::MIN ↦ u64::MAX`, `i64::MAX ↦ u64::MAX - 1` and so on: the extremes at each width -/
theorem zz_extremes {w : Nat} (x : BitVec (w + 1)) :
    (x.toInt = -(2 ^ w : Int) → (zzToNat x).toNat = 2 ^ (w + 1) - 1) ∧
    (x.toInt = 2 ^ w - 1 → (zzToNat x).toNat = 2 ^ (w + 1) - 2) := by
  have hpn : (2 : Nat) ^ (w + 1) = 2 * 2 ^ w := by rw [Nat.pow_succ, Nat.mul_comm]
  have hpos : (0 : Int) < 2 ^ w := Int.pow_pos (by decide)
  have hc : ((2 ^ w : Nat) : Int) = (2 : Int) ^ w := Int.natCast_pow 2 w
  constructor
  · intro h
    have := zz_spec_neg x (h ▸ Int.neg_neg_of_pos hpos)
    omega
  · intro h
    have := zz_spec_nonneg x (h ▸ Int.sub_nonneg_of_le hpos)
    omega

example : zzToNat (BitVec.ofInt 8 (-3)) = 5#8 ∧ zzToInt (5#8) = BitVec.ofInt 8 (-3) := by decide
example : (zzToNat (BitVec.ofInt 64 (-9223372036854775808))).toNat = 18446744073709551615 := by
  have := (zz_extremes (w := 63) (BitVec.ofInt 64 (-9223372036854775808))).1 (by decide)
  simpa using this
example (x : BitVec 128) : zzToInt (zzToNat x) = x := zz_toInt_toNat x
example : ((zzToNat (BitVec.ofInt 16 (-300))).toNat : Int) = zzSpec (-300) := by
  have := zz_spec (BitVec.ofInt 16 (-300))
  have h : (BitVec.ofInt 16 (-300)).toInt = -300 := by decide
  rwa [h] at this

end Dsi
