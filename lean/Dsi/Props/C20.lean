/-
  C20 — code lengths are monotone and Kraft-bounded; the change-point search is exact.

  * `len_mono`, `len_mono_defaults`: every implemented length function (closed formulas of `Dsi.Codes` and the
    table-backed defaults of `Dsi.Defaults`, i.e. what `len_gamma`, `len_delta`, `len_zeta`,
    `len_exp_golomb` really compute) is non-decreasing on its domain.
  * `kraft`, `kraft_defaults`: partial Kraft sums of the implemented lengths are at most 1, from Mathlib's
    Kraft–McMillan inequality applied to the published codewords (`Dsi.Spec`), which are shown
    prefix-free and of the implemented length (`Dsi.Lemmas.Kraft`, `Dsi.Lemmas.Kraft2`).
  * `find_change_*`: the model of `FindChangePoints::next` (`Dsi.Glue.FindChange`) on a
    non-decreasing function: first item `(0, f 0)`; every later item is the least change point
    after the current one whenever it is within reach (in particular whenever it is `≤ 2^63`);
    `next` returns within its fuel, without overflow, and returns `none` exactly when no change
    point is within reach (e.g. for constant functions).
-/
import Dsi.Lemmas.FindChange
import Dsi.Lemmas.LenMono
import Dsi.Lemmas.Kraft
import Dsi.Lemmas.Kraft2
import Dsi.Glue.StatsDriver
namespace Dsi

/-- A larger value never gets a shorter codeword, for every length function of
    `src/codes/*.rs` (ζ_k: for values `< 2^64 - 1` and `1 ≤ k ≤ 63`; Golomb_b: `1 ≤ b < 2^64`; the
    others unconditionally, on all of `Nat`) -/
theorem len_mono {m n : Nat} (h : m ≤ n) :
    lenUnary m ≤ lenUnary n ∧
    lenGammaDefault m ≤ lenGammaDefault n ∧
    lenDelta none none m ≤ lenDelta none none n ∧
    lenOmega m ≤ lenOmega n ∧
    bitLenVByte m ≤ bitLenVByte n ∧
    (∀ k, lenRice m k ≤ lenRice n k) ∧
    (∀ k, lenPi m k ≤ lenPi n k) ∧
    (∀ k, lenExpGolomb none m k ≤ lenExpGolomb none n k) ∧
    (∀ b, 1 ≤ b → b < 2 ^ 64 → lenGolomb m b ≤ lenGolomb n b) ∧
    (∀ u, lenMinimalBinary m u ≤ lenMinimalBinary n u) ∧
    (∀ k, 1 ≤ k → k ≤ 63 → n < 2 ^ 64 - 1 → lenZetaDefault m k ≤ lenZetaDefault n k) :=
  ⟨lenUnary_mono h, lenGammaDefault_mono h, lenDelta_none_mono h, lenOmega_mono h, bitLenVByte_mono h,
   fun k => lenRice_mono k h, fun k => lenPi_mono k h, fun k => lenExpGolomb_none_mono k h,
   fun b _ _ => lenGolomb_mono b h, fun u => lenMinimalBinary_mono u h,
   fun k hk1 _ hn => lenZetaDefault_mono k hk1 h hn⟩

/-- the same for the parameterless library functions (`len_gamma`, `len_delta`, `len_zeta`,
    `len_exp_golomb`), which go through the generated length tables -/
theorem len_mono_defaults {m n : Nat} (h : m ≤ n) :
    lenGammaD m ≤ lenGammaD n ∧ lenDeltaD m ≤ lenDeltaD n ∧
    (∀ k, lenExpGolombD m k ≤ lenExpGolombD n k) ∧
    (∀ k, 1 ≤ k → k ≤ 63 → n < 2 ^ 64 - 1 → lenZetaD m k ≤ lenZetaD n k) :=
  ⟨lenGammaD_mono h, lenDeltaD_mono h, fun k => lenExpGolombD_mono k h,
   fun k hk1 _ hn => lenZetaD_mono k hk1 h hn⟩

/-- the generated length tables agree with the closed formulas, so every `_param::<…>` variant
    computes the same lengths -/
theorem len_tables_eq (n k : Nat) (t td tg : Bool) :
    lenGammaP t n = lenGammaDefault n ∧ lenDeltaP td tg n = lenDelta none none n ∧
    lenZetaP t n k = lenZetaDefault n k :=
  ⟨lenGammaP_eq t n, lenDeltaP_eq td tg n, lenZetaP_eq t n k⟩

/-- every library length function, as iterated by `FindChangePoints` / `get_implied_distribution`,
    is non-decreasing in the sense the search needs -/
theorem lib_len_mono :
    FC.Mono lenUnary ∧ FC.Mono lenGammaD ∧ FC.Mono lenDeltaD ∧ FC.Mono lenOmega ∧ FC.Mono bitLenVByte ∧
    (∀ k, FC.Mono (lenRice · k)) ∧ (∀ k, FC.Mono (lenPi · k)) ∧ (∀ k, FC.Mono (lenExpGolombD · k)) ∧
    (∀ b, 1 ≤ b → b < 2 ^ 64 → FC.Mono (lenGolomb · b)) ∧ (∀ u, FC.Mono (lenMinimalBinary · u)) ∧
    (∀ k, 1 ≤ k → k ≤ 63 → FC.Mono (lenZetaD · k)) := by
  refine ⟨fun a b h _ => lenUnary_mono h, fun a b h _ => lenGammaD_mono h, fun a b h _ => lenDeltaD_mono h,
    fun a b h _ => lenOmega_mono h, fun a b h _ => bitLenVByte_mono h, fun k a b h _ => lenRice_mono k h,
    fun k a b h _ => lenPi_mono k h, fun k a b h _ => lenExpGolombD_mono k h,
    fun b _ _ x y h _ => lenGolomb_mono b h, fun u a b h _ => lenMinimalBinary_mono u h,
    fun k hk1 _ a b h hb => lenZetaD_mono k hk1 h hb⟩

/-- For every `N` (within the code's domain) the lengths of the first `N` values
    satisfy Kraft's inequality — every code of the library: unary, γ, δ, ω, VByte, ζ_k, π_k,
    Rice_k, exp-Golomb_k, Golomb_b, minimal binary with bound `u` -/
theorem kraft (N : ℕ) :
    ∑ n ∈ Finset.range N, ((1:ℝ)/2) ^ lenUnary n ≤ 1 ∧
    ∑ n ∈ Finset.range N, ((1:ℝ)/2) ^ lenGammaDefault n ≤ 1 ∧
    ∑ n ∈ Finset.range N, ((1:ℝ)/2) ^ lenDelta none none n ≤ 1 ∧
    (N ≤ 2 ^ 64 - 1 → ∑ n ∈ Finset.range N, ((1:ℝ)/2) ^ lenOmega n ≤ 1) ∧
    (N ≤ 2 ^ 64 → ∑ n ∈ Finset.range N, ((1:ℝ)/2) ^ bitLenVByte n ≤ 1) ∧
    (∀ k, 1 ≤ k → N ≤ 2 ^ 64 - 1 → ∑ n ∈ Finset.range N, ((1:ℝ)/2) ^ lenZetaDefault n k ≤ 1) ∧
    (∀ k, ∑ n ∈ Finset.range N, ((1:ℝ)/2) ^ lenPi n k ≤ 1) ∧
    (∀ k, ∑ n ∈ Finset.range N, ((1:ℝ)/2) ^ lenRice n k ≤ 1) ∧
    (∀ k, ∑ n ∈ Finset.range N, ((1:ℝ)/2) ^ lenExpGolomb none n k ≤ 1) ∧
    (∀ b, 1 ≤ b → b < 2 ^ 64 → ∑ n ∈ Finset.range N, ((1:ℝ)/2) ^ lenGolomb n b ≤ 1) ∧
    (∀ u, 1 ≤ u → u < 2 ^ 64 → N ≤ u → ∑ n ∈ Finset.range N, ((1:ℝ)/2) ^ lenMinimalBinary n u ≤ 1) :=
  ⟨kraft_of_PF unary_PF _ (fun n => (unary_len n).symm) N,
   kraft_of_PF (gamma_PF .be) _ (fun n => (gamma_len .be n).symm) N,
   kraft_of_PF (delta_PF .be) _ (fun n => (delta_len .be n).symm) N,
   fun h => kraft_of_PFOn (omega_PFOn .be) _ (fun n _ => (omega_len .be n).symm) N
     fun _ hn => Nat.lt_of_lt_of_le hn h,
   fun h => kraft_of_PFOn (vbyte_PFOn .be true) _ (fun v hv => (vbyte_bit_len .be true v hv).symm) N
     fun _ hn => Nat.lt_of_lt_of_le hn h,
   fun _ hk h => kraft_of_PFOn (zetaWrapped_PFOn .be hk) _ (zetaWrapped_length .be hk) N
     fun _ hn => Nat.lt_of_lt_of_le hn h,
   fun k => kraft_of_PF (pi_PF .be k) _ (fun n => (pi_len .be k n).symm) N,
   fun k => kraft_of_PF (rice_PF .be k) _ (fun n => (rice_len .be k n).symm) N,
   fun k => kraft_of_PF (expGolomb_PF .be k) _ (fun n => (expGolomb_len .be k n).symm) N,
   fun b hb hb' => kraft_of_PF (golomb_PF .be hb) _ (fun n => (golomb_len .be b n hb hb').symm) N,
   fun u hu hu' h => kraft_of_PFOn (minimalBinary_PFOn .be hu) _
     (fun x _ => (minbin_len .be x u hu hu').symm) N fun _ hn => Nat.lt_of_lt_of_le hn h⟩

/-- the implemented length is the length of the published codeword (the link Kraft goes through) -/
theorem len_eq_codeword_length (e : Endian) (n : ℕ) :
    (Spec.unary n).length = lenUnary n ∧ (Spec.gamma e n).length = lenGammaDefault n ∧
    (Spec.delta e n).length = lenDelta none none n ∧ (Spec.omega e n).length = lenOmega n ∧
    (∀ big, n < 2 ^ 64 → (Spec.vbyte e big n).length = bitLenVByte n) ∧
    (∀ k, 1 ≤ k → n < 2 ^ 64 - 1 → (Spec.zetaWrapped e k n).length = lenZetaDefault n k) ∧
    (∀ k, (Spec.pi e k n).length = lenPi n k) ∧ (∀ k, (Spec.rice e k n).length = lenRice n k) ∧
    (∀ k, (Spec.expGolomb e k n).length = lenExpGolomb none n k) ∧
    (∀ b, 1 ≤ b → b < 2 ^ 64 → (Spec.golomb e b n).length = lenGolomb n b) ∧
    (∀ u, 1 ≤ u → u < 2 ^ 64 → (Spec.minimalBinary e n u).length = lenMinimalBinary n u) :=
  ⟨(unary_len n).symm, (gamma_len e n).symm, (delta_len e n).symm, (omega_len e n).symm,
   fun big h => (vbyte_bit_len e big n h).symm, fun _ hk h => zetaWrapped_length e hk n h,
   fun k => (pi_len e k n).symm, fun k => (rice_len e k n).symm,
   fun k => (expGolomb_len e k n).symm, fun b hb hb' => (golomb_len e b n hb hb').symm,
   fun u hu hu' => (minbin_len e n u hu hu').symm⟩

/-- the same for what `len_gamma`, `len_delta`, `len_exp_golomb`, `len_zeta` compute through the tables -/
theorem kraft_defaults (N : ℕ) :
    ∑ n ∈ Finset.range N, ((1:ℝ)/2) ^ lenGammaD n ≤ 1 ∧
    ∑ n ∈ Finset.range N, ((1:ℝ)/2) ^ lenDeltaD n ≤ 1 ∧
    (∀ k, ∑ n ∈ Finset.range N, ((1:ℝ)/2) ^ lenExpGolombD n k ≤ 1) ∧
    (∀ k, 1 ≤ k → N ≤ 2 ^ 64 - 1 → ∑ n ∈ Finset.range N, ((1:ℝ)/2) ^ lenZetaD n k ≤ 1) := by
  obtain ⟨_, hg, hd, _, _, hz, _, _, he, _⟩ := kraft N
  refine ⟨?_, ?_, fun k => ?_, fun k hk h => ?_⟩
  · simpa only [lenGammaD_eq] using hg
  · simpa only [lenDeltaD_eq] using hd
  · simpa only [lenExpGolombD_eq] using he k
  · simpa only [lenZetaD_eq] using hz k hk h

open FC

theorem find_change_first (f : Nat → Nat) :
    FC.next f FC.new = .ok (some (0, f 0), { current := 0, prev := some (f 0) }) ∧
    Started f { current := 0, prev := some (f 0) } :=
  ⟨next_first f, started_first f⟩

/-- On a non-decreasing function, after the first call, if `x` is the
    least point after `current` where `f` differs from its value at `current` and `x` is within
    reach (some probe `current + 2^j < 2^64 - 1` lies at or beyond it — always the case when
    `x ≤ 2^63`), then `next` yields exactly `(x, f x)` and moves there; in particular the yielded
    points increase strictly and no change point up to `2^63` is missed. -/
theorem find_change_sound {f : Nat → Nat} (hm : Mono f) {s : FC} (hs : Started f s) {x : Nat}
    (hx : LeastChange f s.current x) (hr : InReach s.current x ∨ x ≤ 2 ^ 63) :
    FC.next f s = .ok (some (x, f x), { current := x, prev := some (f x) }) ∧
    s.current < x ∧ Started f { current := x, prev := some (f x) } := by
  rcases next_started hm hs with ⟨x', hx', _, hn, hst⟩ | ⟨hno, _⟩
  · cases leastChange_unique hx hx'
    exact ⟨hn, hx.1, hst⟩
  · exact absurd ⟨x, hx, hr.elim id (inReach_of_le hx.1)⟩ hno

/-- whatever `next` yields after the first call is the least change point after `current` -/
theorem find_change_only_changes {f : Nat → Nat} (hm : Mono f) {s s' : FC} (hs : Started f s) {x v : Nat}
    (h : FC.next f s = .ok (some (x, v), s')) :
    LeastChange f s.current x ∧ v = f x ∧ s' = { current := x, prev := some (f x) } := by
  rcases next_started hm hs with ⟨x', hx', _, hn, _⟩ | ⟨_, hn⟩ <;> rw [hn] at h
  · cases h
    exact ⟨hx', rfl, rfl⟩
  · nomatch h

/-- On a non-decreasing function `next` always returns a result
    within its fuel (no `HANG`), without overflow or failed debug assertion, and the result is
    `none` — leaving the state unchanged — exactly when no change point is within reach; in
    particular for every function that is constant from `current` on. -/
theorem find_change_terminates {f : Nat → Nat} (hm : Mono f) {s : FC} (hs : Started f s) :
    (∃ r, FC.next f s = .ok r) ∧
    ((¬ ∃ x, LeastChange f s.current x ∧ InReach s.current x) ↔ FC.next f s = .ok (none, s)) ∧
    ((∀ y, s.current ≤ y → f y = f s.current) → FC.next f s = .ok (none, s)) := by
  rcases next_started hm hs with ⟨x, hx, hr, hn, _⟩ | ⟨hno, hn⟩ <;> rw [hn]
  · exact ⟨⟨_, rfl⟩, ⟨fun h => absurd ⟨x, hx, hr⟩ h, fun h => nomatch h⟩,
      fun hc => absurd (hc x (Nat.le_of_lt hx.1)) hx.2.1⟩
  · exact ⟨⟨_, rfl⟩, ⟨fun _ => rfl, fun _ => hno⟩, fun _ => rfl⟩

theorem find_change_const (c : Nat) :
    FC.changePoints (fun _ => c) 5 = .ok ([(0, c)], true) := by
  have hm : Mono (fun _ : Nat => c) := fun _ _ _ _ => Nat.le_refl _
  have h1 := (find_change_first (fun _ : Nat => c)).1
  have h2 := (find_change_terminates hm (started_first (fun _ : Nat => c))).2.2 (fun _ _ => rfl)
  simp only [FC.changePoints, FC.collect, h1, h2, List.reverse_cons, List.reverse_nil, List.nil_append]

inductive ChangeChain (f : Nat → Nat) : Nat → List (Nat × Nat) → Prop where
  | nil (cur : Nat) : ChangeChain f cur []
  | cons {cur x : Nat} {rest : List (Nat × Nat)} :
      LeastChange f cur x → InReach cur x → ChangeChain f x rest → ChangeChain f cur ((x, f x) :: rest)

/-- the point the iteration stands at after yielding `items` from `cur` -/
def lastPoint (cur : Nat) (items : List (Nat × Nat)) : Nat := (items.getLast?.map (·.1)).getD cur

theorem lastPoint_cons (cur : Nat) (y : Nat × Nat) (items : List (Nat × Nat)) :
    lastPoint cur (y :: items) = lastPoint y.1 items := by
  cases items with
  | nil => simp [lastPoint]
  | cons a as => simp [lastPoint, List.getLast?_cons_cons, List.getLast?_eq_getLast_of_ne_nil (List.cons_ne_nil a as)]

theorem collect_spec {f : Nat → Nat} (hm : Mono f) : ∀ (fuel : Nat) (s : FC) (acc : List (Nat × Nat)),
    Started f s →
    ∃ items ended, FC.collect f fuel s acc = .ok (acc.reverse ++ items, ended) ∧
      ChangeChain f s.current items ∧ items.length ≤ fuel ∧ (ended = false → items.length = fuel) ∧
      (ended = true → ¬ ∃ x, LeastChange f (lastPoint s.current items) x ∧ InReach (lastPoint s.current items) x) := by
  intro fuel
  induction fuel with
  | zero =>
    intro s acc _
    exact ⟨[], false, by rw [FC.collect, List.append_nil], .nil _, Nat.le_refl _, fun _ => rfl,
      fun h => nomatch h⟩
  | succ fuel ih =>
    intro s acc hs
    rcases next_started hm hs with ⟨x, hx, hr, hn, hst⟩ | ⟨hno, hn⟩
    · obtain ⟨items, ended, hc, hch, hl, hf, he⟩ :=
        ih { current := x, prev := some (f x) } ((x, f x) :: acc) hst
      refine ⟨(x, f x) :: items, ended, ?_, .cons hx hr hch, Nat.succ_le_succ hl,
        fun h => congrArg Nat.succ (hf h), fun h => ?_⟩
      · simp only [FC.collect, hn, hc, List.reverse_cons, List.append_assoc, List.singleton_append]
      · rw [lastPoint_cons]
        exact he h
    · exact ⟨[], true, by simp only [FC.collect, hn, List.append_nil], .nil _, Nat.zero_le _,
        fun h => (nomatch h), fun _ => hno⟩

/-- The first `n` outputs of the iterator on a non-decreasing function
    are `(0, f 0)` followed by the consecutive least change points (each paired with the new
    value), it ends only when no further change point is within reach, and it never hangs,
    overflows or trips a debug assertion. -/
theorem find_change_iteration {f : Nat → Nat} (hm : Mono f) (n : Nat) :
    ∃ items ended, FC.changePoints f (n + 1) = .ok ((0, f 0) :: items, ended) ∧
      ChangeChain f 0 items ∧ (ended = false → items.length = n) ∧
      (ended = true → ¬ ∃ x, LeastChange f (lastPoint 0 items) x ∧ InReach (lastPoint 0 items) x) := by
  obtain ⟨items, ended, hc, hch, _, hf, he⟩ := collect_spec hm n { current := 0, prev := some (f 0) } [(0, f 0)]
    (started_first f)
  refine ⟨items, ended, ?_, hch, hf, he⟩
  simp only [FC.changePoints, FC.collect, next_first, hc]
  simp

/-- the reference the correspondence check compares the implementation with (`FC.specChangePoints`:
    plain bisection for the least change point below the farthest probe) is this specification,
    and the iterator model agrees with it on every non-decreasing function -/
theorem find_change_matches_reference {f : Nat → Nat} (hm : Mono f) (n : Nat) :
    FC.changePoints f n = .ok (FC.specChangePoints f n) ∧
    ∀ cur, (FC.specNext f cur = none → ¬ ∃ x, LeastChange f cur x ∧ InReach cur x) ∧
      (∀ x v, FC.specNext f cur = some (x, v) → LeastChange f cur x ∧ InReach cur x ∧ v = f x) :=
  ⟨changePoints_eq_spec hm n, fun cur => specNext_spec hm cur⟩

example : FC.changePoints (fun x => if x < 5 then 0 else 1) 4 = .ok ([(0, 0), (5, 1)], true) := by rfl
example : LeastChange (fun x => if x < 5 then 0 else 1) 0 5 := by
  refine ⟨by decide, by decide, ?_⟩
  intro y _ hy
  simp [hy]

end Dsi

namespace Dsi

/-- the closed forms the driver uses as the reference for codewords too long to build are the
    lengths of the published codewords -/
theorem specLenBig_sound (code : String) (p v x : Nat) (h : specLenBig code p v = some x) :
    specLen code p v = some x := by
  unfold specLenBig at h
  split at h
  · cases h
    show some (Spec.unary v).length = some (v + 1)
    rw [← unary_len]; rfl
  · cases h
    show some (Spec.rice .be p v).length = some (v / 2 ^ p + 1 + p)
    rw [← rice_len]; rfl
  · split at h
    · cases h
    · cases h
      show some (Spec.golomb .be p v).length = _
      simp [Spec.golomb, Spec.unary]
  · cases h

example : specLenBig "rice" 0 (2 ^ 32) = some (2 ^ 32 + 1) := by decide

end Dsi
