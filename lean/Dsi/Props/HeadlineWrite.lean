/-
  Headline, C04: what the generated code writers deliver on the generated `BufBitWriter`: the
  canonical byte layout of the published codeword (after arbitrary preceding bits), and they return
  what the generated length function computes.  Depends on the translated writer bodies, code
  writers and length functions (no reader body).  See Props/Headline.lean.
-/
import Dsi.Lemmas.HeadlineCodesW
import Dsi.Props.HeadlineImage
import Dsi.Props.HeadlineLen
import Dsi.Props.CodesB
namespace Dsi
namespace Headline
open EqvL CodeBodiesGen Gen

/-- **C01 / C04 for every code of the `Codes` enum, generated writer on generated `BufBitWriter`.** -/
theorem gen_code_write_image {α : Type} (e : Endian) {Ww : Nat} (hWw : 0 < Ww) (h8w : 8 ∣ Ww)
    (hWw64 : Ww < 2 ^ 64) (checks : Bool) (pre : WProg α) {a : α} {bits₀ : List Bool}
    (hpre : pre.run RefW.impl { e := e, W := Ww, checks := checks, cap := none, bits := [] }
      = .ok (a, { e := e, W := Ww, checks := checks, cap := none, bits := bits₀ }))
    (c : CodeId) (v : Nat) (hd : c.Dom v) :
    ∃ (cw : List Bool) (sw : BufW Ww) (k : Nat) (sw' : BufW Ww), c.codeword e v = some cw ∧
      (pre.bind fun _ => genOwnWrite e checks c v).run (genWImpl e) (BufW.new Ww checks none)
        = .ok (cw.length, sw) ∧
      (genWImpl e).flush sw = .ok (k, sw') ∧
      sw'.outBytes e
        = layout e (bits₀ ++ cw ++ List.replicate ((Ww - (bits₀ ++ cw).length % Ww) % Ww) false) := by
  obtain ⟨cw, hcw, hwr⟩ := ownWrite_writes e checks c v hd
  obtain ⟨sw, k, sw', h1, h2, h3⟩ :=
    gen_write_image e hWw h8w hWw64 checks pre hpre (genOwnWrite_eq e checks c v hd) hwr
  exact ⟨cw, sw, k, sw', hcw, h1, h2, h3⟩

/-- the generated writer of a code returns, on the generated `BufBitWriter`, what the generated
    length function computes -/
theorem gen_code_write_len {α : Type} (e : Endian) {Ww : Nat} (hWw : 0 < Ww) (h8w : 8 ∣ Ww)
    (hWw64 : Ww < 2 ^ 64) (checks : Bool) (pre : WProg α) {a : α} {bits₀ : List Bool}
    (hpre : pre.run RefW.impl { e := e, W := Ww, checks := checks, cap := none, bits := [] }
      = .ok (a, { e := e, W := Ww, checks := checks, cap := none, bits := bits₀ }))
    (c : CodeId) (v : Nat) (hd : c.Dom v) :
    ∃ (sw : BufW Ww),
      (pre.bind fun _ => genOwnWrite e checks c v).run (genWImpl e) (BufW.new Ww checks none)
        = .ok (genOwnLen c v, sw) := by
  obtain ⟨cw, sw, k, sw', hcw, h1, _, _⟩ := gen_code_write_image e hWw h8w hWw64 checks pre hpre c v hd
  rw [← gen_len_eq' e c v hd hcw] at h1
  exact ⟨sw, h1⟩

theorem writeGammaP_writes (e : Endian) (checks tw : Bool) (n : Nat) (hn : n < 2 ^ 64 - 1) :
    Writes (writeGammaP e checks tw n) e checks (Spec.gamma e n) :=
  writes_of_run_eq (gamma_writes e checks n hn) (fun w he hc => writeGammaP_eq e checks tw n w he hc)

theorem writeDeltaP_writes (e : Endian) (checks td tg : Bool) (n : Nat) (hn : n < 2 ^ 64 - 1) :
    Writes (writeDeltaP e checks td tg n) e checks (Spec.delta e n) :=
  writes_of_run_eq (delta_writes e checks n hn)
    (fun w he hc => writeDeltaP_eq e checks td tg n w he hc)

section tableOptions
variable {α : Type} (e : Endian) {Ww : Nat} (hWw : 0 < Ww) (h8w : 8 ∣ Ww) (hWw64 : Ww < 2 ^ 64)
  (checks : Bool) (pre : WProg α) {a : α} {bits₀ : List Bool}
  (hpre : pre.run RefW.impl { e := e, W := Ww, checks := checks, cap := none, bits := [] }
    = .ok (a, { e := e, W := Ww, checks := checks, cap := none, bits := bits₀ }))
include hWw h8w hWw64 hpre

/-- γ, `write_gamma_param::<tw>` — byte image -/
theorem gen_gamma_write_image (tw : Bool) (n : Nat) (hn : n < 2 ^ 64 - 1) :
    ∃ (sw : BufW Ww) (k : Nat) (sw' : BufW Ww),
      (pre.bind fun _ => TableFnsGen.writeGammaParam e checks tw n).run (genWImpl e)
        (BufW.new Ww checks none) = .ok ((Spec.gamma e n).length, sw) ∧
      (genWImpl e).flush sw = .ok (k, sw') ∧
      sw'.outBytes e = layout e (bits₀ ++ Spec.gamma e n ++
        List.replicate ((Ww - (bits₀ ++ Spec.gamma e n).length % Ww) % Ww) false) :=
  gen_write_image e hWw h8w hWw64 checks pre hpre (TableFnsGen.write_gamma_param_eq e checks tw hn)
    (writeGammaP_writes e checks tw n hn)

/-- δ, `write_delta_param::<td, tg>` — byte image -/
theorem gen_delta_write_image (td tg : Bool) (n : Nat) (hn : n < 2 ^ 64 - 1) :
    ∃ (sw : BufW Ww) (k : Nat) (sw' : BufW Ww),
      (pre.bind fun _ => TableFnsGen.writeDeltaParam e checks td tg n).run (genWImpl e)
        (BufW.new Ww checks none) = .ok ((Spec.delta e n).length, sw) ∧
      (genWImpl e).flush sw = .ok (k, sw') ∧
      sw'.outBytes e = layout e (bits₀ ++ Spec.delta e n ++
        List.replicate ((Ww - (bits₀ ++ Spec.delta e n).length % Ww) % Ww) false) :=
  gen_write_image e hWw h8w hWw64 checks pre hpre (TableFnsGen.write_delta_param_eq e checks td tg hn)
    (writeDeltaP_writes e checks td tg n hn)

/-- ζ₃, `write_zeta3_param::<t>` — byte image (`Spec.zetaWrapped e 3 n` is the published
    `Spec.zeta e 3 n` for `n + 1 < 2^63`: `zeta3_published`) -/
theorem gen_zeta3_write_image (t : Bool) (n : Nat) (hn : n < 2 ^ 64 - 1) :
    ∃ (sw : BufW Ww) (k : Nat) (sw' : BufW Ww),
      (pre.bind fun _ => TableFnsGen.writeZeta3Param e t n).run (genWImpl e)
        (BufW.new Ww checks none) = .ok ((Spec.zetaWrapped e 3 n).length, sw) ∧
      (genWImpl e).flush sw = .ok (k, sw') ∧
      sw'.outBytes e = layout e (bits₀ ++ Spec.zetaWrapped e 3 n ++
        List.replicate ((Ww - (bits₀ ++ Spec.zetaWrapped e 3 n).length % Ww) % Ww) false) :=
  gen_write_image e hWw h8w hWw64 checks pre hpre (TableFnsGen.write_zeta3_param_eq e t hn)
    (writeZeta3P_writes e checks t n hn)

theorem gen_minbin_write_image (x u : Nat) (hu : 1 ≤ u) (h64 : u < 2 ^ 64) (hx : x < u) :
    ∃ (sw : BufW Ww) (k : Nat) (sw' : BufW Ww),
      (pre.bind fun _ => Gen.write_minimal_binary x u).run (genWImpl e)
        (BufW.new Ww checks none) = .ok ((Spec.minimalBinary e x u).length, sw) ∧
      (genWImpl e).flush sw = .ok (k, sw') ∧
      sw'.outBytes e = layout e (bits₀ ++ Spec.minimalBinary e x u ++
        List.replicate ((Ww - (bits₀ ++ Spec.minimalBinary e x u).length % Ww) % Ww) false) :=
  gen_write_image e hWw h8w hWw64 checks pre hpre
    (write_minimal_binary_eq' (by omega) h64 hx) (minbin_writes e checks x u hu h64 hx)

end tableOptions

end Headline
end Dsi
