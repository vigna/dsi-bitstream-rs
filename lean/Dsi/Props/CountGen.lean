/-
  The generated trait impls of `CountBitWriter` / `CountBitReader` (lean/Dsi/Gen/CountBodies.lean,
  produced by tools/translate_count.py from src/utils/count.rs on every run) are the fields of the
  hand-written `CountW.impl` / `CountR.impl` and, for the specialised code-trait impls,
  `CountW.forward` / `CountR.forward` with the right `len_*` function (lean/Dsi/Glue/Wrappers.lean).
  `PRINT` changes nothing (the translator checks that its branches only print).
  Every body is `Res.bind r fun (x, inner) => .ok ..`, the model's field `r.map fun (x, inner) => ..`,
  except `skip_bits_after_peek`, which cannot fail and returns the new `CountR` directly.
-/
import Dsi.Glue.Wrappers
import Dsi.Gen.CountBodies
import Dsi.Props.LenGen
import Dsi.Lemmas.Res
namespace Dsi
namespace CountGen
open Gen

theorem write_bits_eq {ω : Type} (wi : WImpl ω) (P : Bool) (s : CountW ω) (v n : Nat) :
    Gen.CountBitWriter.write_bits wi P s v n = (CountW.impl wi).writeBits s v n :=
  Res.bind_eq_map fun _ => rfl

theorem write_unary_eq {ω : Type} (wi : WImpl ω) (P : Bool) (s : CountW ω) (x : Nat) :
    Gen.CountBitWriter.write_unary wi P s x = (CountW.impl wi).writeUnary s x :=
  Res.bind_eq_map fun _ => rfl

theorem flush_eq {ω : Type} (wi : WImpl ω) (P : Bool) (s : CountW ω) :
    Gen.CountBitWriter.flush wi P s = (CountW.impl wi).flush s :=
  Res.bind_eq_map fun _ => rfl

/-! ### `GammaWrite` / `DeltaWrite` / `ZetaWrite for CountBitWriter`: the inner object's method is
    the inner writer running the method's program -/

theorem write_gamma_eq {ω : Type} (wi : WImpl ω) (p : Nat → WProg Nat) (P : Bool) (s : CountW ω) (v : Nat) :
    Gen.CountBitWriter.write_gamma (fun i v => (p v).run wi i) P s v = CountW.forward wi (p v) s :=
  Res.bind_eq_map fun _ => rfl

theorem write_delta_eq {ω : Type} (wi : WImpl ω) (p : Nat → WProg Nat) (P : Bool) (s : CountW ω) (v : Nat) :
    Gen.CountBitWriter.write_delta (fun i v => (p v).run wi i) P s v = CountW.forward wi (p v) s :=
  Res.bind_eq_map fun _ => rfl

theorem write_zeta_eq {ω : Type} (wi : WImpl ω) (p : Nat → Nat → WProg Nat) (P : Bool) (s : CountW ω) (v k : Nat) :
    Gen.CountBitWriter.write_zeta (fun i v k => (p v k).run wi i) P s v k = CountW.forward wi (p v k) s :=
  Res.bind_eq_map fun _ => rfl

theorem write_zeta3_eq {ω : Type} (wi : WImpl ω) (p : Nat → WProg Nat) (P : Bool) (s : CountW ω) (v : Nat) :
    Gen.CountBitWriter.write_zeta3 (fun i v => (p v).run wi i) P s v = CountW.forward wi (p v) s :=
  Res.bind_eq_map fun _ => rfl

theorem read_bits_eq {ρ : Type} (ri : RImpl ρ) (P : Bool) (s : CountR ρ) (n : Nat) :
    Gen.CountBitReader.read_bits ri P s n = (CountR.impl ri).readBits s n :=
  Res.bind_eq_map fun _ => rfl

theorem read_unary_eq {ρ : Type} (ri : RImpl ρ) (P : Bool) (s : CountR ρ) :
    Gen.CountBitReader.read_unary ri P s = (CountR.impl ri).readUnary s :=
  Res.bind_eq_map fun _ => rfl

theorem peek_bits_eq {ρ : Type} (ri : RImpl ρ) (P : Bool) (s : CountR ρ) (n : Nat) :
    Gen.CountBitReader.peek_bits ri P s n = (CountR.impl ri).peekBits s n :=
  Res.bind_eq_map fun _ => rfl

theorem skip_bits_eq {ρ : Type} (ri : RImpl ρ) (P : Bool) (s : CountR ρ) (n : Nat) :
    Gen.CountBitReader.skip_bits ri P s n = (CountR.impl ri).skipBits s n :=
  Res.bind_eq_map fun _ => rfl

theorem skip_bits_after_peek_eq {ρ : Type} (ri : RImpl ρ) (P : Bool) (s : CountR ρ) (n : Nat) :
    Gen.CountBitReader.skip_bits_after_peek ri P s n = (CountR.impl ri).skipAfterPeek s n := rfl

/-- with the generated `len_*` function -/
theorem read_gamma_eq' {ρ : Type} (ri : RImpl ρ) (p : RProg Nat) (P : Bool) (s : CountR ρ) :
    Gen.CountBitReader.read_gamma (fun i => p.run ri i) P s = CountR.forward ri p Gen.len_gamma s :=
  Res.bind_eq_map fun _ => rfl

theorem read_gamma_eq {ρ : Type} (ri : RImpl ρ) (p : RProg Nat) (P : Bool) (s : CountR ρ) :
    Gen.CountBitReader.read_gamma (fun i => p.run ri i) P s = CountR.forward ri p lenGammaD s := by
  rw [read_gamma_eq', funext LenGen.len_gamma_eq]

theorem read_delta_eq' {ρ : Type} (ri : RImpl ρ) (p : RProg Nat) (P : Bool) (s : CountR ρ) :
    Gen.CountBitReader.read_delta (fun i => p.run ri i) P s = CountR.forward ri p Gen.len_delta s :=
  Res.bind_eq_map fun _ => rfl

theorem read_delta_eq {ρ : Type} (ri : RImpl ρ) (p : RProg Nat) (P : Bool) (s : CountR ρ) :
    Gen.CountBitReader.read_delta (fun i => p.run ri i) P s = CountR.forward ri p lenDeltaD s := by
  rw [read_delta_eq', funext LenGen.len_delta_eq]

theorem read_zeta_eq' {ρ : Type} (ri : RImpl ρ) (p : Nat → RProg Nat) (P : Bool) (s : CountR ρ) (k : Nat) :
    Gen.CountBitReader.read_zeta (fun i k => (p k).run ri i) P s k
      = CountR.forward ri (p k) (fun v => Gen.len_zeta v k) s :=
  Res.bind_eq_map fun _ => rfl

theorem read_zeta3_eq' {ρ : Type} (ri : RImpl ρ) (p : RProg Nat) (P : Bool) (s : CountR ρ) :
    Gen.CountBitReader.read_zeta3 (fun i => p.run ri i) P s
      = CountR.forward ri p (fun v => Gen.len_zeta v 3) s :=
  Res.bind_eq_map fun _ => rfl

/-- `forward` only applies `len` to the value read -/
theorem forward_congr {ρ : Type} (ri : RImpl ρ) (p : RProg Nat) (len len' : Nat → Nat) (s : CountR ρ)
    (h : ∀ v s', p.run ri s.inner = .ok (v, s') → len v = len' v) :
    CountR.forward ri p len s = CountR.forward ri p len' s :=
  Res.map_congr fun (v, s') hr => by simp only [h v s' hr]

/-- with the hand-written length function, for values below `u64::MAX` (`len_zeta` computes `n + 1`) -/
theorem read_zeta_eq {ρ : Type} (ri : RImpl ρ) (p : Nat → RProg Nat) (P : Bool) (s : CountR ρ) (k : Nat)
    (h : ∀ v s', (p k).run ri s.inner = .ok (v, s') → v < 2 ^ 64 - 1) :
    Gen.CountBitReader.read_zeta (fun i k => (p k).run ri i) P s k
      = CountR.forward ri (p k) (fun v => lenZetaD v k) s := by
  rw [read_zeta_eq']
  exact forward_congr ri (p k) _ _ s fun v s' hr => LenGen.len_zeta_eq k (h v s' hr)

theorem read_zeta3_eq {ρ : Type} (ri : RImpl ρ) (p : RProg Nat) (P : Bool) (s : CountR ρ)
    (h : ∀ v s', p.run ri s.inner = .ok (v, s') → v < 2 ^ 64 - 1) :
    Gen.CountBitReader.read_zeta3 (fun i => p.run ri i) P s
      = CountR.forward ri p (fun v => lenZetaD v 3) s := by
  rw [read_zeta3_eq']
  exact forward_congr ri p _ _ s fun v s' hr => LenGen.len_zeta_eq 3 (h v s' hr)

end CountGen
end Dsi
