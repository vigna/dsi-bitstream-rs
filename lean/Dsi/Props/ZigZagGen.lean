/-
  The generated zig-zag maps (lean/Dsi/Gen/ZigZagBodies.lean, produced by tools/translate_zigzag.py
  from the provided methods of `ToInt` / `ToNat` in src/codes/mod.rs on every run) against the
  hand-written `zzToInt` / `zzToNat` of lean/Dsi/Glue/ZigZag.lean, the functions the C17 theorems
  (lean/Dsi/Props/C17.lean) are about:

  * the provided methods, translated operator by operator, are `zzToInt` / `zzToNat` on every width;
  * the function of every implementing type (`impl ToInt for uN`, `impl ToNat for iN`: the provided
    method, or the translation of an overriding body) is `zzToInt` / `zzToNat` at that width;
  * the implementing types are exactly the primitive integers of widths 8, 16, 32, 64, 128 and
    `usize` / `isize` (64 bits).
-/
import Dsi.Glue.ZigZag
import Dsi.Gen.ZigZagBodies
import Dsi.Props.C17
namespace Dsi
namespace ZigZagGen
open Gen.ZigZag

/-- `Self::ONE` as a shift amount -/
theorem one_toNat {w : Nat} (h : 0 < w) : (1#w).toNat = 1 := by
  rw [BitVec.toNat_ofNat]
  exact Nat.mod_eq_of_lt (Nat.one_lt_two_pow (by omega))

/-- the provided `ToInt::to_int` is `zzToInt`, on every width -/
theorem to_int_eq {w : Nat} (x : BitVec w) : to_int x = zzToInt x := by
  rcases Nat.eq_zero_or_pos w with h | h
  · subst h; exact Subsingleton.elim _ _
  · unfold to_int zzToInt
    rw [one_toNat h]
    rfl

/-- the provided `ToNat::to_nat` is `zzToNat`, on every width -/
theorem to_nat_eq {w : Nat} (x : BitVec w) : to_nat x = zzToNat x := by
  rcases Nat.eq_zero_or_pos w with h | h
  · subst h; exact Subsingleton.elim _ _
  · unfold to_nat zzToNat
    rw [one_toNat h]

theorem to_int_u8_eq : to_int_u8 = zzToInt := funext fun x => to_int_eq x
theorem to_int_u16_eq : to_int_u16 = zzToInt := funext fun x => to_int_eq x
theorem to_int_u32_eq : to_int_u32 = zzToInt := funext fun x => to_int_eq x
theorem to_int_u64_eq : to_int_u64 = zzToInt := funext fun x => to_int_eq x
theorem to_int_usize_eq : to_int_usize = zzToInt := funext fun x => to_int_eq x
theorem to_int_u128_eq : to_int_u128 = zzToInt := funext fun x => to_int_eq x

theorem to_nat_i8_eq : to_nat_i8 = zzToNat := funext fun x => to_nat_eq x
theorem to_nat_i16_eq : to_nat_i16 = zzToNat := funext fun x => to_nat_eq x
theorem to_nat_i32_eq : to_nat_i32 = zzToNat := funext fun x => to_nat_eq x
theorem to_nat_i64_eq : to_nat_i64 = zzToNat := funext fun x => to_nat_eq x
theorem to_nat_isize_eq : to_nat_isize = zzToNat := funext fun x => to_nat_eq x
theorem to_nat_i128_eq : to_nat_i128 = zzToNat := funext fun x => to_nat_eq x

/-- the implementing types: exactly the primitive integers (`usize` / `isize`: 64 bits), so the
    twelve theorems above cover every `impl` -/
theorem impls_eq :
    toIntImpls = [("u8", 8), ("u16", 16), ("u32", 32), ("u64", 64), ("usize", 64), ("u128", 128)] ∧
    toNatImpls = [("i8", 8), ("i16", 16), ("i32", 32), ("i64", 64), ("isize", 64), ("i128", 128)] :=
  ⟨rfl, rfl⟩

/-- the widths with an implementation are the same on both sides, so `to_nat` and `to_int` of a
    width are always both available -/
theorem impl_widths :
    toIntImpls.map (·.2) = [8, 16, 32, 64, 64, 128] ∧ toNatImpls.map (·.2) = toIntImpls.map (·.2) :=
  ⟨rfl, rfl⟩

/-- the C17 theorems, restated for the generated functions: mutually inverse on every width, and
    the documented integer mapping -/
theorem gen_roundtrip {w : Nat} (x : BitVec w) : to_int (to_nat x) = x ∧ to_nat (to_int x) = x := by
  rw [to_nat_eq, to_int_eq, to_int_eq, to_nat_eq]
  exact ⟨zz_toInt_toNat x, zz_toNat_toInt x⟩

theorem gen_spec {w : Nat} (x : BitVec w) : ((to_nat x).toNat : Int) = zzSpec x.toInt := by
  rw [to_nat_eq]; exact zz_spec x

end ZigZagGen
end Dsi
