/-
  The generated constants and aliases of src/traits/endianness.rs (lean/Dsi/Gen/EndianConsts.lean,
  produced by tools/translate_endian.py on every run; `Endian.le` / `Endian.be` stand for the structs
  `LittleEndian` / `BigEndian`) and the facts about them the model and the other translators rely on:

  * `IS_LITTLE` is true exactly for `LittleEndian`, `IS_BIG` exactly for `BigEndian`, and they are
    each other's negation; `NAME` is "little" / "big";
  * `LE` / `BE` are `LittleEndian` / `BigEndian`; `NativeEndian` and `NE` are the endianness of the
    target (`LittleEndian` on a little-endian target);
  * so a test `E::IS_LITTLE` / `E::IS_BIG` selects like `TypeId::of::<E>() == TypeId::of::<LE>()` /
    `.. == TypeId::of::<BE>()` (how tools/translate_codes2.py, translate_vbyteio.py and
    translate_teardown.py translate either form), and the generated `vbyte_write::<E>` /
    `vbyte_read::<E>` (lean/Dsi/Gen/VByteIOBodies.lean) run the big-endian variant exactly when
    `E::IS_BIG`, the little-endian one exactly when `E::IS_LITTLE`.
-/
import Dsi.Gen.EndianConsts
import Dsi.Gen.VByteIOBodies
namespace Dsi
namespace EndianGen
open Gen.Endianness

theorem is_little_be : IS_LITTLE BE = false := rfl
theorem is_little_le : IS_LITTLE LE = true := rfl
theorem is_big_be : IS_BIG BE = true := rfl
theorem is_big_le : IS_BIG LE = false := rfl

theorem is_big_eq_not_is_little (e : Endian) : IS_BIG e = !IS_LITTLE e := by cases e <;> rfl

/-- the constant decides the selector type: what a test of `E::IS_LITTLE` means -/
theorem is_little_iff (e : Endian) : IS_LITTLE e = true ↔ e = Endian.le := by cases e <;> decide
/-- what a test of `E::IS_BIG` means -/
theorem is_big_iff (e : Endian) : IS_BIG e = true ↔ e = Endian.be := by cases e <;> decide

theorem name_eq : NAME LE = "little" ∧ NAME BE = "big" := ⟨rfl, rfl⟩

theorem aliases_eq : Gen.Endianness.LE = Endian.le ∧ Gen.Endianness.BE = Endian.be := ⟨rfl, rfl⟩

theorem native_eq (target : Endian) : NativeEndian target = target ∧ NE target = target := by
  cases target <;> exact ⟨rfl, rfl⟩

theorem ne_eq_le : NE Endian.le = Gen.Endianness.LE := rfl
theorem ne_eq_be : NE Endian.be = Gen.Endianness.BE := rfl

/-- the dispatching `vbyte_write::<E>` / `vbyte_read::<E>` in terms of the constants -/
theorem vbyte_write_select (e : Endian) (v : Nat) :
    Gen.vbyte_write e v = if IS_BIG e then Gen.vbyte_write_be v else Gen.vbyte_write_le v := by
  cases e <;> rfl

theorem vbyte_write_select' (e : Endian) (v : Nat) :
    Gen.vbyte_write e v = if IS_LITTLE e then Gen.vbyte_write_le v else Gen.vbyte_write_be v := by
  cases e <;> rfl

theorem vbyte_read_select (fuel : Nat) (e : Endian) :
    Gen.vbyte_read fuel e = if IS_BIG e then Gen.vbyte_read_be fuel else Gen.vbyte_read_le fuel := by
  cases e <;> rfl

theorem vbyte_read_select' (fuel : Nat) (e : Endian) :
    Gen.vbyte_read fuel e = if IS_LITTLE e then Gen.vbyte_read_le fuel else Gen.vbyte_read_be fuel := by
  cases e <;> rfl

end EndianGen
end Dsi
