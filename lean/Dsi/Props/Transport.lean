/-
  Transport of the L1/L2 theorems to the concrete machines (L3): what is proved about programs on
  the reference reader `RefR` / reference writer `RefW` holds on the buffered reader `BufR W`
  (`BufBitReader`), the unbuffered reader `BitR` (`BitReader`) and the writer `BufW W`
  (`BufBitWriter`), through the simulations `rprog_sim`, `bitr_rprog_sim`, `wprog_sim`.

  Properties covered at L3: C05 (`table_*_concrete`), C04 / C06 (`writes_concrete` and its
  instances), C03 / C06 / C07 (`readsPM_concrete`, `readsPM_concrete_bitr` and their instances),
  C10 (`dispatch_*_concrete`), C03 round trips (`e2e_*`).

  Hypotheses, and why:
  * `BufR.Rel e s r` / `BitR.Rel' e s r` / `RelC e t w`: the concrete state represents the reference
    state (holds initially: `new_rel`, `bitr_new_rel`, `rel_new`; preserved by every operation);
  * `e = .be → W ≤ 64`: hypothesis of `rprog_sim` (see `readBitsBE_needs_W_le_64`);
  * `K ≤ W` for a program that looks `K` bits ahead (tables: 9, 11, 12 bits): `peek_bits` of the
    buffered reader serves at most `W` bits (`BufR.Rel` says `r.peekMax = W`); `K ≤ 32` for `BitR`;
  * writers: `w.cap = none` (growable backend; the code theorems `Writes` are stated there).
-/
import Dsi.Lemmas.TransportProgs
import Dsi.Props.EndToEnd
namespace Dsi
open TrL EqvL E2E BufW Gen

variable {W : Nat}

def SameR (e : Endian) {α : Type} : α × BufR W → α × BufR W → Prop :=
  fun a b => a.1 = b.1 ∧ ∃ r', BufR.Rel e a.2 r' ∧ BufR.Rel e b.2 r'

/-- `BufW.abs`: delivered words followed by the pending bits -/
def SameW (e : Endian) {α : Type} : α × BufW W → α × BufW W → Prop :=
  fun a b => a.1 = b.1 ∧ a.2.abs e = b.2.abs e ∧ ∃ w', RelC e a.2 w' ∧ RelC e b.2 w'

theorem SameR.bitPos {e : Endian} {α : Type} {a b : α × BufR W} (h : SameR e a b) :
    a.2.bitPos = b.2.bitPos := by
  obtain ⟨_, r', h1, h2⟩ := h
  rw [bitPos_eq h1, bitPos_eq h2]

theorem run_eq_concrete {α : Type} {e : Endian} (hW64 : e = .be → W ≤ 64) {p q : RProg α}
    (hp : PeekBounded W 0 p) (hq : PeekBounded W 0 q) {s : BufR W} {r : RefR} (h : BufR.Rel e s r)
    (heq : p.run RefR.impl r = q.run RefR.impl r) :
    ResRel (SameR e) (p.run (BufR.impl e) s) (q.run (BufR.impl e) s) := by
  have h1 := rprog_sim hW64 p hp h
  rw [heq] at h1
  exact (ResRel.join h1 (rprog_sim hW64 q hq h)).mono
    fun ⟨_, _⟩ ⟨_, _⟩ ⟨⟨_, r'⟩, h1, h2⟩ => ⟨h1.1.trans h2.1.symm, r', h1.2, h2.2⟩

theorem wrun_eq_concrete {α : Type} {e : Endian} {p q : WProg α} {t : BufW W} {w : RefW}
    (h : RelC e t w) (heq : p.run RefW.impl w = q.run RefW.impl w) :
    ResRel (SameW e) (p.run (BufW.impl e) t) (q.run (BufW.impl e) t) := by
  have h1 := wprog_sim e p h
  rw [heq] at h1
  exact (ResRel.join h1 (wprog_sim e q h)).mono fun ⟨_, _⟩ ⟨_, _⟩ ⟨⟨_, w'⟩, h1, h2⟩ =>
    ⟨h1.1.trans h2.1.symm, h1.2.1.1.2.2.2.2.2.symm.trans h2.2.1.1.2.2.2.2.2, w', h1.2.1, h2.2.1⟩

section tableRead
variable {e : Endian} (hW64 : e = .be → W ≤ 64) {s : BufR W} {r : RefR} (h : BufR.Rel e s r)
include hW64 h

/-- `read_gamma_param::<USE_TABLE>` -/
theorem table_read_concrete_gammaP (t : Bool) (hW : t = true → Gamma.READ_BITS ≤ W) :
    ResRel (SameR e) ((readGammaP e t).run (BufR.impl e) s) (readGammaDefault.run (BufR.impl e) s) := by
  refine run_eq_concrete hW64 ((rside_gammaP e t).pb W (need_le hW))
    (simple_gamma.peekBounded W _ 0) h ?_
  exact readGammaP_eq e t r h.2.2.1 (fun ht => h.2.2.2.2.1 ▸ hW ht)

theorem table_read_concrete_gamma (hW : Gamma.READ_BITS ≤ W) :
    ResRel (SameR e) ((readGamma (some (gammaRTab e))).run (BufR.impl e) s)
      (readGammaDefault.run (BufR.impl e) s) :=
  table_read_concrete_gammaP hW64 h true (fun _ => hW)

/-- `read_delta_param::<USE_DELTA_TABLE, USE_GAMMA_TABLE>` -/
theorem table_read_concrete_deltaP (td tg : Bool) (hd : td = true → Delta.READ_BITS ≤ W)
    (hg : tg = true → Gamma.READ_BITS ≤ W) :
    ResRel (SameR e) ((readDeltaP e td tg).run (BufR.impl e) s)
      ((readDeltaDefault none).run (BufR.impl e) s) := by
  refine run_eq_concrete hW64 ((rside_deltaP e td tg).pb W (Nat.max_le.2 ⟨need_le hd, need_le hg⟩))
    (simple_delta.peekBounded W _ 0) h ?_
  exact readDeltaP_eq e td tg r h.2.2.1 (fun ht => h.2.2.2.2.1 ▸ hd ht)
    (fun ht => h.2.2.2.2.1 ▸ hg ht)

theorem table_read_concrete_delta (hd : Delta.READ_BITS ≤ W) :
    ResRel (SameR e) ((readDelta (some (deltaRTab e)) (some (gammaRTab e))).run (BufR.impl e) s)
      ((readDeltaDefault none).run (BufR.impl e) s) ∧
    ResRel (SameR e) ((readDelta (some (deltaRTab e)) none).run (BufR.impl e) s)
      ((readDeltaDefault none).run (BufR.impl e) s) ∧
    ResRel (SameR e) ((readDelta none (some (gammaRTab e))).run (BufR.impl e) s)
      ((readDeltaDefault none).run (BufR.impl e) s) := by
  have hg : Gamma.READ_BITS ≤ W := Nat.le_trans (by decide) hd
  exact ⟨table_read_concrete_deltaP hW64 h true true (fun _ => hd) (fun _ => hg),
    table_read_concrete_deltaP hW64 h true false (fun _ => hd) (fun ht => by cases ht),
    table_read_concrete_deltaP hW64 h false true (fun ht => by cases ht) (fun _ => hg)⟩

theorem table_read_concrete_zeta3P (t : Bool) (hW : t = true → Zeta.READ_BITS ≤ W) :
    ResRel (SameR e) ((readZeta3P e t).run (BufR.impl e) s)
      ((readZetaDefault 3).run (BufR.impl e) s) := by
  refine run_eq_concrete hW64 ((rside_zeta3P e t).pb W (need_le hW))
    ((simple_zeta 3).peekBounded W _ 0) h ?_
  exact readZeta3P_eq e t r h.2.2.1 (fun ht => h.2.2.2.2.1 ▸ hW ht)

theorem table_read_concrete_zeta3 (hW : Zeta.READ_BITS ≤ W) :
    ResRel (SameR e) ((readZeta3 (some (zetaRTab e))).run (BufR.impl e) s)
      ((readZetaDefault 3).run (BufR.impl e) s) :=
  table_read_concrete_zeta3P hW64 h true (fun _ => hW)

/-- **C05 on the concrete buffered reader.**  For a word size covering the widest table index
    (`W ≥ 12`: the library's 16-, 32-, 64-bit readers) every table selection of γ, δ, ζ₃ and the
    default methods give the same value and the same abstract state (hence the same `bitPos`) as
    the bit-by-bit readers, on every reader state — any alignment, strict or zero-extended backend,
    any number of bits left. -/
theorem table_read_concrete (hW : tablePeek ≤ W) :
    (∀ t, ResRel (SameR e) ((readGammaP e t).run (BufR.impl e) s)
        (readGammaDefault.run (BufR.impl e) s)) ∧
    (∀ td tg, ResRel (SameR e) ((readDeltaP e td tg).run (BufR.impl e) s)
        ((readDeltaDefault none).run (BufR.impl e) s)) ∧
    (∀ t, ResRel (SameR e) ((readZeta3P e t).run (BufR.impl e) s)
        ((readZetaDefault 3).run (BufR.impl e) s)) ∧
    ResRel (SameR e) ((readGammaD e).run (BufR.impl e) s) (readGammaDefault.run (BufR.impl e) s) ∧
    ResRel (SameR e) ((readDeltaD e).run (BufR.impl e) s)
        ((readDeltaDefault none).run (BufR.impl e) s) ∧
    ResRel (SameR e) ((readZeta3D e).run (BufR.impl e) s)
        ((readZetaDefault 3).run (BufR.impl e) s) := by
  have hg : Gamma.READ_BITS ≤ W := Nat.le_trans gamma_le_tablePeek hW
  have hd : Delta.READ_BITS ≤ W := Nat.le_trans delta_le_tablePeek hW
  have hz : Zeta.READ_BITS ≤ W := Nat.le_trans zeta_le_tablePeek hW
  exact ⟨fun t => table_read_concrete_gammaP hW64 h t (fun _ => hg),
    fun td tg => table_read_concrete_deltaP hW64 h td tg (fun _ => hd) (fun _ => hg),
    fun t => table_read_concrete_zeta3P hW64 h t (fun _ => hz),
    table_read_concrete_gammaP hW64 h _ (fun _ => hg),
    table_read_concrete_deltaP hW64 h _ _ (fun _ => hd) (fun _ => hg),
    table_read_concrete_zeta3P hW64 h _ (fun _ => hz)⟩

end tableRead

section tableWrite
variable {e : Endian} {t : BufW W} {w : RefW} (h : RelC e t w)
include h

/-- **C05 on the concrete writer**: every table selection of γ, δ, ζ₃ and the default methods leave
    the concrete writer with the same abstract bit stream (delivered words and pending bits) and
    return the same length as the bit-by-bit writers — on every writer state (any fill level of
    the buffer, growable or fixed backend, either `checks` value), for every `n`. -/
theorem table_write_concrete (n : Nat) :
    (∀ tb, ResRel (SameW e) ((writeGammaP e t.checks tb n).run (BufW.impl e) t)
        ((writeGammaDefault t.checks n).run (BufW.impl e) t)) ∧
    (∀ td tg, ResRel (SameW e) ((writeDeltaP e t.checks td tg n).run (BufW.impl e) t)
        ((writeDeltaDefault t.checks none n).run (BufW.impl e) t)) ∧
    (∀ tb, ResRel (SameW e) ((writeZeta3P e tb n).run (BufW.impl e) t)
        ((writeZetaDefault n 3).run (BufW.impl e) t)) ∧
    ResRel (SameW e) ((writeGammaD e t.checks n).run (BufW.impl e) t)
        ((writeGammaDefault t.checks n).run (BufW.impl e) t) ∧
    ResRel (SameW e) ((writeDeltaD e t.checks n).run (BufW.impl e) t)
        ((writeDeltaDefault t.checks none n).run (BufW.impl e) t) ∧
    ResRel (SameW e) ((writeZeta3D e n).run (BufW.impl e) t)
        ((writeZetaDefault n 3).run (BufW.impl e) t) := by
  have he := h.1.2.1
  have hc := h.1.2.2.2.2.1
  have hg := fun tb => wrun_eq_concrete h (writeGammaP_eq e t.checks tb n w he hc)
  have hd := fun td tg => wrun_eq_concrete h (writeDeltaP_eq e t.checks td tg n w he hc)
  have hz := fun tb => wrun_eq_concrete h (writeZeta3P_eq e tb n w he)
  exact ⟨hg, hd, hz, hg _, hd _ _, hz _⟩

end tableWrite

/-- **A program that appends `bits` on the reference writer appends `bits` on the concrete writer**
    (growable backend): it returns `bits.length`, the new state represents the reference writer
    with `bits` appended; moreover the words already delivered are never rewritten and the abstract
    bit stream grows by exactly `bits`. -/
theorem writes_concrete {p : WProg Nat} {e : Endian} {checks : Bool} {bits : List Bool}
    (hw : Writes p e checks bits) {t : BufW W} {w : RefW} (h : RelC e t w) (hcap : w.cap = none)
    (hc : w.checks = checks) :
    ∃ t', p.run (BufW.impl e) t = .ok (bits.length, t') ∧
      RelC e t' { w with bits := w.bits ++ bits } ∧ t.out <+: t'.out ∧
      t'.abs e = t.abs e ++ bits := by
  have hsim : ResRel (fun a b => a.1 = b.1 ∧ RelC e a.2 b.2 ∧ t.out <+: a.2.out)
      (p.run (BufW.impl e) t) (p.run RefW.impl w) :=
    (wprog_sim e p h).mono (fun ⟨_, _⟩ ⟨_, _⟩ hab => hab)
  rw [hw w h.1.2.1 hcap hc] at hsim
  obtain ⟨⟨a, t'⟩, hrun, ha, hrel, hpre⟩ := ResRel.ok_right hsim
  have ha : a = bits.length := ha
  subst ha
  refine ⟨t', hrun, hrel, hpre, ?_⟩
  have h1 : (w.bits ++ bits) = t'.abs e := hrel.1.2.2.2.2.2
  have h2 : w.bits = t.abs e := h.1.2.2.2.2.2
  rw [← h1, h2]

theorem writes_concrete' {p : WProg Nat} {e : Endian} {bits : List Bool} {t : BufW W} {w : RefW}
    (h : RelC e t w) (hcap : w.cap = none) (hw : Writes p e t.checks bits) :
    ∃ t', p.run (BufW.impl e) t = .ok (bits.length, t') ∧
      RelC e t' { w with bits := w.bits ++ bits } ∧ t.out <+: t'.out ∧
      t'.abs e = t.abs e ++ bits :=
  writes_concrete hw h hcap h.1.2.2.2.2.1

section codeWrite
variable {e : Endian} {t : BufW W} {w : RefW} (h : RelC e t w) (hcap : w.cap = none)
include h hcap

theorem unary_write_concrete (x : Nat) (hx : x < 2 ^ 64 - 1) :
    ∃ t', (writeUnaryC x).run (BufW.impl e) t
        = .ok ((Spec.unary x).length, t') ∧
      RelC e t' { w with bits := w.bits ++ Spec.unary x } ∧ t.out <+: t'.out ∧
      t'.abs e = t.abs e ++ Spec.unary x :=
  writes_concrete' h hcap (unary_writes e t.checks x hx)

theorem gamma_write_concrete (n : Nat) (hn : n < 2 ^ 64 - 1) :
    ∃ t', (writeGammaDefault t.checks n).run (BufW.impl e) t
        = .ok ((Spec.gamma e n).length, t') ∧
      RelC e t' { w with bits := w.bits ++ Spec.gamma e n } ∧ t.out <+: t'.out ∧
      t'.abs e = t.abs e ++ Spec.gamma e n :=
  writes_concrete' h hcap (gamma_writes e t.checks n hn)

theorem delta_write_concrete (n : Nat) (hn : n < 2 ^ 64 - 1) :
    ∃ t', (writeDeltaDefault t.checks none n).run (BufW.impl e) t
        = .ok ((Spec.delta e n).length, t') ∧
      RelC e t' { w with bits := w.bits ++ Spec.delta e n } ∧ t.out <+: t'.out ∧
      t'.abs e = t.abs e ++ Spec.delta e n :=
  writes_concrete' h hcap (delta_writes e t.checks n hn)

theorem omega_write_concrete (n : Nat) (hn : n < 2 ^ 64 - 1) :
    ∃ t', (writeOmega e t.checks n).run (BufW.impl e) t
        = .ok ((Spec.omega e n).length, t') ∧
      RelC e t' { w with bits := w.bits ++ Spec.omega e n } ∧ t.out <+: t'.out ∧
      t'.abs e = t.abs e ++ Spec.omega e n :=
  writes_concrete' h hcap (omega_writes e t.checks n hn)

theorem zeta_write_concrete (k n : Nat) (hk1 : 1 ≤ k) (hk : k ≤ 63) (hn : n < 2 ^ 64 - 1) :
    ∃ t', (writeZetaDefault n k).run (BufW.impl e) t
        = .ok ((Spec.zetaWrapped e k n).length, t') ∧
      RelC e t' { w with bits := w.bits ++ Spec.zetaWrapped e k n } ∧ t.out <+: t'.out ∧
      t'.abs e = t.abs e ++ Spec.zetaWrapped e k n :=
  writes_concrete' h hcap (zeta_writes e t.checks k n hk1 hk hn)

theorem pi_write_concrete (k n : Nat) (hk : k ≤ 63) (hn : n < 2 ^ 64 - 1) :
    ∃ t', (writePi t.checks n k).run (BufW.impl e) t
        = .ok ((Spec.pi e k n).length, t') ∧
      RelC e t' { w with bits := w.bits ++ Spec.pi e k n } ∧ t.out <+: t'.out ∧
      t'.abs e = t.abs e ++ Spec.pi e k n :=
  writes_concrete' h hcap (pi_writes e t.checks k n hk hn)

theorem rice_write_concrete (k n : Nat) (hk : k ≤ 63) (hq : n / 2 ^ k < 2 ^ 64 - 1) :
    ∃ t', (writeRice t.checks n k).run (BufW.impl e) t
        = .ok ((Spec.rice e k n).length, t') ∧
      RelC e t' { w with bits := w.bits ++ Spec.rice e k n } ∧ t.out <+: t'.out ∧
      t'.abs e = t.abs e ++ Spec.rice e k n :=
  writes_concrete' h hcap (rice_writes e t.checks k n hk hq)

theorem golomb_write_concrete (b n : Nat) (hb : 1 ≤ b) (hb64 : b < 2 ^ 64) (hq : n / b < 2 ^ 64 - 1) :
    ∃ t', (writeGolomb n b).run (BufW.impl e) t
        = .ok ((Spec.golomb e b n).length, t') ∧
      RelC e t' { w with bits := w.bits ++ Spec.golomb e b n } ∧ t.out <+: t'.out ∧
      t'.abs e = t.abs e ++ Spec.golomb e b n :=
  writes_concrete' h hcap (golomb_writes e t.checks b n hb hb64 hq)

theorem expGolomb_write_concrete (k n : Nat) (hk : k ≤ 63) (hn : n < 2 ^ 64) (hk0 : k = 0 → n < 2 ^ 64 - 1) :
    ∃ t', (writeExpGolomb t.checks none n k).run (BufW.impl e) t
        = .ok ((Spec.expGolomb e k n).length, t') ∧
      RelC e t' { w with bits := w.bits ++ Spec.expGolomb e k n } ∧ t.out <+: t'.out ∧
      t'.abs e = t.abs e ++ Spec.expGolomb e k n :=
  writes_concrete' h hcap (expGolomb_writes e t.checks k n hk hn hk0)

theorem minbin_write_concrete (x u : Nat) (hu : 1 ≤ u) (h64 : u < 2 ^ 64) (hx : x < u) :
    ∃ t', (writeMinimalBinary x u).run (BufW.impl e) t
        = .ok ((Spec.minimalBinary e x u).length, t') ∧
      RelC e t' { w with bits := w.bits ++ Spec.minimalBinary e x u } ∧ t.out <+: t'.out ∧
      t'.abs e = t.abs e ++ Spec.minimalBinary e x u :=
  writes_concrete' h hcap (minbin_writes e t.checks x u hu h64 hx)

theorem vbyte_be_write_concrete (v : Nat) (hv : v < 2 ^ 64) :
    ∃ t', (writeVByteBe v).run (BufW.impl e) t
        = .ok ((Spec.vbyte e true v).length, t') ∧
      RelC e t' { w with bits := w.bits ++ Spec.vbyte e true v } ∧ t.out <+: t'.out ∧
      t'.abs e = t.abs e ++ Spec.vbyte e true v :=
  writes_concrete' h hcap (vbyte_be_writes e t.checks v hv)

theorem vbyte_le_write_concrete (v : Nat) (hv : v < 2 ^ 64) :
    ∃ t', (writeVByteLe v).run (BufW.impl e) t
        = .ok ((Spec.vbyte e false v).length, t') ∧
      RelC e t' { w with bits := w.bits ++ Spec.vbyte e false v } ∧ t.out <+: t'.out ∧
      t'.abs e = t.abs e ++ Spec.vbyte e false v :=
  writes_concrete' h hcap (vbyte_le_writes e t.checks v hv)

/-- ζ_k in the range where the implemented code is the published one -/
theorem zeta_write_concrete_published (k n : Nat) (hk1 : 1 ≤ k) (hk : k ≤ 63) (hn : n < 2 ^ 64 - 1)
    (hpub : ((n + 1).log2 / k + 1) * k ≤ 64) :
    ∃ t', (writeZetaDefault n k).run (BufW.impl e) t = .ok ((Spec.zeta e k n).length, t') ∧
      RelC e t' { w with bits := w.bits ++ Spec.zeta e k n } ∧ t.out <+: t'.out ∧
      t'.abs e = t.abs e ++ Spec.zeta e k n := by
  rw [← zeta_published e k n hpub]
  exact zeta_write_concrete h hcap k n hk1 hk hn

/-- **C04 / C06 on the concrete writer, every code of the `Codes` enum at once**: the default
    trait method of the code `c` (`ownWrite`: the program every dispatcher ends up running, tables
    included) returns the length of the published codeword and appends exactly that codeword. -/
theorem code_write_concrete (c : CodeId) (v : Nat) (hd : c.Dom v) :
    ∃ cw t', c.codeword e v = some cw ∧
      (ownWrite e t.checks c v).run (BufW.impl e) t = .ok (cw.length, t') ∧
      RelC e t' { w with bits := w.bits ++ cw } ∧ t.out <+: t'.out ∧ t'.abs e = t.abs e ++ cw := by
  obtain ⟨cw, hcw, hwr⟩ := ownWrite_writes e t.checks c v hd
  obtain ⟨t', ht⟩ := writes_concrete' h hcap hwr
  exact ⟨cw, t', hcw, ht⟩

/-- the returned length is what the length function of the code computes (C06) -/
theorem code_write_concrete_len (c : CodeId) (v : Nat) (hd : c.Dom v) :
    ∃ t', (ownWrite e t.checks c v).run (BufW.impl e) t = .ok (ownLen c v, t') := by
  obtain ⟨cw, _, hwr, _, hl⟩ := own_spec e t.checks c v hd
  obtain ⟨t', h1, _⟩ := writes_concrete' h hcap hwr
  exact ⟨t', hl ▸ h1⟩

/-- aliases (`CodeId.equiv`) write the same bits on the concrete writer -/
theorem equiv_write_concrete {a b : CodeId} (hab : a.equiv b = true) (v : Nat) (hd : a.Dom v) :
    ResRel (SameW e) ((ownWrite e t.checks a v).run (BufW.impl e) t)
      ((ownWrite e t.checks b v).run (BufW.impl e) t) := by
  obtain ⟨cw, _, _, ha, hb⟩ := equiv_ownWrite hab e t.checks v hd
  exact wrun_eq_concrete h (writes_run_eq ha hb w h.1.2.1 hcap h.1.2.2.2.2.1)

end codeWrite

theorem refr_at_of_pos {e : Endian} {r : RefR} {pre bits post : List Bool} (he : r.e = e)
    (hst : r.stream = pre ++ bits ++ post) (hpos : r.pos = pre.length) :
    r = RefR.at e pre bits post r.strict r.peekMax ∧
      { r with pos := r.pos + bits.length } = RefR.after e pre bits post r.strict r.peekMax := by
  obtain ⟨re, rs, rp, rst, rpm⟩ := r
  simp only at he hst hpos
  subst he hst hpos
  exact ⟨rfl, rfl⟩

/-- **A program that decodes `bits` to `v` on the reference reader decodes it on the concrete
    buffered reader**, wherever the codeword lies in the stream (any alignment with respect to
    the words, the buffer in any fill state).
    `K` is the look-ahead the program needs (`0` for the table-free readers: `reads_concrete`). -/
theorem readsPM_concrete {α : Type} {e : Endian} (hW64 : e = .be → W ≤ 64) {K : Nat} {p : RProg α}
    {bits : List Bool} {v : α} (hr : ReadsPM K p e bits v) (hK : K ≤ W) (hpb : PeekBounded W 0 p)
    {s : BufR W} {r : RefR} (h : BufR.Rel e s r) {pre post : List Bool}
    (hst : r.stream = pre ++ bits ++ post) (hpos : r.pos = pre.length) :
    ∃ s', p.run (BufR.impl e) s = .ok (v, s') ∧ s'.bitPos = s.bitPos + bits.length ∧
      BufR.Rel e s' { r with pos := r.pos + bits.length } := by
  obtain ⟨hat, hafter⟩ := refr_at_of_pos (bits := bits) h.2.2.1 hst hpos
  have hpm : r.peekMax = W := h.2.2.2.2.1
  have hs : s.bitPos = pre.length := (bitPos_eq h).trans hpos
  rw [hat, hpm] at h
  obtain ⟨s', hrun, hrel, hbp⟩ := buf_step_pm hW64 h hr hK hpb
  exact ⟨s', hrun, by rw [hbp, hs], by rw [hafter, hpm]; exact hrel⟩

theorem reads_concrete {α : Type} {e : Endian} (hW64 : e = .be → W ≤ 64) {p : RProg α}
    {bits : List Bool} {v : α} (hr : Reads p e bits v) (hpb : PeekBounded W 0 p)
    {s : BufR W} {r : RefR} (h : BufR.Rel e s r) {pre post : List Bool}
    (hst : r.stream = pre ++ bits ++ post) (hpos : r.pos = pre.length) :
    ∃ s', p.run (BufR.impl e) s = .ok (v, s') ∧ s'.bitPos = s.bitPos + bits.length ∧
      BufR.Rel e s' { r with pos := r.pos + bits.length } :=
  readsPM_concrete hW64 (hr.toPM 0) (Nat.zero_le _) hpb h hst hpos

/-- the same on the unbuffered reader `BitR` (look-ahead at most 32 bits; a program that skips
    needs a zero-extended backend) -/
theorem readsPM_concrete_bitr {α : Type} {e : Endian} {K : Nat} {p : RProg α} {bits : List Bool}
    {v : α} (hr : ReadsPM K p e bits v) (hK : K ≤ 32) (hok : BitR.ProgOK 0 p) {s : BitR} {r : RefR}
    (hskip : BitR.NoSkip p ∨ r.strict = false) (h : BitR.Rel' e s r) {pre post : List Bool}
    (hst : r.stream = pre ++ bits ++ post) (hpos : r.pos = pre.length) :
    ∃ s', p.run (BitR.impl e) s = .ok (v, s') ∧ s'.bitPos = s.bitPos + bits.length ∧
      BitR.Rel' e s' { r with pos := r.pos + bits.length } := by
  obtain ⟨hat, hafter⟩ := refr_at_of_pos (bits := bits) h.1.1 hst hpos
  have hpm : r.peekMax = 32 := h.1.2.2.1
  have hs : s.bitPos = pre.length := (bitr_bitPos h.1).trans hpos
  rw [hat, hpm] at h
  obtain ⟨s', hrun, hrel, hbp⟩ := bitr_step_pm h hr hK hok hskip
  exact ⟨s', hrun, by rw [hbp, hs], by rw [hafter, hpm]; exact hrel⟩

theorem reads_concrete_bitr {α : Type} {e : Endian} {p : RProg α} {bits : List Bool}
    {v : α} (hr : Reads p e bits v) (hok : BitR.ProgOK 0 p) {s : BitR} {r : RefR}
    (hskip : BitR.NoSkip p ∨ r.strict = false) (h : BitR.Rel' e s r) {pre post : List Bool}
    (hst : r.stream = pre ++ bits ++ post) (hpos : r.pos = pre.length) :
    ∃ s', p.run (BitR.impl e) s = .ok (v, s') ∧ s'.bitPos = s.bitPos + bits.length ∧
      BitR.Rel' e s' { r with pos := r.pos + bits.length } :=
  readsPM_concrete_bitr (hr.toPM 0) (Nat.zero_le _) hok hskip h hst hpos

theorem rside_concrete {α : Type} {e : Endian} {K : Nat} {p : RProg α} {bits : List Bool} {v : α}
    (hs : RSide K p) (hr : ReadsPM K p e bits v) :
    (∀ {W : Nat} (_ : e = .be → W ≤ 64) (_ : K ≤ W) {s : BufR W} {r : RefR} (_ : BufR.Rel e s r)
        {pre post : List Bool} (_ : r.stream = pre ++ bits ++ post) (_ : r.pos = pre.length),
      ∃ s', p.run (BufR.impl e) s = .ok (v, s') ∧ s'.bitPos = s.bitPos + bits.length ∧
        BufR.Rel e s' { r with pos := r.pos + bits.length }) ∧
    (K ≤ 32 → ∀ {s : BitR} {r : RefR} (_ : BitR.Rel' e s r) {pre post : List Bool}
        (_ : r.stream = pre ++ bits ++ post) (_ : r.pos = pre.length),
      ∃ s', p.run (BitR.impl e) s = .ok (v, s') ∧ s'.bitPos = s.bitPos + bits.length ∧
        BitR.Rel' e s' { r with pos := r.pos + bits.length }) :=
  ⟨fun hW64 hK _ _ h _ _ hst hpos => readsPM_concrete hW64 hr hK (hs.pb _ hK) h hst hpos,
   fun hK _ _ h _ _ hst hpos => readsPM_concrete_bitr hr hK (hs.ok hK) (Or.inl hs.ns) h hst hpos⟩

section codeReadBuf
variable {e : Endian} (hW64 : e = .be → W ≤ 64) {s : BufR W} {r : RefR} (h : BufR.Rel e s r)
  {pre post : List Bool}
include hW64 h

theorem unary_read_concrete (x : Nat)
    (hst : r.stream = pre ++ Spec.unary x ++ post) (hpos : r.pos = pre.length) :
    ∃ s', (readUnaryC).run (BufR.impl e) s = .ok (x, s') ∧
      s'.bitPos = s.bitPos + (Spec.unary x).length ∧
      BufR.Rel e s' { r with pos := r.pos + (Spec.unary x).length } :=
  reads_concrete hW64 (unary_reads e x) ((simple_unary).peekBounded W _ 0) h hst hpos

theorem gamma_read_concrete (n : Nat) (hn : n < 2 ^ 64 - 1)
    (hst : r.stream = pre ++ Spec.gamma e n ++ post) (hpos : r.pos = pre.length) :
    ∃ s', (readGammaDefault).run (BufR.impl e) s = .ok (n, s') ∧
      s'.bitPos = s.bitPos + (Spec.gamma e n).length ∧
      BufR.Rel e s' { r with pos := r.pos + (Spec.gamma e n).length } :=
  reads_concrete hW64 (gamma_reads e n hn) ((simple_gamma).peekBounded W _ 0) h hst hpos

theorem delta_read_concrete (n : Nat) (hn : n < 2 ^ 64 - 1)
    (hst : r.stream = pre ++ Spec.delta e n ++ post) (hpos : r.pos = pre.length) :
    ∃ s', (readDeltaDefault none).run (BufR.impl e) s = .ok (n, s') ∧
      s'.bitPos = s.bitPos + (Spec.delta e n).length ∧
      BufR.Rel e s' { r with pos := r.pos + (Spec.delta e n).length } :=
  reads_concrete hW64 (delta_reads e n hn) ((simple_delta).peekBounded W _ 0) h hst hpos

theorem zeta_read_concrete (k n : Nat) (hk1 : 1 ≤ k) (hk : k ≤ 63) (hn : n < 2 ^ 64 - 1)
    (hst : r.stream = pre ++ Spec.zetaWrapped e k n ++ post) (hpos : r.pos = pre.length) :
    ∃ s', (readZetaDefault k).run (BufR.impl e) s = .ok (n, s') ∧
      s'.bitPos = s.bitPos + (Spec.zetaWrapped e k n).length ∧
      BufR.Rel e s' { r with pos := r.pos + (Spec.zetaWrapped e k n).length } :=
  reads_concrete hW64 (zeta_reads e k n hk1 hk hn) ((simple_zeta k).peekBounded W _ 0) h hst hpos

theorem pi_read_concrete (k n : Nat) (hk : k ≤ 63) (hn : n < 2 ^ 64 - 1)
    (hst : r.stream = pre ++ Spec.pi e k n ++ post) (hpos : r.pos = pre.length) :
    ∃ s', (readPi k).run (BufR.impl e) s = .ok (n, s') ∧
      s'.bitPos = s.bitPos + (Spec.pi e k n).length ∧
      BufR.Rel e s' { r with pos := r.pos + (Spec.pi e k n).length } :=
  reads_concrete hW64 (pi_reads e k n hk hn) ((simple_pi k).peekBounded W _ 0) h hst hpos

theorem rice_read_concrete (k n : Nat) (hk : k ≤ 63) (hn : n < 2 ^ 64)
    (hst : r.stream = pre ++ Spec.rice e k n ++ post) (hpos : r.pos = pre.length) :
    ∃ s', (readRice k).run (BufR.impl e) s = .ok (n, s') ∧
      s'.bitPos = s.bitPos + (Spec.rice e k n).length ∧
      BufR.Rel e s' { r with pos := r.pos + (Spec.rice e k n).length } :=
  reads_concrete hW64 (rice_reads e k n hk hn) ((simple_rice k).peekBounded W _ 0) h hst hpos

theorem golomb_read_concrete (b n : Nat) (hb : 1 ≤ b) (hb64 : b < 2 ^ 64) (hn : n < 2 ^ 64)
    (hst : r.stream = pre ++ Spec.golomb e b n ++ post) (hpos : r.pos = pre.length) :
    ∃ s', (readGolomb b).run (BufR.impl e) s = .ok (n, s') ∧
      s'.bitPos = s.bitPos + (Spec.golomb e b n).length ∧
      BufR.Rel e s' { r with pos := r.pos + (Spec.golomb e b n).length } :=
  reads_concrete hW64 (golomb_reads e b n hb hb64 hn) ((simple_golomb hb64).peekBounded W _ 0) h hst hpos

theorem expGolomb_read_concrete (k n : Nat) (hk : k ≤ 63) (hn : n < 2 ^ 64) (hk0 : k = 0 → n < 2 ^ 64 - 1)
    (hst : r.stream = pre ++ Spec.expGolomb e k n ++ post) (hpos : r.pos = pre.length) :
    ∃ s', (readExpGolomb none k).run (BufR.impl e) s = .ok (n, s') ∧
      s'.bitPos = s.bitPos + (Spec.expGolomb e k n).length ∧
      BufR.Rel e s' { r with pos := r.pos + (Spec.expGolomb e k n).length } :=
  reads_concrete hW64 (expGolomb_reads e k n hk hn hk0) ((simple_expGolomb k).peekBounded W _ 0) h hst hpos

theorem minbin_read_concrete (x u : Nat) (hu : 1 ≤ u) (h64 : u < 2 ^ 64) (hx : x < u)
    (hst : r.stream = pre ++ Spec.minimalBinary e x u ++ post) (hpos : r.pos = pre.length) :
    ∃ s', (readMinimalBinary u).run (BufR.impl e) s = .ok (x, s') ∧
      s'.bitPos = s.bitPos + (Spec.minimalBinary e x u).length ∧
      BufR.Rel e s' { r with pos := r.pos + (Spec.minimalBinary e x u).length } :=
  reads_concrete hW64 (minbin_reads e x u hu h64 hx) ((simple_minbin h64).peekBounded W _ 0) h hst hpos

theorem vbyte_be_read_concrete (fuel v : Nat) (hf : 10 ≤ fuel) (hv : v < 2 ^ 64)
    (hst : r.stream = pre ++ Spec.vbyte e true v ++ post) (hpos : r.pos = pre.length) :
    ∃ s', (readVByteBe fuel).run (BufR.impl e) s = .ok (v, s') ∧
      s'.bitPos = s.bitPos + (Spec.vbyte e true v).length ∧
      BufR.Rel e s' { r with pos := r.pos + (Spec.vbyte e true v).length } :=
  reads_concrete hW64 (vbyte_be_reads e fuel v hf hv) ((simple_vbyteBe fuel).peekBounded W _ 0) h hst hpos

theorem vbyte_le_read_concrete (fuel v : Nat) (hf : 10 ≤ fuel) (hv : v < 2 ^ 64)
    (hst : r.stream = pre ++ Spec.vbyte e false v ++ post) (hpos : r.pos = pre.length) :
    ∃ s', (readVByteLe fuel).run (BufR.impl e) s = .ok (v, s') ∧
      s'.bitPos = s.bitPos + (Spec.vbyte e false v).length ∧
      BufR.Rel e s' { r with pos := r.pos + (Spec.vbyte e false v).length } :=
  reads_concrete hW64 (vbyte_le_reads e fuel v hf hv) ((simple_vbyteLe fuel).peekBounded W _ 0) h hst hpos

/-- ω looks one bit ahead (`1 ≤ W` always holds) -/
theorem omega_read_concrete (n : Nat) (hn : n < 2 ^ 64 - 1)
    (hst : r.stream = pre ++ Spec.omega e n ++ post) (hpos : r.pos = pre.length) :
    ∃ s', (readOmega e).run (BufR.impl e) s = .ok (n, s') ∧
      s'.bitPos = s.bitPos + (Spec.omega e n).length ∧
      BufR.Rel e s' { r with pos := r.pos + (Spec.omega e n).length } :=
  reads_concrete hW64 (omega_reads e n hn) (pb_omega e (Rel.pos_W h)) h hst hpos

/-- ζ_k in the range where the implemented code is the published one -/
theorem zeta_read_concrete_published (k n : Nat) (hk1 : 1 ≤ k) (hk : k ≤ 63) (hn : n < 2 ^ 64 - 1)
    (hpub : ((n + 1).log2 / k + 1) * k ≤ 64)
    (hst : r.stream = pre ++ Spec.zeta e k n ++ post) (hpos : r.pos = pre.length) :
    ∃ s', (readZetaDefault k).run (BufR.impl e) s = .ok (n, s') ∧
      s'.bitPos = s.bitPos + (Spec.zeta e k n).length ∧
      BufR.Rel e s' { r with pos := r.pos + (Spec.zeta e k n).length } := by
  rw [← zeta_published e k n hpub] at hst ⊢
  exact zeta_read_concrete hW64 h k n hk1 hk hn hst hpos

/-- **C03 / C07 on the concrete buffered reader, every code of the `Codes` enum at once**: the
    default trait method of the code `c` (`ownRead`: the program every dispatcher ends up running,
    tables included), started at the first bit of the published codeword of `v`, returns `v` and
    consumes exactly the codeword.  `W ≥ 12` covers the look-ahead of the tables. -/
theorem code_read_concrete (hW : tablePeek ≤ W) (c : CodeId) (v : Nat) (hd : c.Dom v) {cw : List Bool}
    (hcw : c.codeword e v = some cw) (hst : r.stream = pre ++ cw ++ post)
    (hpos : r.pos = pre.length) :
    ∃ s', (ownRead e c).run (BufR.impl e) s = .ok (v, s') ∧ s'.bitPos = s.bitPos + cw.length ∧
      BufR.Rel e s' { r with pos := r.pos + cw.length } := by
  have hrd := ownRead_reads_of hd hcw
  exact readsPM_concrete hW64 hrd hW ((rside_ownRead e c hd).pb W hW) h hst hpos

/-- aliases (`CodeId.equiv`) decode each other's codewords on the concrete reader: same value,
    same abstract state -/
theorem equiv_read_concrete (hW : tablePeek ≤ W) {a b : CodeId} (hab : a.equiv b = true) (v : Nat)
    (hd : a.Dom v) {cw : List Bool} (hcw : a.codeword e v = some cw)
    (hst : r.stream = pre ++ cw ++ post) (hpos : r.pos = pre.length) :
    ∃ s1 s2, (ownRead e a).run (BufR.impl e) s = .ok (v, s1) ∧
      (ownRead e b).run (BufR.impl e) s = .ok (v, s2) ∧ SameR e (v, s1) (v, s2) := by
  obtain ⟨s1, h1, _, hr1⟩ := code_read_concrete hW64 h hW a v hd hcw hst hpos
  have hcwb : b.codeword e v = some cw := by rw [← equiv_codewords hab e v]; exact hcw
  obtain ⟨s2, h2, _, hr2⟩ :=
    code_read_concrete hW64 h hW b v ((equiv_dom hab v).1 hd) hcwb hst hpos
  exact ⟨s1, s2, h1, h2, rfl, _, hr1, hr2⟩

end codeReadBuf

section codeReadBitR
variable {e : Endian} {s : BitR} {r : RefR} (h : BitR.Rel' e s r) {pre post : List Bool}
include h

theorem simple_read_bitr {α : Type} {p : RProg α} {bits : List Bool} {v : α} (hp : Simple p)
    (hr : Reads p e bits v) (hst : r.stream = pre ++ bits ++ post) (hpos : r.pos = pre.length) :
    ∃ s', p.run (BitR.impl e) s = .ok (v, s') ∧ s'.bitPos = s.bitPos + bits.length ∧
      BitR.Rel' e s' { r with pos := r.pos + bits.length } :=
  reads_concrete_bitr hr (hp.progOK _ 0) (Or.inl (hp.noSkip _)) h hst hpos

theorem unary_read_bitr (x : Nat)
    (hst : r.stream = pre ++ Spec.unary x ++ post) (hpos : r.pos = pre.length) :
    ∃ s', (readUnaryC).run (BitR.impl e) s = .ok (x, s') ∧
      s'.bitPos = s.bitPos + (Spec.unary x).length ∧
      BitR.Rel' e s' { r with pos := r.pos + (Spec.unary x).length } :=
  simple_read_bitr h simple_unary (unary_reads e x) hst hpos

theorem gamma_read_bitr (n : Nat) (hn : n < 2 ^ 64 - 1)
    (hst : r.stream = pre ++ Spec.gamma e n ++ post) (hpos : r.pos = pre.length) :
    ∃ s', (readGammaDefault).run (BitR.impl e) s = .ok (n, s') ∧
      s'.bitPos = s.bitPos + (Spec.gamma e n).length ∧
      BitR.Rel' e s' { r with pos := r.pos + (Spec.gamma e n).length } :=
  simple_read_bitr h simple_gamma (gamma_reads e n hn) hst hpos

theorem delta_read_bitr (n : Nat) (hn : n < 2 ^ 64 - 1)
    (hst : r.stream = pre ++ Spec.delta e n ++ post) (hpos : r.pos = pre.length) :
    ∃ s', (readDeltaDefault none).run (BitR.impl e) s = .ok (n, s') ∧
      s'.bitPos = s.bitPos + (Spec.delta e n).length ∧
      BitR.Rel' e s' { r with pos := r.pos + (Spec.delta e n).length } :=
  simple_read_bitr h simple_delta (delta_reads e n hn) hst hpos

theorem zeta_read_bitr (k n : Nat) (hk1 : 1 ≤ k) (hk : k ≤ 63) (hn : n < 2 ^ 64 - 1)
    (hst : r.stream = pre ++ Spec.zetaWrapped e k n ++ post) (hpos : r.pos = pre.length) :
    ∃ s', (readZetaDefault k).run (BitR.impl e) s = .ok (n, s') ∧
      s'.bitPos = s.bitPos + (Spec.zetaWrapped e k n).length ∧
      BitR.Rel' e s' { r with pos := r.pos + (Spec.zetaWrapped e k n).length } :=
  simple_read_bitr h (simple_zeta k) (zeta_reads e k n hk1 hk hn) hst hpos

theorem pi_read_bitr (k n : Nat) (hk : k ≤ 63) (hn : n < 2 ^ 64 - 1)
    (hst : r.stream = pre ++ Spec.pi e k n ++ post) (hpos : r.pos = pre.length) :
    ∃ s', (readPi k).run (BitR.impl e) s = .ok (n, s') ∧
      s'.bitPos = s.bitPos + (Spec.pi e k n).length ∧
      BitR.Rel' e s' { r with pos := r.pos + (Spec.pi e k n).length } :=
  simple_read_bitr h (simple_pi k) (pi_reads e k n hk hn) hst hpos

theorem rice_read_bitr (k n : Nat) (hk : k ≤ 63) (hn : n < 2 ^ 64)
    (hst : r.stream = pre ++ Spec.rice e k n ++ post) (hpos : r.pos = pre.length) :
    ∃ s', (readRice k).run (BitR.impl e) s = .ok (n, s') ∧
      s'.bitPos = s.bitPos + (Spec.rice e k n).length ∧
      BitR.Rel' e s' { r with pos := r.pos + (Spec.rice e k n).length } :=
  simple_read_bitr h (simple_rice k) (rice_reads e k n hk hn) hst hpos

theorem golomb_read_bitr (b n : Nat) (hb : 1 ≤ b) (hb64 : b < 2 ^ 64) (hn : n < 2 ^ 64)
    (hst : r.stream = pre ++ Spec.golomb e b n ++ post) (hpos : r.pos = pre.length) :
    ∃ s', (readGolomb b).run (BitR.impl e) s = .ok (n, s') ∧
      s'.bitPos = s.bitPos + (Spec.golomb e b n).length ∧
      BitR.Rel' e s' { r with pos := r.pos + (Spec.golomb e b n).length } :=
  simple_read_bitr h (simple_golomb hb64) (golomb_reads e b n hb hb64 hn) hst hpos

theorem expGolomb_read_bitr (k n : Nat) (hk : k ≤ 63) (hn : n < 2 ^ 64) (hk0 : k = 0 → n < 2 ^ 64 - 1)
    (hst : r.stream = pre ++ Spec.expGolomb e k n ++ post) (hpos : r.pos = pre.length) :
    ∃ s', (readExpGolomb none k).run (BitR.impl e) s = .ok (n, s') ∧
      s'.bitPos = s.bitPos + (Spec.expGolomb e k n).length ∧
      BitR.Rel' e s' { r with pos := r.pos + (Spec.expGolomb e k n).length } :=
  simple_read_bitr h (simple_expGolomb k) (expGolomb_reads e k n hk hn hk0) hst hpos

theorem minbin_read_bitr (x u : Nat) (hu : 1 ≤ u) (h64 : u < 2 ^ 64) (hx : x < u)
    (hst : r.stream = pre ++ Spec.minimalBinary e x u ++ post) (hpos : r.pos = pre.length) :
    ∃ s', (readMinimalBinary u).run (BitR.impl e) s = .ok (x, s') ∧
      s'.bitPos = s.bitPos + (Spec.minimalBinary e x u).length ∧
      BitR.Rel' e s' { r with pos := r.pos + (Spec.minimalBinary e x u).length } :=
  simple_read_bitr h (simple_minbin h64) (minbin_reads e x u hu h64 hx) hst hpos

theorem vbyte_be_read_bitr (fuel v : Nat) (hf : 10 ≤ fuel) (hv : v < 2 ^ 64)
    (hst : r.stream = pre ++ Spec.vbyte e true v ++ post) (hpos : r.pos = pre.length) :
    ∃ s', (readVByteBe fuel).run (BitR.impl e) s = .ok (v, s') ∧
      s'.bitPos = s.bitPos + (Spec.vbyte e true v).length ∧
      BitR.Rel' e s' { r with pos := r.pos + (Spec.vbyte e true v).length } :=
  simple_read_bitr h (simple_vbyteBe fuel) (vbyte_be_reads e fuel v hf hv) hst hpos

theorem vbyte_le_read_bitr (fuel v : Nat) (hf : 10 ≤ fuel) (hv : v < 2 ^ 64)
    (hst : r.stream = pre ++ Spec.vbyte e false v ++ post) (hpos : r.pos = pre.length) :
    ∃ s', (readVByteLe fuel).run (BitR.impl e) s = .ok (v, s') ∧
      s'.bitPos = s.bitPos + (Spec.vbyte e false v).length ∧
      BitR.Rel' e s' { r with pos := r.pos + (Spec.vbyte e false v).length } :=
  simple_read_bitr h (simple_vbyteLe fuel) (vbyte_le_reads e fuel v hf hv) hst hpos

theorem omega_read_bitr (n : Nat) (hn : n < 2 ^ 64 - 1)
    (hst : r.stream = pre ++ Spec.omega e n ++ post) (hpos : r.pos = pre.length) :
    ∃ s', (readOmega e).run (BitR.impl e) s = .ok (n, s') ∧
      s'.bitPos = s.bitPos + (Spec.omega e n).length ∧
      BitR.Rel' e s' { r with pos := r.pos + (Spec.omega e n).length } :=
  reads_concrete_bitr (omega_reads e n hn) (ok_omega e) (Or.inl (ns_omega e)) h hst hpos

/-- **every code of the `Codes` enum on the unbuffered reader** (its 32-bit look-ahead covers the
    tables) -/
theorem code_read_bitr (c : CodeId) (v : Nat) (hd : c.Dom v) {cw : List Bool}
    (hcw : c.codeword e v = some cw) (hst : r.stream = pre ++ cw ++ post)
    (hpos : r.pos = pre.length) :
    ∃ s', (ownRead e c).run (BitR.impl e) s = .ok (v, s') ∧ s'.bitPos = s.bitPos + cw.length ∧
      BitR.Rel' e s' { r with pos := r.pos + cw.length } := by
  have hrd := ownRead_reads_of hd hcw
  have hs := rside_ownRead e c hd
  exact readsPM_concrete_bitr hrd tablePeek_le_32 (hs.ok tablePeek_le_32) (Or.inl hs.ns) h hst hpos

end codeReadBitR

/-- C10 at L3: the program selected by a dispatcher arm that means the wanted code (`semOk`, established for
    every arm by `dispatch_const_ok` / `dispatch_codes_ok` / `dispatch_func_ok`) appends the wanted
    code's codeword on the concrete writer -/
theorem dispatch_write_concrete {e : Endian} {t : BufW W} {w : RefW} (h : RelC e t w)
    (hcap : w.cap = none) (call : Call) (bound : Option Nat) (want : CodeId) (v : Nat)
    (p : WProg Nat) (hok : semOk .write call bound want = true)
    (hp : callWrite e t.checks call bound v = some p) (hd : want.Dom v) :
    ∃ cw t', want.codeword e v = some cw ∧ p.run (BufW.impl e) t = .ok (cw.length, t') ∧
      RelC e t' { w with bits := w.bits ++ cw } ∧ t.out <+: t'.out ∧ t'.abs e = t.abs e ++ cw := by
  obtain ⟨cw, hcw, hwr⟩ := dispatch_write_performs e t.checks call bound want v p hok hp hd
  obtain ⟨t', ht⟩ := writes_concrete' h hcap hwr
  exact ⟨cw, t', hcw, ht⟩

theorem dispatch_read_concrete {e : Endian} (hW64 : e = .be → W ≤ 64) (hW : tablePeek ≤ W)
    {s : BufR W} {r : RefR} (h : BufR.Rel e s r) (call : Call) (bound : Option Nat) (want : CodeId)
    (v : Nat) (p : RProg Nat) (hok : semOk .read call bound want = true)
    (hp : callRead e call bound = some p) (hd : want.Dom v) {cw pre post : List Bool}
    (hcw : want.codeword e v = some cw) (hst : r.stream = pre ++ cw ++ post)
    (hpos : r.pos = pre.length) :
    ∃ s', p.run (BufR.impl e) s = .ok (v, s') ∧ s'.bitPos = s.bitPos + cw.length ∧
      BufR.Rel e s' { r with pos := r.pos + cw.length } := by
  obtain ⟨cw', hcw', hrd⟩ := dispatch_read_performs e call bound want v p hok hp hd
  cases hcw.symm.trans hcw'
  exact readsPM_concrete hW64 hrd hW ((rside_callRead e call bound hp hok hd).pb W hW) h hst hpos

/-! ## round trips on the concrete machines (C03 at L3) for every code

`RoundTripsFramed e Ww Wr checks strict wc rc len v a na b nb` (`Props/EndToEnd`): a fresh concrete
writer of word size `Ww` accepts `[a : na bits] wc [b : nb bits]` and the flush; the buffered
reader of word size `Wr` built on the delivered bytes reads back `a`, then `rc` returns `v`, then
`b`, and ends at `na + len + nb`. -/

section roundTrip
variable (e : Endian) {Ww Wr : Nat} (hWw : 0 < Ww) (h8w : 8 ∣ Ww) (hWr : 0 < Wr) (h8r : 8 ∣ Wr)
  (hW64 : e = .be → Wr ≤ 64) (checks strict : Bool) (a na b nb : Nat) (hna : na ≤ 64) (hnb : nb ≤ 64)
  (ha : checks = false ∨ a % 2 ^ 64 < 2 ^ na) (hb : checks = false ∨ b % 2 ^ 64 < 2 ^ nb)
include hWw h8w hna hnb ha hb

section buffered
include hWr h8r hW64

/-- **every code of the `Codes` enum, default methods (tables included)**, reader word size
    covering the tables -/
theorem e2e_code (hW12 : tablePeek ≤ Wr) (c : CodeId) (v : Nat) (hd : c.Dom v) :
    ∃ cw, c.codeword e v = some cw ∧
      RoundTripsFramed e Ww Wr checks strict (ownWrite e checks c v) (ownRead e c) cw.length v
        a na b nb := by
  obtain ⟨cw, hcw, hwr⟩ := ownWrite_writes e checks c v hd
  have hrd := ownRead_reads_of hd hcw
  exact ⟨cw, hcw, e2e_framed_pm e hWw h8w hWr h8r hW64 checks strict hwr hrd hW12
    ((rside_ownRead e c hd).pb Wr hW12) a na b nb hna hnb ha hb⟩

/-- **through an alias**: what the writer of `c₁` delivers, the reader of any `c₂` with
    `c₁.equiv c₂` decodes (ζ₁ / γ / π₀ / exp-Golomb₀, Rice₀ / Golomb₁ / unary, Golomb_{2^j} / Rice_j) -/
theorem e2e_equiv (hW12 : tablePeek ≤ Wr) {c₁ c₂ : CodeId} (heq : c₁.equiv c₂ = true) (v : Nat)
    (hd : c₁.Dom v) :
    ∃ cw, c₁.codeword e v = some cw ∧ c₂.codeword e v = some cw ∧
      RoundTripsFramed e Ww Wr checks strict (ownWrite e checks c₁ v) (ownRead e c₂) cw.length v
        a na b nb := by
  obtain ⟨cw, hcw, hwr⟩ := ownWrite_writes e checks c₁ v hd
  have hd2 := (equiv_dom heq v).1 hd
  have hcw2 := (equiv_codewords heq e v).symm.trans hcw
  exact ⟨cw, hcw, hcw2, e2e_framed_pm e hWw h8w hWr h8r hW64 checks strict hwr
    (ownRead_reads_of hd2 hcw2) hW12 ((rside_ownRead e c₂ hd2).pb Wr hW12) a na b nb hna hnb ha hb⟩

-- the codes not covered in `Props/EndToEnd` (table-free programs: any reader word size)

theorem e2e_unary (x : Nat) (hx : x < 2 ^ 64 - 1) :
    RoundTripsFramed e Ww Wr checks strict (writeUnaryC x) (readUnaryC)
      (Spec.unary x).length x a na b nb :=
  e2e_framed e hWw h8w hWr h8r hW64 checks strict (unary_writes e checks x hx) (unary_reads e x)
    ((simple_unary).peekBounded Wr _ 0) a na b nb hna hnb ha hb

theorem e2e_pi (k n : Nat) (hk : k ≤ 63) (hn : n < 2 ^ 64 - 1) :
    RoundTripsFramed e Ww Wr checks strict (writePi checks n k) (readPi k)
      (Spec.pi e k n).length n a na b nb :=
  e2e_framed e hWw h8w hWr h8r hW64 checks strict (pi_writes e checks k n hk hn) (pi_reads e k n hk hn)
    ((simple_pi k).peekBounded Wr _ 0) a na b nb hna hnb ha hb

theorem e2e_rice (k n : Nat) (hk : k ≤ 63) (hn : n < 2 ^ 64) (hq : n / 2 ^ k < 2 ^ 64 - 1) :
    RoundTripsFramed e Ww Wr checks strict (writeRice checks n k) (readRice k)
      (Spec.rice e k n).length n a na b nb :=
  e2e_framed e hWw h8w hWr h8r hW64 checks strict (rice_writes e checks k n hk hq) (rice_reads e k n hk hn)
    ((simple_rice k).peekBounded Wr _ 0) a na b nb hna hnb ha hb

theorem e2e_golomb (g n : Nat) (hg : 1 ≤ g) (hg64 : g < 2 ^ 64) (hn : n < 2 ^ 64) (hq : n / g < 2 ^ 64 - 1) :
    RoundTripsFramed e Ww Wr checks strict (writeGolomb n g) (readGolomb g)
      (Spec.golomb e g n).length n a na b nb :=
  e2e_framed e hWw h8w hWr h8r hW64 checks strict (golomb_writes e checks g n hg hg64 hq) (golomb_reads e g n hg hg64 hn)
    ((simple_golomb hg64).peekBounded Wr _ 0) a na b nb hna hnb ha hb

theorem e2e_expGolomb (k n : Nat) (hk : k ≤ 63) (hn : n < 2 ^ 64) (hk0 : k = 0 → n < 2 ^ 64 - 1) :
    RoundTripsFramed e Ww Wr checks strict (writeExpGolomb checks none n k) (readExpGolomb none k)
      (Spec.expGolomb e k n).length n a na b nb :=
  e2e_framed e hWw h8w hWr h8r hW64 checks strict (expGolomb_writes e checks k n hk hn hk0) (expGolomb_reads e k n hk hn hk0)
    ((simple_expGolomb k).peekBounded Wr _ 0) a na b nb hna hnb ha hb

theorem e2e_minbin (x u : Nat) (hu : 1 ≤ u) (h64 : u < 2 ^ 64) (hx : x < u) :
    RoundTripsFramed e Ww Wr checks strict (writeMinimalBinary x u) (readMinimalBinary u)
      (Spec.minimalBinary e x u).length x a na b nb :=
  e2e_framed e hWw h8w hWr h8r hW64 checks strict (minbin_writes e checks x u hu h64 hx) (minbin_reads e x u hu h64 hx)
    ((simple_minbin h64).peekBounded Wr _ 0) a na b nb hna hnb ha hb

theorem e2e_vbyte_be (fuel v : Nat) (hf : 10 ≤ fuel) (hv : v < 2 ^ 64) :
    RoundTripsFramed e Ww Wr checks strict (writeVByteBe v) (readVByteBe fuel)
      (Spec.vbyte e true v).length v a na b nb :=
  e2e_framed e hWw h8w hWr h8r hW64 checks strict (vbyte_be_writes e checks v hv) (vbyte_be_reads e fuel v hf hv)
    ((simple_vbyteBe fuel).peekBounded Wr _ 0) a na b nb hna hnb ha hb

theorem e2e_vbyte_le (fuel v : Nat) (hf : 10 ≤ fuel) (hv : v < 2 ^ 64) :
    RoundTripsFramed e Ww Wr checks strict (writeVByteLe v) (readVByteLe fuel)
      (Spec.vbyte e false v).length v a na b nb :=
  e2e_framed e hWw h8w hWr h8r hW64 checks strict (vbyte_le_writes e checks v hv) (vbyte_le_reads e fuel v hf hv)
    ((simple_vbyteLe fuel).peekBounded Wr _ 0) a na b nb hna hnb ha hb

end buffered

/-- every code of the `Codes` enum with the unbuffered reader -/
theorem e2e_code_bitr (c : CodeId) (v : Nat) (hd : c.Dom v) :
    ∃ cw, c.codeword e v = some cw ∧
      RoundTripsFramedBitR e Ww checks strict (ownWrite e checks c v) (ownRead e c) cw.length v
        a na b nb := by
  obtain ⟨cw, hcw, hwr⟩ := ownWrite_writes e checks c v hd
  have hrd := ownRead_reads_of hd hcw
  have hs := rside_ownRead e c hd
  exact ⟨cw, hcw, e2e_framed_bitr_pm e hWw h8w checks strict hwr hrd tablePeek_le_32
    (hs.ok tablePeek_le_32) (Or.inl hs.ns) a na b nb hna hnb ha hb⟩

theorem simple_e2e_bitr {wc : WProg Nat} {rc : RProg Nat} {bits : List Bool} {v : Nat} (hp : Simple rc)
    (hw : Writes wc e checks bits) (hr : Reads rc e bits v) :
    RoundTripsFramedBitR e Ww checks strict wc rc bits.length v a na b nb :=
  e2e_framed_bitr e hWw h8w checks strict hw hr (hp.progOK _ 0) (Or.inl (hp.noSkip _)) a na b nb
    hna hnb ha hb

theorem e2e_unary_bitr (x : Nat) (hx : x < 2 ^ 64 - 1) :
    RoundTripsFramedBitR e Ww checks strict (writeUnaryC x) (readUnaryC)
      (Spec.unary x).length x a na b nb :=
  simple_e2e_bitr e hWw h8w checks strict a na b nb hna hnb ha hb simple_unary
    (unary_writes e checks x hx) (unary_reads e x)

theorem e2e_pi_bitr (k n : Nat) (hk : k ≤ 63) (hn : n < 2 ^ 64 - 1) :
    RoundTripsFramedBitR e Ww checks strict (writePi checks n k) (readPi k)
      (Spec.pi e k n).length n a na b nb :=
  simple_e2e_bitr e hWw h8w checks strict a na b nb hna hnb ha hb (simple_pi k)
    (pi_writes e checks k n hk hn) (pi_reads e k n hk hn)

theorem e2e_rice_bitr (k n : Nat) (hk : k ≤ 63) (hn : n < 2 ^ 64) (hq : n / 2 ^ k < 2 ^ 64 - 1) :
    RoundTripsFramedBitR e Ww checks strict (writeRice checks n k) (readRice k)
      (Spec.rice e k n).length n a na b nb :=
  simple_e2e_bitr e hWw h8w checks strict a na b nb hna hnb ha hb (simple_rice k)
    (rice_writes e checks k n hk hq) (rice_reads e k n hk hn)

theorem e2e_golomb_bitr (g n : Nat) (hg : 1 ≤ g) (hg64 : g < 2 ^ 64) (hn : n < 2 ^ 64) (hq : n / g < 2 ^ 64 - 1) :
    RoundTripsFramedBitR e Ww checks strict (writeGolomb n g) (readGolomb g)
      (Spec.golomb e g n).length n a na b nb :=
  simple_e2e_bitr e hWw h8w checks strict a na b nb hna hnb ha hb (simple_golomb hg64)
    (golomb_writes e checks g n hg hg64 hq) (golomb_reads e g n hg hg64 hn)

theorem e2e_expGolomb_bitr (k n : Nat) (hk : k ≤ 63) (hn : n < 2 ^ 64) (hk0 : k = 0 → n < 2 ^ 64 - 1) :
    RoundTripsFramedBitR e Ww checks strict (writeExpGolomb checks none n k) (readExpGolomb none k)
      (Spec.expGolomb e k n).length n a na b nb :=
  simple_e2e_bitr e hWw h8w checks strict a na b nb hna hnb ha hb (simple_expGolomb k)
    (expGolomb_writes e checks k n hk hn hk0) (expGolomb_reads e k n hk hn hk0)

theorem e2e_minbin_bitr (x u : Nat) (hu : 1 ≤ u) (h64 : u < 2 ^ 64) (hx : x < u) :
    RoundTripsFramedBitR e Ww checks strict (writeMinimalBinary x u) (readMinimalBinary u)
      (Spec.minimalBinary e x u).length x a na b nb :=
  simple_e2e_bitr e hWw h8w checks strict a na b nb hna hnb ha hb (simple_minbin h64)
    (minbin_writes e checks x u hu h64 hx) (minbin_reads e x u hu h64 hx)

theorem e2e_vbyte_be_bitr (fuel v : Nat) (hf : 10 ≤ fuel) (hv : v < 2 ^ 64) :
    RoundTripsFramedBitR e Ww checks strict (writeVByteBe v) (readVByteBe fuel)
      (Spec.vbyte e true v).length v a na b nb :=
  simple_e2e_bitr e hWw h8w checks strict a na b nb hna hnb ha hb (simple_vbyteBe fuel)
    (vbyte_be_writes e checks v hv) (vbyte_be_reads e fuel v hf hv)

theorem e2e_vbyte_le_bitr (fuel v : Nat) (hf : 10 ≤ fuel) (hv : v < 2 ^ 64) :
    RoundTripsFramedBitR e Ww checks strict (writeVByteLe v) (readVByteLe fuel)
      (Spec.vbyte e false v).length v a na b nb :=
  simple_e2e_bitr e hWw h8w checks strict a na b nb hna hnb ha hb (simple_vbyteLe fuel)
    (vbyte_le_writes e checks v hv) (vbyte_le_reads e fuel v hf hv)

end roundTrip

/-- `exG` of `Props/Writer` (a growable 8-bit writer holding thirteen bits: one delivered word, five
    pending bits, garbage in the unused part of the buffer) represents the reference writer `exGr` -/
theorem exG_rel : RelC .be exG exGr :=
  RelC_of_growable ⟨⟨by decide, by decide⟩, rfl, rfl, rfl, rfl, by decide⟩ rfl

-- δ(1000) on that writer: 14 more bits after the 13 already there
example : ∃ t', (writeDeltaDefault false none 1000).run (BufW.impl .be) exG
      = .ok ((Spec.delta .be 1000).length, t') ∧
    RelC .be t' { exGr with bits := exGr.bits ++ Spec.delta .be 1000 } ∧ exG.out <+: t'.out ∧
    t'.abs .be = exG.abs .be ++ Spec.delta .be 1000 :=
  delta_write_concrete exG_rel rfl 1000 (by decide)

example : ResRel (SameW .be) ((ownWrite .be false ⟨.golomb, 8⟩ 100).run (BufW.impl .be) exG)
    ((ownWrite .be false ⟨.rice, 3⟩ 100).run (BufW.impl .be) exG) :=
  equiv_write_concrete exG_rel rfl (by decide) 100 (by decide)

example : ∃ cw t', (⟨.zeta, 3⟩ : CodeId).codeword .be 77 = some cw ∧
    (ownWrite .be false ⟨.zeta, 3⟩ 77).run (BufW.impl .be) exG = .ok (cw.length, t') ∧
    RelC .be t' { exGr with bits := exGr.bits ++ cw } ∧ exG.out <+: t'.out ∧
    t'.abs .be = exG.abs .be ++ cw :=
  code_write_concrete exG_rel rfl ⟨.zeta, 3⟩ 77 (by decide)

-- the tables on the (fixed-capacity, `checks`) writer of `Props/Writer`
example : ResRel (SameW .be) ((writeGammaD .be exS.checks 5).run (BufW.impl .be) exS)
    ((writeGammaDefault exS.checks 5).run (BufW.impl .be) exS) :=
  (table_write_concrete exS_be 5).2.2.2.1

def trExS (_e : Endian) : BufR 16 := BufR.new ⟨[0xA53C#16, 0xF00F#16], 0, true⟩
def trExR (e : Endian) : RefR :=
  { e := e, stream := [0xA53C#16, 0xF00F#16].flatMap (wordBits e), pos := 0, strict := true,
    peekMax := 16 }
theorem trEx_rel (e : Endian) : BufR.Rel e (trExS e) (trExR e) := new_rel e (by decide) _ _

example (e : Endian) : ResRel (SameR e) ((readZeta3 (some (zetaRTab e))).run (BufR.impl e) (trExS e))
    ((readZetaDefault 3).run (BufR.impl e) (trExS e)) :=
  table_read_concrete_zeta3 (fun _ => by decide) (trEx_rel e) (by decide)

example (e : Endian) : ResRel (SameR e) ((readDeltaD e).run (BufR.impl e) (trExS e))
    ((readDeltaDefault none).run (BufR.impl e) (trExS e)) :=
  (table_read_concrete (fun _ => by decide) (trEx_rel e) (by decide)).2.2.2.2.1

-- the stream `1010 0101 0011 1100 …` (BE) starts with ζ₃(1) = `1010`: the dispatcher's ζ₃ reader
-- (`read_zeta3`, table on) returns 1 and stands at bit 4
example : ∃ s', (ownRead .be ⟨.zeta, 3⟩).run (BufR.impl .be) (trExS .be) = .ok (1, s') ∧
    s'.bitPos = (trExS .be).bitPos + 4 ∧ BufR.Rel .be s' { trExR .be with pos := 0 + 4 } :=
  code_read_concrete (W := 16) (e := .be) (pre := []) (cw := Spec.zeta .be 3 1)
    (post := ((trExR .be).stream.drop 4)) (fun _ => by decide) (trEx_rel .be) (by decide)
    ⟨.zeta, 3⟩ 1 (by decide) (by decide) (by decide) rfl

-- the 8-bit reader of `Props/Reader` (three bits consumed, five buffered): γ(4) = `00101` at bit 3
example : ∃ s', readGammaDefault.run (BufR.impl .be) (readerExS .be) = .ok (4, s') ∧
    s'.bitPos = (readerExS .be).bitPos + 5 :=
  let ⟨s', h1, h2, _⟩ := gamma_read_concrete (e := .be) (pre := [true, false, true])
    (post := (readerExR .be).stream.drop 8) (fun _ => by decide) (readerEx_rel .be) 4 (by decide)
    (by decide) rfl
  ⟨s', h1, h2⟩

-- the unbuffered reader of `Props/BitReader` at bit 61 of its first word
-- (LE): γ(93), thirteen bits across the word boundary
example : ∃ s', readGammaDefault.run (BitR.impl .le) bitrExS = .ok (93, s') ∧
    s'.bitPos = bitrExS.bitPos + 13 := by
  have hst : (bitrExR .le).stream = (bitrExR .le).stream.take 61 ++ Spec.gamma .le 93
      ++ (bitrExR .le).stream.drop 74 := by decide
  obtain ⟨s', h1, h2, _⟩ := gamma_read_bitr (bitrEx_rel' .le) 93 (by decide) hst (by decide)
  exact ⟨s', h1, h2⟩

-- ζ₁ written by a 16-bit LE writer between two raw fields, read back as γ by a 32-bit reader
example : ∃ cw, (⟨.zeta, 1⟩ : CodeId).codeword .le 1000 = some cw ∧
    (⟨.gamma, 0⟩ : CodeId).codeword .le 1000 = some cw ∧
    RoundTripsFramed .le 16 32 true true (ownWrite .le true ⟨.zeta, 1⟩ 1000) (ownRead .le ⟨.gamma, 0⟩)
      cw.length 1000 5 3 77 7 :=
  e2e_equiv .le (by decide) (by decide) (by decide) (by decide) (fun h => by cases h) true true
    5 3 77 7 (by decide) (by decide) (Or.inr (by decide)) (Or.inr (by decide)) (by decide)
    (by decide) 1000 (by decide)

example : RoundTripsFramed .be 8 8 false false (writeVByteBe 300000) (readVByteBe 12)
    (Spec.vbyte .be true 300000).length 300000 1 1 0 0 :=
  e2e_vbyte_be .be (by decide) (by decide) (by decide) (by decide) (fun _ => by decide) false false
    1 1 0 0 (by decide) (by decide) (Or.inl rfl) (Or.inl rfl) 12 300000 (by decide) (by decide)

example : RoundTripsFramedBitR .le 32 true true (writeGolomb 100 7) (readGolomb 7)
    (Spec.golomb .le 7 100).length 100 2 2 3 2 :=
  e2e_golomb_bitr .le (by decide) (by decide) true true 2 2 3 2 (by decide) (by decide)
    (Or.inr (by decide)) (Or.inr (by decide)) 7 100 (by decide) (by decide) (by decide) (by decide)

-- the `ConstCode<ZETA1>` arm (`write_gamma`) on the growable writer: ζ₁(9) appended
example : ∃ cw t', (⟨.zeta, 1⟩ : CodeId).codeword .be 9 = some cw ∧
    (writeGammaD .be false 9).run (BufW.impl .be) exG = .ok (cw.length, t') ∧
    RelC .be t' { exGr with bits := exGr.bits ++ cw } ∧ exG.out <+: t'.out ∧
    t'.abs .be = exG.abs .be ++ cw :=
  dispatch_write_concrete exG_rel rfl (.write "write_gamma" []) none ⟨.zeta, 1⟩ 9 _ (by decide) rfl
    (by decide)

end Dsi
