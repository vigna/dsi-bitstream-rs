/-
  The generated `check_tables` and the arguments its callers pass (lean/Dsi/Gen/CheckTablesBodies.lean,
  produced by tools/translate_checktables.py from src/traits/bits.rs, src/impls/buf_bit_reader.rs and
  src/impls/bit_reader.rs on every run) against the hand-written lean/Dsi/Glue/CheckTables.lean.
-/
import Dsi.Glue.CheckTables
import Dsi.Gen.CheckTablesBodies
import Dsi.Session
import Dsi.Props.C05
namespace Dsi
namespace CheckTablesGen
open Gen Gen.CheckTables

theorem check_tables_eq (peekBits : Nat) : check_tables peekBits = checkTables peekBits := rfl

/-- the constants compared: the index widths of the three read tables, γ, δ, ζ₃ in this order -/
theorem compared_eq : checkTablesCompared =
    [("gamma", "READ_BITS", Gamma.READ_BITS), ("delta", "READ_BITS", Delta.READ_BITS),
     ("zeta3", "READ_BITS", Zeta.READ_BITS)] := rfl

/-- the uses of `check_tables` in src/: the two reader constructors and nothing else -/
theorem callers_eq : checkTablesCallers =
    [("src/impls/bit_reader.rs", "BitReader::new"), ("src/impls/buf_bit_reader.rs", "BufBitReader::new")] := rfl

/-- `BufBitReader::new` announces the capacity the model guarantees (one refill of `W` bits) -/
theorem buf_peek_bits_eq (W : Nat) : BufBitReader.new_peek_bits W = bufReaderCapacity W := rfl

/-- `BitReader::new` announces the capacity the model guarantees (the `assert!(n_bits <= 32)`) -/
theorem bit_peek_bits_eq : BitReader.new_peek_bits = bitReaderCapacity := rfl

theorem buf_diag_eq (W : Nat) : BufBitReader.new_diag W = bufReaderDiag W := rfl
theorem bit_diag_eq : BitReader.new_diag = bitReaderDiag := rfl

/-- hence: a constructor prints the diagnostic of a table iff the capacity of the reader is below
    the index width of that table -/
theorem buf_diag_mem (W : Nat) :
    ("gamma" ∈ BufBitReader.new_diag W ↔ bufReaderCapacity W < Gamma.READ_BITS) ∧
    ("delta" ∈ BufBitReader.new_diag W ↔ bufReaderCapacity W < Delta.READ_BITS) ∧
    ("zeta3" ∈ BufBitReader.new_diag W ↔ bufReaderCapacity W < Zeta.READ_BITS) :=
  checkTables_mem W

theorem bit_diag_mem :
    ("gamma" ∈ BitReader.new_diag ↔ bitReaderCapacity < Gamma.READ_BITS) ∧
    ("delta" ∈ BitReader.new_diag ↔ bitReaderCapacity < Delta.READ_BITS) ∧
    ("zeta3" ∈ BitReader.new_diag ↔ bitReaderCapacity < Zeta.READ_BITS) :=
  checkTables_mem 32

/-- the announced value is the look-ahead of the reference reader a session works with -/
theorem session_peekMax (e : Endian) (ww rw : Nat) (bitReader strict checks : Bool) (cap : Option Nat)
    (bytes : List Nat) :
    ((machL1 e ww rw bitReader strict checks cap).mkReader bytes).peekMax
      = if bitReader then BitReader.new_peek_bits else BufBitReader.new_peek_bits rw := by
  cases bitReader <;> rfl

/-- beyond the announced value the unbuffered reader's `peek_bits` hits `assert!(n_bits <= 32)` -/
theorem bitR_peek_beyond (e : Endian) (s : BitR) (n : Nat) (h : BitReader.new_peek_bits < n) :
    BitR.peekBits e s n = .panic := by
  have h' : 32 < n := h
  unfold BitR.peekBits
  have h0 : ¬ n = 0 := by omega
  simp only [h0, if_false, show n > 32 from h', if_true]

end CheckTablesGen
end Dsi
