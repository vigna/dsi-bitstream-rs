/-
  `u64` arithmetic of the translated bodies (`BitVec 64`: wrapping subtraction, unsigned division
  and remainder, `as u64` of a `usize`) against the `Nat` arithmetic of the hand models.
-/
namespace Dsi

theorem u64_ofNat {x : Nat} (h : x < 2 ^ 64) : (BitVec.ofNat 64 x).toNat = x := by
  rw [BitVec.toNat_ofNat, Nat.mod_eq_of_lt h]

theorem wrap_sub {p x v : Nat} (hx : x ≤ v) (hv : v < p) : (p - x + v) % p = v - x := by
  rw [Nat.add_comm, ← Nat.add_sub_assoc (Nat.le_of_lt (Nat.lt_of_le_of_lt hx hv)), Nat.add_comm,
    Nat.add_sub_assoc hx, Nat.add_mod_left,
    Nat.mod_eq_of_lt (Nat.lt_of_le_of_lt (Nat.sub_le _ _) hv)]

theorem u64_sub {v : BitVec 64} {x : Nat} (hx : x ≤ v.toNat) :
    (v - BitVec.ofNat 64 x).toNat = v.toNat - x := by
  rw [BitVec.toNat_sub, u64_ofNat (Nat.lt_of_le_of_lt hx v.isLt), wrap_sub hx v.isLt]

theorem u64_div {v : BitVec 64} {x y : Nat} (hx : x ≤ v.toNat) (hy : y < 2 ^ 64) :
    ((v - BitVec.ofNat 64 x) / BitVec.ofNat 64 y).toNat = (v.toNat - x) / y := by
  rw [BitVec.toNat_udiv, u64_sub hx, u64_ofNat hy]

theorem u64_mod {v : BitVec 64} {x y : Nat} (hx : x ≤ v.toNat) (hy : y < 2 ^ 64) :
    ((v - BitVec.ofNat 64 x) % BitVec.ofNat 64 y).toNat = (v.toNat - x) % y := by
  rw [BitVec.toNat_umod, u64_sub hx, u64_ofNat hy]

end Dsi
