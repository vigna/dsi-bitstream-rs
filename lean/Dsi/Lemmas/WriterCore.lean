/-
  `write_bits` and `write_unary` of the concrete writer have a closed form (`Delivers`; for `flush`
  see `WriterSim`): the operation delivers some words and leaves a buffer which together hold
  exactly the old pending bits followed by the expected ones.

  The proofs have two halves.  Which words are delivered: every loop is an `emitAll`, so after
  casing on the outcome of each delivery both sides reduce to the same term (the capacity of the
  backend enters only in the simulation step, `Delivers.sim` of `Props/Writer`).  What the words
  and the new buffer hold: the facts of `WriterWord`.
-/
import Dsi.Lemmas.WriterOps
namespace Dsi
namespace BufW
variable {W : Nat}

/-- `res` is the outcome of appending `bs` to `s` and returning `ret`, before anything is known
    about the capacity: it delivers some words `ws` and leaves a buffer `b` with `sp` free bits,
    and the bits of `ws` followed by the pending bits of `b` are the old pending bits followed by
    `bs` -/
def Delivers (e : Endian) (s : BufW W) (bs : List Bool) (ret : Nat) (res : Res (Nat × BufW W)) :
    Prop :=
  ∃ (ws : List (BitVec W)) (b : BitVec W) (sp : Nat),
    res = (emitAll s ws).map (fun s' => (ret, { s' with buffer := b, space := sp })) ∧
    1 ≤ sp ∧ sp ≤ W ∧
    validAt e s.buffer s.space ++ bs = ws.flatMap (wordBits e) ++ validAt e b sp

theorem Delivers.inv {e : Endian} {s s' : BufW W} {bs : List Bool} {ret x : Nat}
    {res : Res (Nat × BufW W)} (h : Delivers e s bs ret res) (hr : res = .ok (x, s')) :
    s'.Inv ∧ s.out <+: s'.out := by
  obtain ⟨ws, b, sp, rfl, h1, h2, _⟩ := h
  cases he : emitAll s ws <;> rw [he] at hr <;> cases hr
  rw [emitAll_ok he]
  exact ⟨⟨h1, h2⟩, List.prefix_append _ _⟩

theorem Delivers.fast {e : Endian} {s : BufW W} {bs : List Bool} {ret sp : Nat} {b : BitVec W}
    (h1 : 1 ≤ sp) (h2 : sp ≤ W) (hb : validAt e b sp = validAt e s.buffer s.space ++ bs) :
    Delivers e s bs ret (.ok (ret, { s with buffer := b, space := sp })) :=
  ⟨[], b, sp, rfl, h1, h2, hb.symm⟩

theorem writeBitsBE_delivers (s : BufW W) (v : BitVec 64) (n : Nat) (hi : s.Inv)
    (hn : n ≤ 64) (hd : s.dirty v n = false) :
    Delivers .be s (fieldBits .be v.toNat n) n (writeBitsBE s v n) := by
  obtain ⟨hi1, hi2⟩ := hi
  unfold writeBitsBE
  rw [if_neg (Nat.not_lt.2 hn), hd, if_neg Bool.false_ne_true]
  by_cases hfast : n < s.space
  · rw [if_pos hfast]
    exact Delivers.fast (Nat.sub_pos_of_lt hfast) (Nat.le_trans (Nat.sub_le _ _) hi2)
      (validAt_shiftIn_or .be s.buffer _ (Nat.le_of_lt hfast) hi2
        (lowmask_be v (Nat.le_trans (Nat.le_of_lt hfast) hi2)))
  · rw [if_neg hfast]
    have hle : s.space ≤ n := Nat.le_of_not_lt hfast
    have hlt : n - s.space - (n - s.space) / W * W < W := by
      rw [← Nat.mod_eq_sub_div_mul]; exact Nat.mod_lt _ (Nat.lt_of_lt_of_le hi1 hi2)
    -- witnesses: completed word :: words of the spill loop; buffer after the last chunk;
    -- space = `W` - what is left of `n - s.space` after the whole words
    refine ⟨(((s.buffer <<< (s.space - 1)) <<< 1) ||| ((v <<< (64 - n)) >>> (64 - s.space)).setWidth W)
        :: wordsBE v ((n - s.space) / W) (n - s.space), v.setWidth W,
      W - (n - s.space - (n - s.space) / W * W), ?_, Nat.sub_pos_of_lt hlt, Nat.sub_le _ _, ?_⟩
    · -- the program: deliver the completed word, then the spill loop
      rw [emitAll]
      dsimp only
      cases s.emit _ with
      | ok s1 =>
        dsimp only [Res.bind]
        rw [spillBE_eq]
        cases emitAll s1 _ <;> rfl
      | _ => rfl
    · -- the bits: the field is cut into the part completing the word, whole words, and the tail
      rw [List.flatMap_cons, ← BitVec.shiftLeft_add, Nat.sub_add_cancel hi1,
        show wordBits .be (s.buffer <<< s.space ||| _) = _ from
          wordBits_shiftIn_or .be s.buffer _ hi2 (top_be v hle hi2 hn), last_be v hlt,
        fieldBE_cut v.toNat (n := n) (b := n - s.space) (Nat.sub_le _ _),
        Nat.sub_sub_self hle, List.append_assoc, List.append_assoc,
        wordsBE_bits v _ _ (Nat.div_mul_le_self _ _)]

theorem writeBitsLE_delivers (s : BufW W) (v : BitVec 64) (n : Nat) (hi : s.Inv)
    (hn : n ≤ 64) (hd : s.dirty v n = false) :
    Delivers .le s (fieldBits .le v.toNat n) n (writeBitsLE s v n) := by
  obtain ⟨hi1, hi2⟩ := hi
  unfold writeBitsLE
  rw [if_neg (Nat.not_lt.2 hn), hd, if_neg Bool.false_ne_true]
  by_cases hfast : n < s.space
  · rw [if_pos hfast]
    exact Delivers.fast (Nat.sub_pos_of_lt hfast) (Nat.le_trans (Nat.sub_le _ _) hi2)
      (validAt_shiftIn_or .le s.buffer _ (Nat.le_of_lt hfast) hi2
        (lowmask_le v (Nat.lt_of_lt_of_le hfast hi2)))
  · rw [if_neg hfast]
    have hle : s.space ≤ n := Nat.le_of_not_lt hfast
    have hW : 0 < W := Nat.lt_of_lt_of_le hi1 hi2
    refine ⟨(((s.buffer >>> (s.space - 1)) >>> 1) ||| (v.setWidth W <<< (W - s.space)))
        :: wordsLE ((n - s.space) / W) ((v >>> (s.space - 1)) >>> 1),
      ((restLE W ((n - s.space) / W) ((v >>> (s.space - 1)) >>> 1)).setWidth W).rotateRight
        (n - s.space),
      W - (n - s.space) % W, ?_, Nat.sub_pos_of_lt (Nat.mod_lt _ hW), Nat.sub_le _ _, ?_⟩
    · rw [emitAll]
      dsimp only
      cases s.emit _ with
      | ok s1 =>
        dsimp only [Res.bind]
        rw [spillLE_eq]
        cases emitAll s1 _ <;> rfl
      | _ => rfl
    · rw [List.flatMap_cons, ← BitVec.shiftRight_add, ← BitVec.shiftRight_add,
        Nat.sub_add_cancel hi1, show wordBits .le (s.buffer >>> s.space ||| _) = _ from
          wordBits_shiftIn_or .le s.buffer _ hi2 (top_le v hi2), last_le _ _ hW,
        List.append_assoc, wordsLE_bits,
        BitVec.toNat_ushiftRight, Nat.shiftRight_eq_div_pow, Nat.mul_comm, Nat.div_add_mod,
        List.append_assoc]
      exact congrArg _ (fieldLE_cut v.toNat hle)

theorem writeBits_delivers (e : Endian) (s : BufW W) (v : BitVec 64) (n : Nat) (hi : s.Inv)
    (hn : n ≤ 64) (hd : s.dirty v n = false) :
    Delivers e s (fieldBits e v.toNat n) n (writeBits e s v n) := by
  cases e
  · exact writeBitsBE_delivers s v n hi hn hd
  · exact writeBitsLE_delivers s v n hi hn hd

theorem writeBits_wide (e : Endian) (s : BufW W) (v : BitVec 64) {n : Nat} (hn : n > 64) :
    writeBits e s v n = .dpanic := by
  cases e
  · rw [writeBits, writeBitsBE, if_pos hn]
  · rw [writeBits, writeBitsLE, if_pos hn]

theorem writeBits_dirty (e : Endian) (s : BufW W) (v : BitVec 64) {n : Nat} (hn : ¬ n > 64)
    (hd : s.dirty v n = true) : writeBits e s v n = .panic := by
  cases e
  · rw [writeBits, writeBitsBE, if_neg hn, if_pos hd]
  · rw [writeBits, writeBitsLE, if_neg hn, if_pos hd]

theorem writeBits_ok (e : Endian) {s s' : BufW W} {v : BitVec 64} {n x : Nat} (hi : s.Inv)
    (h : writeBits e s v n = .ok (x, s')) : s'.Inv ∧ s.out <+: s'.out := by
  by_cases hn : n > 64
  · rw [writeBits_wide e s v hn] at h; cases h
  · cases hd : s.dirty v n
    · exact (writeBits_delivers e s v n hi (Nat.le_of_not_lt hn) hd).inv h
    · rw [writeBits_dirty e s v hn hd] at h; cases h

theorem validAt_full (e : Endian) (b : BitVec W) : validAt e b W = [] := by
  apply List.eq_nil_of_length_eq_zero; simp

theorem zeros_flatMap (e : Endian) (k : Nat) :
    (List.replicate k (0 : BitVec W)).flatMap (wordBits e) = List.replicate (k * W) false := by
  rw [List.flatMap_replicate, zero_word, List.flatten_replicate_replicate]

/-- `hx`: from `2 ^ 64 - 1` on `BufW.writeUnary` answers `dpanic` -/
theorem writeUnary_delivers (e : Endian) (s : BufW W) (x : Nat) (hi : s.Inv)
    (hx : x < 2 ^ 64 - 1) :
    Delivers e s (unaryBits x) (x + 1) (writeUnary e s x) := by
  obtain ⟨hi1, hi2⟩ := hi
  have hW : 0 < W := Nat.lt_of_lt_of_le hi1 hi2
  unfold writeUnary
  rw [if_neg (Nat.not_le.2 hx)]
  dsimp only
  by_cases hfast : x + 1 ≤ s.space
  · rw [if_pos hfast]
    have hb := unary_fast e s.buffer hfast hi2
    by_cases h0 : s.space - (x + 1) = 0
    · rw [if_pos h0]
      refine ⟨[shiftIn e (shiftIn e s.buffer x) 1 ||| oneWord e],
        shiftIn e (shiftIn e s.buffer x) 1 ||| oneWord e, W, ?_, hW, Nat.le_refl W, ?_⟩
      · rw [← emit_eq_emitAll]
        cases s.emit _ <;> rfl
      · rw [List.flatMap_cons, List.flatMap_nil, List.append_nil, validAt_full, List.append_nil,
          ← validAt_zero, ← h0, hb]
    · rw [if_neg h0]
      exact Delivers.fast (Nat.pos_of_ne_zero h0) (Nat.le_trans (Nat.sub_le _ _) hi2) hb
  · rw [if_neg hfast, shiftIn_shiftIn, Nat.sub_add_cancel hi1]
    have hlt : (x - s.space) % W < W := Nat.mod_lt _ hW
    -- the zeros of the code: the rest of the current word, whole words, the head of the last word
    have hbits : validAt e s.buffer s.space ++ unaryBits x =
        wordBits e (shiftIn e s.buffer s.space) ++
          ((List.replicate ((x - s.space) / W) (0 : BitVec W)).flatMap (wordBits e) ++
            unaryBits ((x - s.space) % W)) := by
      rw [shifted_word e s.buffer hi2, zeros_flatMap, List.append_assoc, ← unaryBits_add,
        ← unaryBits_add, Nat.mul_comm, Nat.div_add_mod,
        Nat.add_sub_cancel' (Nat.le_of_lt_succ (Nat.lt_of_not_le hfast))]
    by_cases hlast : (x - s.space) % W = W - 1
    · simp only [if_pos hlast]
      refine ⟨shiftIn e s.buffer s.space :: (List.replicate ((x - s.space) / W) 0 ++ [oneWord e]),
        shiftIn e s.buffer s.space, W, ?_, hW, Nat.le_refl W, ?_⟩
      · rw [emitAll]
        cases s.emit _ with
        | ok s1 =>
          dsimp only [Res.bind]
          rw [zeroWords_eq, emitAll_upd, emitAll_append]
          cases emitAll s1 _ with
          | ok s2 =>
            dsimp only [Res.map, Res.bind]
            rw [emit_eq_emitAll, emitAll_upd]
            cases emitAll s2 _ <;> rfl
          | _ => rfl
        | _ => rfl
      · rw [hbits, hlast, ← one_word e hW, List.flatMap_cons, List.flatMap_append,
          List.flatMap_cons, List.flatMap_nil, List.append_nil, validAt_full, List.append_nil]
    · simp only [if_neg hlast]
      refine ⟨shiftIn e s.buffer s.space :: List.replicate ((x - s.space) / W) 0,
        oneWord e, W - ((x - s.space) % W + 1), ?_,
        Nat.sub_pos_of_lt (Nat.lt_of_le_of_ne hlt (fun h => hlast (by omega))), Nat.sub_le _ _, ?_⟩
      · rw [emitAll]
        cases s.emit _ with
        | ok s1 =>
          dsimp only [Res.bind]
          rw [zeroWords_eq, emitAll_upd]
          cases emitAll s1 _ <;> rfl
        | _ => rfl
      · rw [hbits, one_valid e hlt, List.flatMap_cons, List.append_assoc]

end BufW
end Dsi
