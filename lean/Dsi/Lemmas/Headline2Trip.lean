/-
  Headline2: from a state of the generated `BufBitWriter` that represents a reference writer
  (`BufW.RelC`, reached from a fresh writer by any program that succeeds on the reference writer:
  `gen_wrun_relC`), any further program that succeeds on the reference writer, followed by `flush`,
  delivers the canonical byte layout of the reference bits (`gen_image_of_relC`).
-/
import Dsi.Lemmas.HeadlineRunW
import Dsi.Lemmas.EndToEndSim
import Dsi.Props.IOView
namespace Dsi
namespace Headline2
open Headline E2E

def refW (e : Endian) (Ww : Nat) (checks : Bool) (bits : List Bool) : RefW :=
  { e := e, W := Ww, checks := checks, cap := none, bits := bits }

theorem refw_run_same {α : Type} (p : WProg α) {w w' : RefW} {a : α}
    (h : p.run RefW.impl w = .ok (a, w')) : SameCfg w w' :=
  WProg.run_steps refw_steps p h

theorem sameCfg_eq_refW {e : Endian} {Ww : Nat} {checks : Bool} {bits : List Bool} {w' : RefW}
    (h : SameCfg (refW e Ww checks bits) w') : w' = refW e Ww checks w'.bits := by
  obtain ⟨e', W', c', cap', b'⟩ := w'
  obtain ⟨h1, h2, h3, h4⟩ := h
  simp only [refW] at h1 h2 h3 h4
  subst h1 h2 h3 h4
  rfl

theorem gen_wrun_of_relC {β : Type} (e : Endian) {Ww : Nat} (hWw64 : Ww < 2 ^ 64)
    {checks : Bool} {bits : List Bool} {t : BufW Ww} (hrel : BufW.RelC e t (refW e Ww checks bits))
    (qw : WProg β) {b : β} {w' : RefW} (hq : qw.run RefW.impl (refW e Ww checks bits) = .ok (b, w')) :
    ∃ t1 : BufW Ww, qw.run (genWImpl e) t = .ok (b, t1) ∧ BufW.RelC e t1 (refW e Ww checks w'.bits) := by
  have hsim := wprog_sim e qw hrel
  rw [hq] at hsim
  obtain ⟨⟨b', t1⟩, hrun, hb, hrel1, _⟩ := hsim.of_ok_right
  cases (hb : b' = b)
  rw [sameCfg_eq_refW (refw_run_same qw hq)] at hrel1
  exact ⟨t1, gen_wrun_of_ok e hWw64 qw hrel.1.1 hrun, hrel1⟩

theorem gen_wrun_relC {α : Type} (e : Endian) {Ww : Nat} (hWw : 0 < Ww) (hWw64 : Ww < 2 ^ 64)
    (checks : Bool) (pw : WProg α) {a : α} {w1 : RefW}
    (href : pw.run RefW.impl (refW e Ww checks []) = .ok (a, w1)) :
    ∃ t : BufW Ww, pw.run (genWImpl e) (BufW.new Ww checks none) = .ok (a, t) ∧
      BufW.RelC e t (refW e Ww checks w1.bits) :=
  gen_wrun_of_relC e hWw64 (rel_new e hWw checks none) pw href

theorem gen_flush_of_relC (e : Endian) {Ww : Nat} (h8 : 8 ∣ Ww) {checks : Bool} {bits : List Bool}
    {t1 : BufW Ww} (hrel1 : BufW.RelC e t1 (refW e Ww checks bits)) :
    ∃ (k : Nat) (t2 : BufW Ww), (genWImpl e).flush t1 = .ok (k, t2) ∧
      t2.outBytes e = layout e (bits ++ wpad Ww bits.length) ∧
      bitsOfBytes e (t2.outBytes e) = bits ++ wpad Ww bits.length ∧
      (∀ b ∈ t2.outBytes e, b < 256) := by
  obtain ⟨k, t2, hflush, h3⟩ := flush_image e h8 hrel1 rfl
  have h3 : bitsOfBytes e (t2.outBytes e) = bits ++ wpad Ww bits.length := h3
  refine ⟨k, t2, ?_, ?_, h3, outBytes_lt e h8 t2⟩
  · rw [genW_flush]; exact hflush
  · rw [← io_aligned_image e _ (outBytes_lt e h8 t2), h3]

/-- **from any state representing a reference writer**: a further program that succeeds on the
    reference writer succeeds alike on the generated `BufBitWriter`, the generated `flush`
    succeeds, and the bytes delivered are the canonical layout of the reference bits zero-padded
    to a whole word -/
theorem gen_image_of_relC {β : Type} (e : Endian) {Ww : Nat} (h8 : 8 ∣ Ww) (hWw64 : Ww < 2 ^ 64)
    {checks : Bool} {bits : List Bool} {t : BufW Ww} (hrel : BufW.RelC e t (refW e Ww checks bits))
    (qw : WProg β) {b : β} {w' : RefW} (hq : qw.run RefW.impl (refW e Ww checks bits) = .ok (b, w')) :
    ∃ (t1 : BufW Ww) (k : Nat) (t2 : BufW Ww),
      qw.run (genWImpl e) t = .ok (b, t1) ∧ (genWImpl e).flush t1 = .ok (k, t2) ∧
      t2.outBytes e = layout e (w'.bits ++ wpad Ww w'.bits.length) ∧
      BufW.RelC e t1 (refW e Ww checks w'.bits) ∧
      bitsOfBytes e (t2.outBytes e) = w'.bits ++ wpad Ww w'.bits.length ∧
      (∀ b ∈ t2.outBytes e, b < 256) := by
  obtain ⟨t1, hrun, hrel1⟩ := gen_wrun_of_relC e hWw64 hrel qw hq
  obtain ⟨k, t2, hfl, h3, h5, h6⟩ := gen_flush_of_relC e h8 hrel1
  exact ⟨t1, k, t2, hrun, hfl, h3, hrel1, h5, h6⟩

end Headline2
end Dsi
