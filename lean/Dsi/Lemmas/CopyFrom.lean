/-
  Bulk copy: the specialised `copy_from` of the buffered writer (`BufW.copyFrom`), reading through
  any simulating reader implementation, against the specification `refCopy`.
-/
import Dsi.Lemmas.CopySim
namespace Dsi
namespace CopyL
open BufW
variable {W : Nat}

theorem testBit_of_lt_pow {v n j : Nat} (hv : v < 2 ^ n) (hj : n ≤ j) : v.testBit j = false :=
  Nat.testBit_lt_two_pow (Nat.lt_of_lt_of_le hv (Nat.pow_le_pow_right (by decide) hj))

/-- rotating a value that fits in `n` bits right by `n` moves it to the top of the word: the LE
    buffer never rotates anything else -/
theorem rotateRight_low (x : BitVec W) {n : Nat} (hn : n ≤ W)
    (hx : ∀ i, n ≤ i → x.getLsbD i = false) : x.rotateRight n = x <<< (W - n) := by
  apply BitVec.eq_of_getLsbD_eq
  intro i hi
  rw [BitVec.getLsbD_rotateRight, BitVec.getLsbD_shiftLeft, decide_eq_true hi, Bool.true_and]
  by_cases hnW : n < W
  · rw [Nat.mod_eq_of_lt hnW]
    by_cases h : i < W - n
    · rw [decide_eq_true h, cond_true, hx _ (Nat.le_add_right n i)]; rfl
    · rw [decide_eq_false h, cond_false]; rfl
  · obtain rfl : n = W := Nat.le_antisymm hn (Nat.not_lt.1 hnW)
    simp [hi]

theorem wordBits_placed (e : Endian) {v n : Nat} (hn : n ≤ W) (hv : v < 2 ^ n) :
    wordBits e (placed e v n : BitVec W) = List.replicate (W - n) false ++ fieldBits e v n := by
  cases e
  · refine placed_be _ v hn fun j hj => ?_
    show (BitVec.ofNat W v).getLsbD j = _
    rw [BitVec.getLsbD_ofNat, decide_eq_true hj, Bool.true_and]
    by_cases h : j < n
    · rw [decide_eq_true h, Bool.true_and]
    · rw [decide_eq_false h, Bool.false_and, testBit_of_lt_pow hv (Nat.not_lt.1 h)]
  · refine placed_le _ v hn fun j hj => ?_
    show ((BitVec.ofNat W v).rotateRight n).getLsbD j = _
    rw [rotateRight_low _ hn fun i hi => by
        rw [BitVec.getLsbD_ofNat, testBit_of_lt_pow hv hi, Bool.and_false],
      BitVec.getLsbD_shiftLeft, BitVec.getLsbD_ofNat, decide_eq_true hj,
      decide_eq_true (Nat.lt_of_le_of_lt (Nat.sub_le j _) hj)]
    by_cases h : j < W - n
    · rw [decide_eq_true h, decide_eq_false (Nat.not_le.2 h)]; rfl
    · rw [decide_eq_false h, decide_eq_true (Nat.not_lt.1 h)]; rfl

theorem placed_fast (e : Endian) (b : BitVec W) {v sp n : Nat} (h1 : n ≤ sp) (h2 : sp ≤ W)
    (hv : v < 2 ^ n) :
    validAt e (shiftIn e b n ||| placed e v n) (sp - n) = validAt e b sp ++ fieldBits e v n :=
  validAt_shiftIn_or e b _ h1 h2 (wordBits_placed e (Nat.le_trans h1 h2) hv)

theorem placed_first (e : Endian) (b : BitVec W) {v sp : Nat} (h0 : 1 ≤ sp) (h2 : sp ≤ W)
    (hv : v < 2 ^ sp) :
    wordBits e (shiftIn e (shiftIn e b (sp - 1)) 1 ||| placed e v sp)
      = validAt e b sp ++ fieldBits e v sp := by
  rw [shiftIn_shiftIn, Nat.sub_add_cancel h0]
  exact wordBits_shiftIn_or e b _ h2 (wordBits_placed e h2 hv)

theorem placed_last (e : Endian) {v n : Nat} (h : n ≤ W) (hv : v < 2 ^ n) :
    validAt e (placed e v n : BitVec W) (W - n) = fieldBits e v n := by
  rw [validAt_eq_drop _ _ (Nat.sub_le W n), wordBits_placed e h hv,
    List.drop_left' List.length_replicate]

theorem wordBits_ofNat (e : Endian) (v : Nat) :
    wordBits e (BitVec.ofNat W v) = fieldBits e v W := by
  unfold wordBits
  rw [BitVec.toNat_ofNat]
  exact fieldBits_mod e v (Nat.le_refl W)

theorem rsim_read {ρ} {ri : RImpl ρ} {P : ρ → RefR → Prop} (hr : RSim ri P) {s : ρ} {r : RefR}
    (hP : P s r) {k : Nat} (hk : k ≤ 64) (hav : r.avail k = true) :
    ∃ s', ri.readBits s k = .ok (bitsVal r.e (takeZ k r.rest), s') ∧
      P s' { r with pos := r.pos + k } := by
  have h := hr s r k hP
  rw [readBits_avail r hk hav] at h
  obtain ⟨⟨v, s'⟩, hx, hv, hP'⟩ := h.of_ok_right
  exact ⟨s', hx.trans (by rw [show v = _ from hv]), hP'⟩

theorem pos_add_add (r : RefR) (a b : Nat) :
    ({ ({ r with pos := r.pos + a } : RefR) with pos := r.pos + a + b } : RefR)
      = { r with pos := r.pos + (a + b) } := by
  simp [Nat.add_assoc]

theorem copyWordsFrom_succ {ρ} (ri : RImpl ρ) (k : Nat) (r : ρ) (s : BufW W) :
    BufW.copyWordsFrom ri (k + 1) r s = (ri.readBits r W).bind fun p =>
      (s.emit (BitVec.ofNat W p.1)).bind fun s' => BufW.copyWordsFrom ri k p.2 s' := by
  rw [BufW.copyWordsFrom]
  cases ri.readBits r W with
  | ok p =>
    obtain ⟨v, r'⟩ := p
    simp only [Res.bind]
    cases s.emit (BitVec.ofNat W v) <;> rfl
  | _ => rfl

theorem copyWordsFrom_spec {ρ} {ri : RImpl ρ} {P : ρ → RefR → Prop} (hr : RSim ri P)
    (e : Endian) (hW : W ≤ 64) :
    ∀ (k : Nat) (s : ρ) (r : RefR), P s r → r.e = e → r.avail (k * W) = true →
    ∃ (s' : ρ) (ws : List (BitVec W)), P s' { r with pos := r.pos + k * W } ∧
      ws.flatMap (wordBits e) = takeZ (k * W) r.rest ∧
      ∀ t : BufW W, BufW.copyWordsFrom ri k s t = (emitAll t ws).map fun t' => (s', t') := by
  intro k
  induction k with
  | zero =>
    intro s r hP he _
    refine ⟨s, [], ?_, ?_, fun t => rfl⟩
    · rw [Nat.zero_mul]; exact hP
    · rw [Nat.zero_mul]; rfl
  | succ k ih =>
    intro s r hP he hav
    rw [Nat.succ_mul, Nat.add_comm (k * W) W] at hav ⊢
    obtain ⟨s1, hread, hP1⟩ := rsim_read hr hP hW (avail_mono r (Nat.le_add_right _ _) hav)
    obtain ⟨s', ws, hP', hbits, hrun⟩ := ih s1 _ hP1 he (by rw [avail_advance]; exact hav)
    refine ⟨s', BitVec.ofNat W (bitsVal r.e (takeZ W r.rest)) :: ws, ?_, ?_, fun t => ?_⟩
    · rw [← pos_add_add]; exact hP'
    · rw [List.flatMap_cons, hbits, wordBits_ofNat, rest_advance, takeZ_add, he, readVal_bits]
    · rw [copyWordsFrom_succ, hread, Res.bind_ok, emitAll]
      cases t.emit (BitVec.ofNat W (bitsVal r.e (takeZ W r.rest))) with
      | ok t' => exact hrun t'
      | _ => rfl

theorem fits_of_relC {e : Endian} {t : BufW W} {w : RefW} (h : RelC e t w) :
    w.fits w.bits = true := by
  obtain ⟨⟨⟨hi1, hi2⟩, he, hw, hcap, hchk, hbits⟩, hc⟩ := h
  rw [fits_eq, hbits, abs_length, hw, hcap]
  have : (t.out.length * W + (W - t.space)) / W = t.out.length := by
    apply Nat.div_eq_of_lt_le
    · omega
    · rw [Nat.succ_mul]; omega
  rw [this]; exact hc

/-- an outcome in closed form (deliver `ws`, leave buffer `b` with `sp` free bits) whose bits are
    the reader's next `n` bits simulates `refCopy` -/
theorem closed_sim {ρ} {P : ρ → RefR → Prop} {e : Endian} {t : BufW W} {w : RefW} {r : RefR}
    {n : Nat} (hrel : RelC e t w) (hav : r.avail n = true) {s' : ρ}
    (hP' : P s' { r with pos := r.pos + n }) {ws : List (BitVec W)} {b : BitVec W} {sp : Nat}
    (h1 : 1 ≤ sp) (h2 : sp ≤ W)
    (hb : validAt e t.buffer t.space ++ takeZ n r.rest = ws.flatMap (wordBits e) ++ validAt e b sp) :
    ResRel (PQ P (RelC e)) (((emitAll t ws).map fun t' => (n, { t' with buffer := b, space := sp })).bind
      fun q => .ok (s', q.2)) (refCopy r w n) := by
  rw [refCopy_put hav]
  exact (Delivers.sim hrel ⟨ws, b, sp, rfl, h1, h2, hb⟩).bind fun _ _ h => ⟨hP', h.2.1⟩

theorem copyFrom_fast {ρ} (e : Endian) (ri : RImpl ρ) (s : BufW W) (r : ρ) {n : Nat}
    (hW : ¬ W > 64) (hn : n < s.space) :
    BufW.copyFrom e ri s r n = (ri.readBits r n).bind fun p =>
      .ok (p.2, { s with buffer := shiftIn e s.buffer n ||| placed e p.1 n, space := s.space - n }) := by
  rw [BufW.copyFrom, if_neg hW, if_pos hn]
  cases ri.readBits r n <;> rfl

theorem copyFrom_slow {ρ} (e : Endian) (ri : RImpl ρ) (s : BufW W) (r : ρ) {n : Nat}
    (hW : ¬ W > 64) (hn : ¬ n < s.space) :
    BufW.copyFrom e ri s r n = (ri.readBits r s.space).bind fun p =>
      (s.emit (shiftIn e (shiftIn e s.buffer (s.space - 1)) 1 ||| placed e p.1 s.space)).bind fun s1 =>
      (BufW.copyWordsFrom ri ((n - s.space) / W) p.2
        { s1 with buffer := shiftIn e (shiftIn e s.buffer (s.space - 1)) 1 ||| placed e p.1 s.space }).bind
      fun q => (ri.readBits q.1 ((n - s.space) % W)).bind fun u =>
      .ok (u.2, { q.2 with buffer := placed e u.1 ((n - s.space) % W), space := W - (n - s.space) % W }) := by
  rw [BufW.copyFrom, if_neg hW, if_neg hn]
  cases ri.readBits r s.space with
  | ok p =>
    obtain ⟨v, r1⟩ := p
    simp only [Res.bind]
    cases s.emit (shiftIn e (shiftIn e s.buffer (s.space - 1)) 1 ||| placed e v s.space) with
    | ok s1 =>
      simp only []
      cases BufW.copyWordsFrom ri ((n - s.space) / W) r1
          { s1 with buffer := shiftIn e (shiftIn e s.buffer (s.space - 1)) 1 ||| placed e v s.space } with
      | ok q =>
        obtain ⟨r2, s2⟩ := q
        simp only []
        cases ri.readBits r2 ((n - s.space) % W) <;> rfl
      | _ => rfl
    | _ => rfl
  | _ => rfl

/-- **`BufBitWriter::copy_from`** reading through any simulating reader `ri`: it moves the reader's
    next `n` bits (or fails with the reference when a fixed backend is full). -/
theorem copyFrom_sim_gen {ρ} {ri : RImpl ρ} {P : ρ → RefR → Prop} (hr : RSim ri P) {e : Endian}
    {t : BufW W} {w : RefW} {s : ρ} {r : RefR} {n : Nat} (hQ : RelC e t w) (hP : P s r)
    (he : r.e = e) (hav : r.avail n = true) :
    ResRel (PQ P (RelC e)) (BufW.copyFrom e ri t s n) (refCopy r w n) := by
  subst he
  obtain ⟨⟨hi1, hi2⟩, hwe, -⟩ := hQ.1
  by_cases hW : W > 64
  · rw [BufW.copyFrom, if_pos hW]
    exact copyGeneric_stage hr (wsim_bufW r.e) hP hQ hwe (fits_of_relC hQ) hav (fuel_le (Nat.le_succ _))
  have hW64 : W ≤ 64 := Nat.not_lt.1 hW
  have hs64 : t.space ≤ 64 := Nat.le_trans hi2 hW64
  by_cases hfast : n < t.space
  · obtain ⟨s1, hread, hP1⟩ := rsim_read hr hP (Nat.le_trans (Nat.le_of_lt hfast) hs64) hav
    have hb := placed_fast r.e t.buffer (Nat.le_of_lt hfast) hi2 (readVal_lt r.e n r.rest)
    rw [readVal_bits] at hb
    have := closed_sim (ws := []) hQ hav hP1 (Nat.sub_pos_of_lt hfast)
      (Nat.le_trans (Nat.sub_le _ _) hi2) ((List.nil_append _).trans hb).symm
    rw [copyFrom_fast r.e ri t s hW hfast, hread]
    exact this
  · -- `n = t.space + k * W + n'`: the free space, `k` whole words, a tail of `n' < W` bits
    obtain ⟨m, rfl⟩ : ∃ m, n = t.space + m := ⟨_, (Nat.add_sub_cancel' (Nat.not_lt.1 hfast)).symm⟩
    rw [copyFrom_slow r.e ri t s hW hfast, Nat.add_sub_cancel_left]
    have hlt : m % W < W := Nat.mod_lt _ (Nat.lt_of_lt_of_le hi1 hi2)
    have hdm : m = m / W * W + m % W := by rw [Nat.mul_comm]; exact (Nat.div_add_mod m W).symm
    generalize m / W = k at hdm ⊢
    generalize m % W = n' at hdm hlt ⊢
    subst hdm
    obtain ⟨s1, hread1, hP1⟩ := rsim_read hr hP hs64 (avail_mono r (Nat.le_add_right _ _) hav)
    obtain ⟨s2, ws, hP2, hwbits, hrun⟩ := copyWordsFrom_spec hr r.e hW64 k s1 _ hP1 rfl
      (by rw [avail_advance]
          exact avail_mono r (Nat.add_le_add_left (Nat.le_add_right _ _) _) hav)
    obtain ⟨s3, hread3, hP3⟩ := rsim_read hr hP2 (Nat.le_trans (Nat.le_of_lt hlt) hW64)
      (by rw [pos_add_add, avail_advance, Nat.add_assoc]; exact hav)
    rw [pos_add_add, rest_advance] at hread3
    rw [pos_add_add, pos_add_add] at hP3
    -- what is delivered and left is the buffer followed by the reader's next `n` bits
    have hfin := closed_sim hQ hav hP3 (Nat.sub_pos_of_lt hlt) (Nat.sub_le _ _)
      (ws := (shiftIn r.e (shiftIn r.e t.buffer (t.space - 1)) 1 |||
        placed r.e (bitsVal r.e (takeZ t.space r.rest)) t.space) :: ws)
      (b := placed r.e (bitsVal r.e (takeZ n' (r.rest.drop (t.space + k * W)))) n')
      (by rw [List.flatMap_cons, placed_first r.e t.buffer hi1 hi2 (readVal_lt _ _ _),
            placed_last r.e (Nat.le_of_lt hlt) (readVal_lt _ _ _), hwbits, rest_advance, readVal_bits,
            readVal_bits, takeZ_add, takeZ_add, List.drop_drop, List.append_assoc,
            List.append_assoc])
    -- the run delivers that word and those of the loop, whatever the buffer meanwhile
    rw [emitAll] at hfin
    rw [hread1, Res.bind_ok]
    dsimp only
    generalize t.emit (shiftIn r.e (shiftIn r.e t.buffer (t.space - 1)) 1 ||| placed r.e _ t.space) = x
      at hfin ⊢
    cases x with
    | ok t1 =>
      rw [Res.bind_ok, hrun, emitAll_upd t1 _ t1.space ws]
      rw [Res.bind_ok] at hfin
      generalize emitAll t1 ws = y at hfin ⊢
      cases y with
      | ok t2 => rw [Res.map_ok, Res.map_ok, Res.bind_ok, hread3]; exact hfin
      | _ => exact hfin
    | _ => exact hfin

end CopyL
end Dsi
