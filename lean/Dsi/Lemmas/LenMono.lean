/-
  Monotonicity of the length functions (`len_*`) of `src/codes/*.rs`, as modelled in
  `Dsi.Codes` / `Dsi.Defaults`: a larger value never gets a shorter code word.
  Last, the table-backed defaults are shown to coincide with the closed formulas.
-/
import Dsi.Defaults
import Dsi.Lemmas.CodesBArith
import Dsi.Lemmas.TablesOkGamma
import Dsi.Lemmas.TablesOkDelta
import Dsi.Lemmas.TablesOkZeta
namespace Dsi

theorem log2_mono {a b : Nat} (h : a ≤ b) : a.log2 ≤ b.log2 := by
  by_cases ha : a = 0
  · rw [ha, Nat.log2_zero]; exact Nat.zero_le _
  · exact (Nat.le_log2 (by omega)).2 (Nat.le_trans (Nat.log2_self_le ha) h)

theorem lenUnary_mono {m n : Nat} (h : m ≤ n) : lenUnary m ≤ lenUnary n := by
  unfold lenUnary; omega

theorem lenRice_mono (k : Nat) {m n : Nat} (h : m ≤ n) : lenRice m k ≤ lenRice n k := by
  unfold lenRice
  have := Nat.div_le_div_right (c := 2 ^ k) h
  omega

theorem lenGammaDefault_mono {m n : Nat} (h : m ≤ n) :
    lenGammaDefault m ≤ lenGammaDefault n := by
  unfold lenGammaDefault
  have := log2_mono (Nat.add_le_add_right h 1)
  omega

theorem lenPi_mono (k : Nat) {m n : Nat} (h : m ≤ n) : lenPi m k ≤ lenPi n k := by
  unfold lenPi
  have h1 := log2_mono (Nat.add_le_add_right h 1)
  have h2 := lenRice_mono k h1
  omega

theorem lenExpGolomb_none_mono (k : Nat) {m n : Nat} (h : m ≤ n) :
    lenExpGolomb none m k ≤ lenExpGolomb none n k := by
  have := lenGammaDefault_mono (Nat.div_le_div_right (c := 2 ^ k) h)
  simp only [lenExpGolomb, lenGamma]
  omega

theorem lenDelta_none_mono {m n : Nat} (h : m ≤ n) :
    lenDelta none none m ≤ lenDelta none none n := by
  have h1 := log2_mono (Nat.add_le_add_right h 1)
  have h2 := lenGammaDefault_mono h1
  simp only [lenDelta, lenGamma]
  omega

theorem omegaLenRec_mono (f : Nat) : ∀ {a b : Nat}, a ≤ b → omegaLenRec f a ≤ omegaLenRec f b := by
  induction f with
  | zero => intro a b _; simp [omegaLenRec]
  | succ f ih =>
    intro a b h
    have hl := log2_mono h
    have hr := ih hl
    simp only [omegaLenRec]
    split <;> split <;> omega

theorem lenOmega_mono {m n : Nat} (h : m ≤ n) : lenOmega m ≤ lenOmega n :=
  omegaLenRec_mono 8 (Nat.add_le_add_right h 1)

theorem lenMinimalBinary_mono (u : Nat) {m n : Nat} (h : m ≤ n) :
    lenMinimalBinary m u ≤ lenMinimalBinary n u := by
  unfold lenMinimalBinary
  split
  · exact Nat.le_refl _
  · split <;> split <;> omega

theorem lenMinimalBinary_le (x u : Nat) : lenMinimalBinary x u ≤ u.log2 + 1 := by
  unfold lenMinimalBinary
  split
  · omega
  · split <;> omega

theorem le_lenMinimalBinary (x : Nat) {u : Nat} (hu : u ≠ 0) : u.log2 ≤ lenMinimalBinary x u := by
  unfold lenMinimalBinary
  rw [if_neg hu]
  split <;> omega

/-- Golomb lengths are monotone for every modulus (`b = 0` gives the constant 1). -/
theorem lenGolomb_mono (b : Nat) {m n : Nat} (h : m ≤ n) : lenGolomb m b ≤ lenGolomb n b := by
  unfold lenGolomb
  by_cases hb : b = 0
  · subst hb; simp [lenMinimalBinary]
  · have hq := Nat.div_le_div_right (c := b) h
    rcases Nat.eq_or_lt_of_le hq with heq | hlt
    · have hm := Nat.div_add_mod m b
      have hn := Nat.div_add_mod n b
      rw [heq] at hm
      have := lenMinimalBinary_mono b (show m % b ≤ n % b by omega)
      omega
    · have h1 := lenMinimalBinary_le (m % b) b
      have h2 := le_lenMinimalBinary (n % b) hb
      omega

theorem le_vbyteByteLenLoop (f : Nat) : ∀ v len, len ≤ vbyteByteLenLoop f v len := by
  induction f with
  | zero => intro v len; simp [vbyteByteLenLoop]
  | succ f ih =>
    intro v len
    simp only [vbyteByteLenLoop]
    split
    · exact Nat.le_refl _
    · have := ih (v / 128 - 1) (len + 1); omega

theorem vbyteByteLenLoop_mono (f : Nat) :
    ∀ {v w : Nat} (len : Nat), v ≤ w → vbyteByteLenLoop f v len ≤ vbyteByteLenLoop f w len := by
  induction f with
  | zero => intro v w len _; simp [vbyteByteLenLoop]
  | succ f ih =>
    intro v w len h
    have hd := Nat.div_le_div_right (c := 128) h
    simp only [vbyteByteLenLoop]
    split
    · split
      · exact Nat.le_refl _
      · have := le_vbyteByteLenLoop f (w / 128 - 1) (len + 1); omega
    · split
      · omega
      · exact ih (len + 1) (by omega)

theorem bitLenVByte_mono {m n : Nat} (h : m ≤ n) : bitLenVByte m ≤ bitLenVByte n :=
  Nat.mul_le_mul_left 8 (vbyteByteLenLoop_mono 10 1 h)

/-- The upper bound handed to minimal binary in block `h`: `2^((h+1)k) - 2^(hk)`, with the
    exponent capped at 64 (the wrapped last block). -/
theorem zetaU_eq {h k : Nat} (hk : h * k < 64) :
    zetaU h k = 2 ^ (min (h * k + k) 64) - 2 ^ (h * k) := by
  rw [CodesB.zetaU_eq hk, Nat.succ_mul]
  split
  · next hc => rw [Nat.min_eq_left hc]
  · next hc => rw [Nat.min_eq_right (Nat.le_of_not_le hc)]

theorem log2_pow_sub_pow {a e : Nat} (h : a < e) : (2 ^ e - 2 ^ a).log2 + 1 = e := by
  obtain ⟨d, rfl⟩ : ∃ d, e = d + 1 := ⟨e - 1, (Nat.succ_pred_eq_of_pos (Nat.zero_lt_of_lt h)).symm⟩
  have lo : 2 ^ d ≤ 2 ^ (d + 1) - 2 ^ a := by
    rw [Nat.pow_succ, Nat.mul_two]
    exact Nat.le_sub_of_add_le
      (Nat.add_le_add_left (Nat.pow_le_pow_right Nat.two_pos (Nat.le_of_lt_succ h)) _)
  have hi : 2 ^ (d + 1) - 2 ^ a < 2 ^ (d + 1) := Nat.sub_lt (Nat.two_pow_pos _) (Nat.two_pow_pos _)
  rw [Nat.succ_inj, Nat.log2_eq_iff (Nat.ne_of_gt (Nat.lt_of_lt_of_le (Nat.two_pow_pos d) lo))]
  exact ⟨lo, hi⟩

theorem zetaU_log2 {h k : Nat} (hk1 : 1 ≤ k) (hk : h * k < 64) :
    (zetaU h k).log2 + 1 = min (h * k + k) 64 := by
  rw [zetaU_eq hk, log2_pow_sub_pow (Nat.lt_min.2 ⟨Nat.lt_add_of_pos_right hk1, hk⟩)]

theorem zetaU_ne_zero {h k : Nat} (hk1 : 1 ≤ k) (hk : h * k < 64) : zetaU h k ≠ 0 := by
  rw [zetaU_eq hk]
  exact Nat.sub_ne_zero_of_lt
    (Nat.pow_lt_pow_right (by decide) (Nat.lt_min.2 ⟨Nat.lt_add_of_pos_right hk1, hk⟩))

/-- ζ_k monotonicity under the exact condition used by the proof: the block of the larger
    argument starts below `2^64`.  Within a block it is that of minimal binary; a later block has
    at least one more unary bit, and its shortest codeword (`≥ h₂k` bits) is no shorter than
    the longest of the earlier block (`≤ h₁k + k` bits). -/
theorem lenZetaDefault_mono_of_block (k : Nat) (hk1 : 1 ≤ k) {m n : Nat} (h : m ≤ n)
    (hb : (n + 1).log2 / k * k < 64) : lenZetaDefault m k ≤ lenZetaDefault n k := by
  have hq := Nat.div_le_div_right (c := k) (log2_mono (Nat.add_le_add_right h 1))
  simp only [lenZetaDefault]
  generalize (m + 1).log2 / k = h1 at hq ⊢
  generalize (n + 1).log2 / k = h2 at hq hb ⊢
  rcases Nat.eq_or_lt_of_le hq with rfl | hlt
  · exact Nat.add_le_add_left (lenMinimalBinary_mono _
      (Nat.sub_le_sub_right (Nat.add_le_add_right h 1) _)) _
  · have hmul : h1 * k + k ≤ h2 * k := by
      rw [← Nat.succ_mul]; exact Nat.mul_le_mul_right k hlt
    have hb1 : h1 * k < 64 := Nat.lt_of_le_of_lt (Nat.le_trans (Nat.le_add_right _ _) hmul) hb
    have c1 : lenMinimalBinary (m + 1 - 2 ^ (h1 * k)) (zetaU h1 k) ≤ h1 * k + k :=
      Nat.le_trans (lenMinimalBinary_le _ _)
        (Nat.le_trans (Nat.le_of_eq (zetaU_log2 hk1 hb1)) (Nat.min_le_left _ _))
    have c2 : h2 * k ≤ lenMinimalBinary (n + 1 - 2 ^ (h2 * k)) (zetaU h2 k) :=
      Nat.le_trans
        (Nat.le_of_lt_succ (Nat.lt_of_lt_of_eq
          (Nat.lt_min.2 ⟨Nat.lt_add_of_pos_right hk1, hb⟩) (zetaU_log2 hk1 hb).symm))
        (le_lenMinimalBinary _ (zetaU_ne_zero hk1 hb))
    exact Nat.add_le_add (Nat.succ_le_succ (Nat.le_of_lt hlt))
      (Nat.le_trans c1 (Nat.le_trans hmul c2))

theorem lenZetaDefault_mono (k : Nat) (hk1 : 1 ≤ k) {m n : Nat} (h : m ≤ n)
    (hn : n < 2 ^ 64 - 1) : lenZetaDefault m k ≤ lenZetaDefault n k :=
  lenZetaDefault_mono_of_block k hk1 h <|
    Nat.lt_of_le_of_lt (Nat.div_mul_le_self _ k) ((Nat.log2_lt (by omega)).2 (by omega))

/-- the bound on `n` cannot be dropped: at `n = 2^64 - 1` the block bound `1 << (h*k)` itself
    overflows (`k = 1`: length 65 after length 127). -/
theorem lenZetaDefault_not_mono_at_max :
    ¬ lenZetaDefault (2 ^ 64 - 2) 1 ≤ lenZetaDefault (2 ^ 64 - 1) 1 := by decide +kernel

/-! ### table-backed defaults

  The generated `LEN` tables hold the closed formulas (`gamma_len_ok`, `delta_len_ok`,
  `zeta_len_ok`: the table checks of C05, by kernel evaluation); the statements about the
  `P`/`D` wrappers are then proved for both values of every table flag, so a flipped default in
  `Gen.Params` does not affect them. -/
open Gen

theorem lenTable_some {dflt : Nat → Nat} {wmax : Nat} {cs : List (List Nat)} {T : Array Nat}
    (hT : T = cs.flatten.toArray) (h : chkLenTable dflt wmax cs = true) {n l : Nat}
    (hl : T[n]? = some l) : l = dflt n :=
  lenTable_eq h n l (hT ▸ hl)

theorem gammaLen_some {n l : Nat} : Gamma.LEN[n]? = some l → l = lenGammaDefault n :=
  lenTable_some (by simp [Gamma.LEN, Gamma.LEN_l, Gamma.LEN_chunks]) gamma_len_ok
theorem deltaLen_some {n l : Nat} : Delta.LEN[n]? = some l → l = lenDelta none none n :=
  lenTable_some (by simp [Delta.LEN, Delta.LEN_l, Delta.LEN_chunks]) delta_len_ok
theorem zetaLen_some {n l : Nat} : Zeta.LEN[n]? = some l → l = lenZetaDefault n Zeta.K :=
  lenTable_some (by simp [Zeta.LEN, Zeta.LEN_l, Zeta.LEN_chunks]) zeta_len_ok

/-! The table look-ups `opt b … LEN` and the `P` variants agree with the closed formulas whatever
    the table flags are. -/

theorem lenGamma_opt_eq (b : Bool) (n : Nat) : lenGamma (opt b Gamma.LEN) n = lenGammaDefault n := by
  cases b
  · rfl
  · simp only [opt, lenGamma, if_true]
    split
    · next l hl => exact gammaLen_some hl
    · rfl

theorem lenGammaP_eq (b : Bool) (n : Nat) : lenGammaP b n = lenGammaDefault n :=
  lenGamma_opt_eq b n

theorem lenDeltaP_eq (bd bg : Bool) (n : Nat) : lenDeltaP bd bg n = lenDelta none none n := by
  have hd : (n + 1).log2 + lenGamma (opt bg Gamma.LEN) (n + 1).log2 = lenDelta none none n := by
    rw [lenGamma_opt_eq]; rfl
  cases bd
  · exact hd
  · simp only [lenDeltaP, opt, lenDelta, if_true]
    split
    · next l hl => exact deltaLen_some hl
    · exact hd

theorem lenZetaP_eq (b : Bool) (n k : Nat) : lenZetaP b n k = lenZetaDefault n k := by
  cases b
  · rfl
  · simp only [lenZetaP, opt, lenZeta, if_true]
    split
    · next hk =>
      subst hk
      split
      · next l hl => exact zetaLen_some hl
      · rfl
    · rfl

theorem lenExpGolomb_opt_eq (b : Bool) (n k : Nat) :
    lenExpGolomb (opt b Gamma.LEN) n k = lenExpGolomb none n k := by
  unfold lenExpGolomb
  rw [lenGamma_opt_eq]; rfl

theorem lenGammaD_eq (n : Nat) : lenGammaD n = lenGammaDefault n := lenGammaP_eq _ n
theorem lenDeltaD_eq (n : Nat) : lenDeltaD n = lenDelta none none n := lenDeltaP_eq _ _ n
theorem lenZetaD_eq (n k : Nat) : lenZetaD n k = lenZetaDefault n k := lenZetaP_eq _ n k
theorem lenExpGolombD_eq (n k : Nat) : lenExpGolombD n k = lenExpGolomb none n k :=
  lenExpGolomb_opt_eq _ n k

theorem lenGammaD_mono {m n : Nat} (h : m ≤ n) : lenGammaD m ≤ lenGammaD n := by
  rw [lenGammaD_eq, lenGammaD_eq]; exact lenGammaDefault_mono h

theorem lenDeltaD_mono {m n : Nat} (h : m ≤ n) : lenDeltaD m ≤ lenDeltaD n := by
  rw [lenDeltaD_eq, lenDeltaD_eq]; exact lenDelta_none_mono h

theorem lenZetaD_mono (k : Nat) (hk1 : 1 ≤ k) {m n : Nat} (h : m ≤ n)
    (hn : n < 2 ^ 64 - 1) : lenZetaD m k ≤ lenZetaD n k := by
  rw [lenZetaD_eq, lenZetaD_eq]; exact lenZetaDefault_mono k hk1 h hn

theorem lenExpGolombD_mono (k : Nat) {m n : Nat} (h : m ≤ n) :
    lenExpGolombD m k ≤ lenExpGolombD n k := by
  rw [lenExpGolombD_eq, lenExpGolombD_eq]; exact lenExpGolomb_none_mono k h

end Dsi
