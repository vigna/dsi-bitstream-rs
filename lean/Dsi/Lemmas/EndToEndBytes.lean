/-
  End-to-end: the byte image.  Bits of a byte list (`bitsOfBytes`), bytes of a bit list
  (`layout`), and the logical words the readers are built from (`wordsOfBytes`): they are mutually
  inverse up to zero padding.
-/
import Dsi.Props.Writer
import Dsi.Props.Reader
import Dsi.Session
import Dsi.Lemmas.IOViewBits
import Dsi.Lemmas.CopyRef
namespace Dsi
namespace E2E

theorem byteOfBits_lt (e : Endian) (bs : List Bool) : byteOfBits e bs < 256 := by
  have h := bitsVal_lt e (takeZ 8 bs)
  rwa [takeZ_length] at h

theorem wordBytes_length {W : Nat} (e : Endian) (w : BitVec W) : (BufW.wordBytes e w).length = W / 8 := by
  cases e <;> simp [BufW.wordBytes]

@[simp] theorem bitsOfBytes_nil (e : Endian) : bitsOfBytes e [] = [] := rfl

theorem bitsOfBytes_append (e : Endian) (l1 l2 : List Nat) :
    bitsOfBytes e (l1 ++ l2) = bitsOfBytes e l1 ++ bitsOfBytes e l2 :=
  IOViewL.bitsOfBytes_append e l1 l2

@[simp] theorem bitsOfBytes_length (e : Endian) (l : List Nat) :
    (bitsOfBytes e l).length = 8 * l.length := IOViewL.bitsOfBytes_length e l

theorem bitsOfBytes_zeros (e : Endian) (k : Nat) :
    bitsOfBytes e (List.replicate k 0) = List.replicate (8 * k) false := by
  rw [bitsOfBytes, List.flatMap_replicate, ← replicate_false_eq e 8,
    List.flatten_replicate_replicate, Nat.mul_comm]

theorem bitsOfBytes_flatten (e : Endian) (cs : List (List Nat)) :
    bitsOfBytes e cs.flatten = cs.flatMap (bitsOfBytes e) := by
  rw [bitsOfBytes, ← List.flatMap_id, List.flatMap_assoc]
  rfl

end E2E

open E2E

/-- **Byte image.** Reading back the bits of the canonical byte layout of `bits` gives `bits`
    followed by the zero padding up to a byte boundary. -/
theorem e2e_bits_of_layout (e : Endian) (bits : List Bool) :
    bitsOfBytes e (layout e bits) = bits ++ List.replicate ((8 - bits.length % 8) % 8) false := by
  -- the first byte gives back the first eight bits, zero-extended when fewer are left
  induction bits using layout_induction with
  | nil => rfl
  | step b t ih =>
    have h8 := fieldBits_bitsVal e (takeZ 8 (b :: t))
    rw [takeZ_length] at h8
    rw [layout_unfold, IOViewL.bitsOfBytes_cons, byteOfBits, h8, ih, takeZ_eq, List.append_assoc]
    by_cases hl : 8 ≤ (b :: t).length
    · rw [Nat.sub_eq_zero_of_le hl, List.replicate_zero, List.nil_append, ← List.append_assoc,
        List.take_append_drop, List.length_drop,
        show ((b :: t).length - 8) % 8 = (b :: t).length % 8 by omega]
    · have hlt : (b :: t).length < 8 := Nat.lt_of_not_le hl
      have h0 : 8 - (b :: t).length < 8 := Nat.sub_lt (by decide) (Nat.succ_pos t.length)
      rw [List.drop_eq_nil_of_le (Nat.le_of_lt hlt), List.take_of_length_le (Nat.le_of_lt hlt),
        List.length_nil, Nat.zero_mod, Nat.sub_zero, Nat.mod_self, List.replicate_zero,
        List.append_nil, Nat.mod_eq_of_lt hlt, Nat.mod_eq_of_lt h0, List.append_nil]

theorem e2e_layout_lt (e : Endian) (bits : List Bool) : ∀ b ∈ layout e bits, b < 256 := by
  induction bits using layout_induction with
  | nil => intro b hb; cases hb
  | step b t ih =>
    rw [layout_unfold]
    intro x hx
    rcases List.mem_cons.1 hx with h | h
    · rw [h]; exact byteOfBits_lt e _
    · exact ih x h

theorem e2e_layout_length (e : Endian) (bits : List Bool) :
    (layout e bits).length = (bits.length + 7) / 8 := by
  have := congrArg List.length (e2e_bits_of_layout e bits)
  rw [bitsOfBytes_length, List.length_append, List.length_replicate] at this
  omega

namespace E2E

theorem chunksExact_succ {B : Nat} (hB : 0 < B) {k : Nat} {l : List Nat}
    (hl : l.length = (k + 1) * B) (f : Nat) :
    (chunksExact B l (f + 1)).1 = l.take B :: (chunksExact B (l.drop B) f).1 ∧
      (l.take B).length = B ∧ (l.drop B).length = k * B := by
  rw [Nat.succ_mul] at hl
  have hge : ¬ l.length < B := Nat.not_lt.2 (hl ▸ Nat.le_add_left _ _)
  refine ⟨?_, ?_, ?_⟩
  · rw [chunksExact, if_neg (Nat.ne_of_gt hB), if_neg hge]
  · rw [List.length_take, Nat.min_eq_left (Nat.le_of_not_lt hge)]
  · rw [List.length_drop, hl, Nat.add_sub_cancel]

theorem chunksExact_zero {B : Nat} (hB : 0 < B) {l : List Nat} (hl : l.length = 0 * B) (f : Nat) :
    (chunksExact B l f).1 = [] := by
  rw [Nat.zero_mul] at hl
  rw [List.eq_nil_of_length_eq_zero hl]
  cases f with
  | zero => rfl
  | succ f => rw [chunksExact, if_neg (Nat.ne_of_gt hB), if_pos (show [].length < B from hB)]

theorem chunksExact_spec {B : Nat} (hB : 0 < B) (k : Nat) : ∀ (l : List Nat) (fuel : Nat),
    l.length = k * B → k ≤ fuel →
    (chunksExact B l fuel).1.flatten = l ∧ (∀ c ∈ (chunksExact B l fuel).1, c.length = B) ∧
      (chunksExact B l fuel).1.length = k := by
  induction k with
  | zero =>
    intro l fuel hl _
    rw [chunksExact_zero hB hl, List.eq_nil_of_length_eq_zero (hl.trans (Nat.zero_mul B))]
    exact ⟨rfl, fun c hc => (nomatch hc), rfl⟩
  | succ k ih =>
    intro l fuel hl hk
    obtain ⟨f, rfl⟩ := Nat.exists_eq_succ_of_ne_zero (Nat.ne_of_gt (Nat.lt_of_lt_of_le k.succ_pos hk))
    obtain ⟨hc, ht, hd⟩ := chunksExact_succ hB hl f
    obtain ⟨h1, h2, h3⟩ := ih (l.drop B) f hd (Nat.le_of_succ_le_succ hk)
    rw [hc]
    refine ⟨by rw [List.flatten_cons, h1, List.take_append_drop], fun c hc => ?_,
      by rw [List.length_cons, h3]⟩
    rcases List.mem_cons.1 hc with h | h
    · rw [h, ht]
    · exact h2 c h

theorem chunksExact_fuel {B : Nat} (hB : 0 < B) (k : Nat) : ∀ (l : List Nat) (f1 f2 : Nat),
    l.length = k * B → k ≤ f1 → k ≤ f2 → (chunksExact B l f1).1 = (chunksExact B l f2).1 := by
  induction k with
  | zero => intro l f1 f2 hl _ _; rw [chunksExact_zero hB hl, chunksExact_zero hB hl]
  | succ k ih =>
    intro l f1 f2 hl h1 h2
    obtain ⟨g1, rfl⟩ := Nat.exists_eq_succ_of_ne_zero (Nat.ne_of_gt (Nat.lt_of_lt_of_le k.succ_pos h1))
    obtain ⟨g2, rfl⟩ := Nat.exists_eq_succ_of_ne_zero (Nat.ne_of_gt (Nat.lt_of_lt_of_le k.succ_pos h2))
    rw [(chunksExact_succ hB hl g1).1, (chunksExact_succ hB hl g2).1,
      ih (l.drop B) g1 g2 (chunksExact_succ hB hl g1).2.2 (Nat.le_of_succ_le_succ h1)
        (Nat.le_of_succ_le_succ h2)]

/-- the value of a chunk of bytes as a logical word -/
def wordVal (e : Endian) (c : List Nat) : Nat :=
  match e with
  | .be => beVal c
  | .le => leVal c

theorem wordsOfBytes_eq (e : Endian) (W : Nat) (bytes : List Nat) :
    wordsOfBytes e W bytes
      = (chunksExact (W / 8) (padTo (W / 8) bytes) bytes.length).1.map
          (fun c => BitVec.ofNat W (wordVal e c)) := by
  cases e <;> rfl

theorem word_of_chunk (e : Endian) {W : Nat} (h8 : 8 ∣ W) (c : List Nat) (hl : c.length = W / 8)
    (hc : ∀ b ∈ c, b < 256) :
    wordBits e (BitVec.ofNat W (wordVal e c)) = bitsOfBytes e c := by
  obtain ⟨m, rfl⟩ := h8
  rw [Nat.mul_div_cancel_left m (by decide : 0 < 8)] at hl
  subst hl
  rw [wordBits, BitVec.toNat_ofNat, fieldBits_mod e _ (Nat.le_refl _)]
  exact IOViewL.fieldBits_wordOf e c hc

theorem padTo_eq {k : Nat} (hk : 0 < k) (bs : List Nat) :
    padTo k bs = bs ++ List.replicate ((k - bs.length % k) % k) 0 := by
  simp [padTo, Nat.ne_of_gt hk]

theorem padTo_whole {k : Nat} (hk : 0 < k) (bs : List Nat) :
    ∃ q, (padTo k bs).length = q * k ∧ q ≤ bs.length := by
  rw [padTo_eq hk, List.length_append, List.length_replicate]
  have hdm := Nat.div_add_mod bs.length k
  have hq : bs.length / k * 1 ≤ bs.length / k * k := Nat.mul_le_mul_left _ hk
  by_cases h : bs.length % k = 0
  · refine ⟨bs.length / k, ?_, Nat.div_le_self _ _⟩
    rw [h, Nat.sub_zero, Nat.mod_self, Nat.add_zero, Nat.mul_comm]
    rw [h, Nat.add_zero] at hdm
    exact hdm.symm
  · have hlt := Nat.mod_lt bs.length hk
    refine ⟨bs.length / k + 1, ?_, ?_⟩
    · rw [Nat.mod_eq_of_lt (Nat.sub_lt hk (Nat.pos_of_ne_zero h)), Nat.add_mul, Nat.one_mul,
        Nat.mul_comm]
      omega
    · rw [Nat.mul_comm] at hdm; omega

theorem padTo_length_mod {k : Nat} (hk : 0 < k) (bs : List Nat) : (padTo k bs).length % k = 0 := by
  obtain ⟨q, hq, _⟩ := padTo_whole hk bs
  rw [hq, Nat.mul_mod_left]

theorem padTo_of_mod {k : Nat} (bs : List Nat) (h : bs.length % k = 0) : padTo k bs = bs := by
  by_cases hk : k = 0
  · simp [padTo, hk]
  · simp [padTo, hk, h]

theorem padTo_lt {k : Nat} (bs : List Nat) (h : ∀ b ∈ bs, b < 256) : ∀ b ∈ padTo k bs, b < 256 := by
  intro b hb
  unfold padTo at hb
  split at hb
  · exact h b hb
  · rcases List.mem_append.1 hb with h1 | h1
    · exact h b h1
    · rw [(List.mem_replicate.1 h1).2]; decide

theorem padTo_chunks_le {k : Nat} (hk : 0 < k) (bs : List Nat) :
    (padTo k bs).length / k ≤ bs.length := by
  obtain ⟨q, hq, hle⟩ := padTo_whole hk bs
  rw [hq, Nat.mul_div_cancel _ hk]
  exact hle

theorem padTo_length_eq {k : Nat} (hk : 0 < k) (bs : List Nat) :
    (padTo k bs).length = (padTo k bs).length / k * k := by
  obtain ⟨q, hq, _⟩ := padTo_whole hk bs
  rw [hq, Nat.mul_div_cancel _ hk]

end E2E

/-- **Byte image.** The bits of the logical words a reader of word size `W` is
    built from are the bits of the byte image, zero-padded to a whole number of words. -/
theorem e2e_words_of_bytes_padded (e : Endian) {W : Nat} (h8 : 8 ∣ W) (hW : 0 < W) (bytes : List Nat)
    (hb : ∀ b ∈ bytes, b < 256) :
    (wordsOfBytes e W bytes).flatMap (wordBits e) = bitsOfBytes e (padTo (W / 8) bytes) := by
  have hB : 0 < W / 8 := Nat.div_pos (Nat.le_of_dvd hW h8) (by decide)
  obtain ⟨h1, h2, _⟩ := chunksExact_spec hB _ (padTo (W / 8) bytes) bytes.length
    (padTo_length_eq hB bytes) (padTo_chunks_le hB bytes)
  have hlt := padTo_lt (k := W / 8) bytes hb
  rw [wordsOfBytes_eq]
  generalize (chunksExact (W / 8) (padTo (W / 8) bytes) bytes.length).1 = cs at h1 h2
  rw [← h1, bitsOfBytes_flatten, List.flatMap_map, List.flatMap_def, List.flatMap_def]
  exact congrArg List.flatten (List.map_congr_left fun c hc =>
    word_of_chunk e h8 c (h2 c hc) fun b hb => hlt b (h1 ▸ List.mem_flatten.2 ⟨c, hc, hb⟩))

/-- padding the byte image explicitly before building the words changes nothing (`wordsOfBytes`
    pads by itself) -/
theorem e2e_words_padTo (e : Endian) {W : Nat} (h8 : 8 ∣ W) (hW : 0 < W) (bytes : List Nat) :
    wordsOfBytes e W (padTo (W / 8) bytes) = wordsOfBytes e W bytes := by
  have hB : 0 < W / 8 := Nat.div_pos (Nat.le_of_dvd hW h8) (by decide)
  rw [wordsOfBytes_eq, wordsOfBytes_eq, padTo_of_mod _ (padTo_length_mod hB bytes)]
  exact congrArg _ (chunksExact_fuel hB _ _ _ _ (padTo_length_eq hB bytes) (Nat.div_le_self _ _)
    (padTo_chunks_le hB bytes))

theorem e2e_words_of_bytes (e : Endian) {Wr : Nat} (h8 : 8 ∣ Wr) (hW : 0 < Wr) (bytes : List Nat)
    (hb : ∀ b ∈ bytes, b < 256) (hlen : bytes.length % (Wr / 8) = 0) :
    (wordsOfBytes e Wr bytes).flatMap (wordBits e) = bitsOfBytes e bytes := by
  rw [e2e_words_of_bytes_padded e h8 hW bytes hb, padTo_of_mod bytes hlen]

end Dsi
