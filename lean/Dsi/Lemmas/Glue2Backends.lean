/-
  Glue 2, part 1: the backends of the concrete writer.  `BufW` delivers words to an append-only
  list `out` (with an optional capacity); the real backends are the in-memory word writers
  (`MemW`, vector or slice), treated here, and the `WordAdapter` over a byte sink
  (Lemmas/Glue2Adapter.lean).  The memory writers behave like the list.
-/
import Dsi.Props.Writer
import Dsi.Props.C11
import Dsi.Props.C13
import Dsi.Lemmas.EndToEndBytes
namespace Dsi
namespace G2
variable {W : Nat}

def memwWriteAll : MemW W → List (BitVec W) → Res (MemW W)
  | m, [] => .ok m
  | m, w :: ws =>
    match m.writeWord w with
    | .ok m' => memwWriteAll m' ws
    | .err e => .err e
    | .panic => .panic
    | .dpanic => .dpanic

def emitAll : BufW W → List (BitVec W) → Res (BufW W)
  | s, [] => .ok s
  | s, w :: ws =>
    match s.emit w with
    | .ok s' => emitAll s' ws
    | .err e => .err e
    | .panic => .panic
    | .dpanic => .dpanic

/-- The memory backend `m` holds exactly what the writer `s` has delivered: the cursor stands
    after the delivered words; a growable backend (vector) holds them and nothing else, a fixed
    one (slice of `c` words) holds them followed by its untouched zero words. -/
def BackRel (s : BufW W) (m : MemW W) : Prop :=
  m.pos = s.out.length ∧
  (s.cap = none → m.growable = true ∧ m.data = s.out) ∧
  (∀ c, s.cap = some c → m.growable = false ∧ s.out.length ≤ c ∧
    m.data = s.out ++ List.replicate (c - s.out.length) 0)

theorem set_append_replicate (out : List (BitVec W)) (k : Nat) (hk : 0 < k) (w : BitVec W) :
    (out ++ List.replicate k 0).set out.length w = out ++ [w] ++ List.replicate (k - 1) 0 := by
  obtain ⟨k, rfl⟩ := Nat.exists_eq_succ_of_ne_zero (Nat.ne_of_gt hk)
  rw [List.set_append_right _ _ (Nat.le_refl _), Nat.sub_self, List.replicate_succ, List.set_cons_zero]
  simp

theorem emit_backend {s : BufW W} {m : MemW W} (h : BackRel s m) (w : BitVec W) :
    ResRel BackRel (s.emit w) (m.writeWord w) := by
  obtain ⟨buffer, space, out, cap, checks⟩ := s
  obtain ⟨data, pos, growable⟩ := m
  obtain ⟨hpos, hnone, hsome⟩ := h
  simp only at hpos hnone hsome
  subst hpos
  cases cap with
  | none =>
    obtain ⟨rfl, rfl⟩ := hnone rfl
    simp only [BufW.emit, MemW.writeWord, Nat.lt_irrefl, if_false, if_true, Nat.sub_self,
      List.replicate_zero, List.append_nil, ResRel]
    unfold BackRel
    exact ⟨by simp, fun _ => ⟨rfl, rfl⟩, fun c hc => (by cases hc)⟩
  | some c =>
    obtain ⟨rfl, hle, rfl⟩ := hsome c rfl
    by_cases hlt : out.length < c
    · have hp : out.length < (out ++ List.replicate (c - out.length) (0 : BitVec W)).length := by
        rw [List.length_append, List.length_replicate]
        exact Nat.lt_add_of_pos_right (Nat.sub_pos_of_lt hlt)
      simp only [BufW.emit, MemW.writeWord, hlt, hp, if_true, ResRel]
      unfold BackRel
      refine ⟨by simp, fun hc => (by cases hc), fun c' hc' => ?_⟩
      simp only [Option.some.injEq] at hc'
      subst hc'
      refine ⟨rfl, by rw [List.length_append]; exact hlt, ?_⟩
      rw [set_append_replicate out _ (Nat.sub_pos_of_lt hlt) w]
      simp only [List.length_append, List.length_singleton]
      congr 2
    · have hp : ¬ out.length < (out ++ List.replicate (c - out.length) (0 : BitVec W)).length := by
        rw [List.length_append, List.length_replicate, Nat.sub_eq_zero_of_le (Nat.not_lt.1 hlt)]
        exact Nat.lt_irrefl _
      simp only [BufW.emit, MemW.writeWord, hlt, hp, if_false, ResRel]
      simp

theorem emitAll_backend (ws : List (BitVec W)) : ∀ {s : BufW W} {m : MemW W}, BackRel s m →
    ResRel BackRel (emitAll s ws) (memwWriteAll m ws) := by
  induction ws with
  | nil => intro s m h; exact h
  | cons w ws ih =>
    intro s m h
    have h1 := emit_backend h w
    unfold emitAll memwWriteAll
    revert h1
    generalize s.emit w = x
    generalize m.writeWord w = y
    intro h1
    match x, y, h1 with
    | .ok s', .ok m', h' => exact ih h'
    | .err _, .err _, h' => exact h'
    | .panic, .panic, _ => trivial
    | .dpanic, .dpanic, _ => trivial

theorem emitAll_eq_bufW (ws : List (BitVec W)) (s : BufW W) : emitAll s ws = BufW.emitAll s ws := by
  induction ws generalizing s with
  | nil => rfl
  | cons w ws ih =>
    rw [emitAll, BufW.emitAll]
    cases s.emit w with
    | ok s' => exact ih s'
    | _ => rfl

theorem emitAll_eq (ws : List (BitVec W)) (s : BufW W) (hc : s.CapOk) :
    emitAll s ws = if capFits s.cap (s.out.length + ws.length) then .ok { s with out := s.out ++ ws }
      else .err .eof :=
  (emitAll_eq_bufW ws s).trans (BufW.emitAll_eq s ws hc)

theorem _root_.Dsi.ResRel.of_err_left {α β : Type} {R : α → β → Prop} {e : Err} {y : Res β}
    (h : ResRel R (.err e : Res α) y) : y = .err e := by
  cases y <;> first | exact h.elim | exact congrArg _ (Eq.symm h)

theorem BackRel.eq {s : BufW W} {m : MemW W} (h : BackRel s m) :
    m = match s.cap with
      | none => { data := s.out, pos := s.out.length, growable := true }
      | some c => { data := s.out ++ List.replicate (c - s.out.length) 0, pos := s.out.length,
                    growable := false } := by
  obtain ⟨data, pos, growable⟩ := m
  obtain ⟨hpos, hnone, hsome⟩ := h
  cases hc : s.cap with
  | none => obtain ⟨h1, h2⟩ := hnone hc; exact congr (congr (congrArg _ h2) hpos) h1
  | some c => obtain ⟨h1, _, h2⟩ := hsome c hc; exact congr (congr (congrArg _ h2) hpos) h1

def memwNew (W : Nat) : Option Nat → MemW W
  | none => { data := [], pos := 0, growable := true }
  | some c => { data := List.replicate c 0, pos := 0, growable := false }

theorem backRel_new (checks : Bool) (cap : Option Nat) :
    BackRel (BufW.new W checks cap) (memwNew W cap) := by
  cases cap with
  | none => exact ⟨rfl, fun _ => ⟨rfl, rfl⟩, fun c hc => (by cases hc)⟩
  | some c =>
    refine ⟨rfl, fun hc => (by cases hc), fun c' hc' => ?_⟩
    simp only [BufW.new, Option.some.injEq] at hc'
    subst hc'
    exact ⟨rfl, Nat.zero_le _, by simp [BufW.new, memwNew]⟩

theorem memwWriteAll_new (checks : Bool) (cap : Option Nat) (ws : List (BitVec W)) :
    ResRel BackRel
      (if capFits cap ws.length then .ok { BufW.new W checks cap with out := ws } else .err .eof)
      (memwWriteAll (memwNew W cap) ws) := by
  have h0 : (BufW.new W checks cap).CapOk := by cases cap <;> simp [BufW.CapOk, BufW.new, capFits]
  have := emitAll_backend ws (backRel_new (W := W) checks cap)
  rwa [emitAll_eq ws _ h0, show (BufW.new W checks cap).out = [] from rfl, List.length_nil,
    Nat.zero_add, List.nil_append] at this

end G2
end Dsi
