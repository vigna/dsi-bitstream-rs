/-
  Unbuffered `BitReader`: `read_unary` (the word-scanning loop) against the reference reader.
-/
import Dsi.Lemmas.BitReaderOps
namespace Dsi
namespace BitRd

/-- `leading_zeros` (BE) / `trailing_zeros` (LE) -/
def zerosOf (e : Endian) (w : BitVec 64) : Nat :=
  match e with
  | .be => BufR.clz w
  | .le => BufR.ctz w

theorem zerosOf_le (e : Endian) (w : BitVec 64) : zerosOf e w ≤ 64 := by
  cases e
  · exact zerosB_le .be w
  · exact zerosB_le .le w

theorem unaryLoop_succ (e : Endian) (fuel : Nat) (d : MemR 64) (word : BitVec 64) (biw total : Nat) :
    BitR.unaryLoop e (fuel + 1) d word biw total =
      if zerosB e word < biw then .ok (total + zerosB e word, d)
      else
        match d.readWord with
        | .ok (w, d') => BitR.unaryLoop e fuel d' w 64 (total + biw)
        | .err er => .err er
        | .panic => .panic
        | .dpanic => .dpanic := by
  cases e <;> rfl

theorem readUnary_eq (e : Endian) (s : BitR) :
    BitR.readUnary e s =
      match s.data.setWordPos (s.bitIndex / 64) with
      | .ok d0 =>
        match d0.readWord with
        | .ok (w, d1) =>
          match BitR.unaryLoop e (d1.data.length + 3 - d1.pos) d1 (dropB e w (s.bitIndex % 64))
              (64 - s.bitIndex % 64) 0 with
          | .ok (r, d2) => .ok (r, { data := d2, bitIndex := s.bitIndex + r + 1 })
          | .err er => .err er
          | .panic => .panic
          | .dpanic => .dpanic
        | .err er => .err er
        | .panic => .panic
        | .dpanic => .dpanic
      | .err er => .err er
      | .panic => .panic
      | .dpanic => .dpanic := by
  cases e <;> rfl

/-- outcome relation of the unary loop: same count, backend over the same data, reference moved
    past the terminating one -/
def UnaryPost (d : MemR 64) (r : RefR) (a : Nat × MemR 64) (b : Nat × RefR) : Prop :=
  a.1 = b.1 ∧ a.2.data = d.data ∧ a.2.strict = d.strict ∧ b.2 = { r with pos := r.pos + a.1 + 1 }

/-- the loop entered with `total` zeros behind the reference position and the next `biw` bits of
    the stream at the front of `word` -/
theorem unaryLoop_spec (e : Endian) (fuel : Nat) (d : MemR 64) (word : BitVec 64) (biw total : Nat)
    (r : RefR) (hstrict : r.strict = d.strict) (hstream : r.stream = d.data.flatMap (wordBits e))
    (hpos : r.pos + (total + biw) = d.pos * 64) (hb : biw ≤ 64)
    (hz : ∀ i, i < total → bitZ r.stream (r.pos + i) = false)
    (hw : ∀ i, i < biw → sbit e word i = bitZ r.stream (r.pos + (total + i)))
    (hstr : d.strict = true → d.pos ≤ d.data.length)
    (hfuel : d.data.length + 3 - d.pos ≤ fuel) :
    ResRel (UnaryPost d r) (BitR.unaryLoop e fuel d word biw total) (RefR.readUnary r) := by
  induction fuel generalizing d word biw total with
  | zero =>
    have hs : d.strict = false := by
      cases hst : d.strict
      · rfl
      · have := hstr hst; omega
    have hlen : r.stream.length = d.data.length * 64 := by rw [hstream, length_flatMap_wordBits]
    rw [RefR.readUnary_none fun i => by
      by_cases hi : i < total
      · exact hz i hi
      · exact bitZ_of_ge (by omega), hstrict, hs]
    trivial
  | succ fuel ih =>
    rw [unaryLoop_succ]
    have hscan := RefR.readUnary_scan hz hw hb
    by_cases hc : zerosB e word < biw
    · rw [if_pos hc] at hscan
      rw [if_pos hc, hscan]
      exact ⟨rfl, rfl, rfl, rfl⟩
    · rw [if_neg hc] at hscan
      rw [if_neg hc]
      rcases d.readWord_cases with ⟨hs, hp, hr⟩ | ⟨hp, hr⟩
      · rw [hr, RefR.readUnary_none (RefR.none_ahead d _ r hstream hpos hscan hp), hstrict, hs]
        rfl
      · rw [hr]
        exact ih { d with pos := d.pos + 1 } (d.data.getD d.pos 0) 64 (total + biw) hstrict hstream
          (by show r.pos + (total + biw + 64) = (d.pos + 1) * 64; omega) (Nat.le_refl _) hscan
          (fun i hi => by rw [sbit_word e d.data d.pos i hi, hstream, ← hpos, Nat.add_assoc])
          (fun hs => hp hs) (by show d.data.length + 3 - (d.pos + 1) ≤ fuel; omega)

/-- no restriction: on a zero-extended stream with no one ahead the model runs out of fuel
    (`dpanic`) exactly where the reference is `dpanic`; on a strict stream both are `err eof` -/
theorem readUnary_sim {e : Endian} {s : BitR} {r : RefR} (h : BitR.Rel e s r) :
    ResRel (fun a b => a.1 = b.1 ∧ BitR.Rel e a.2 b.2) (BitR.readUnary e s) (RefR.readUnary r) := by
  have hlen := rel_length h
  have hrel := h
  obtain ⟨he, hstrict, hpm, hstream, hpos⟩ := h
  obtain ⟨⟨data, mpos, strict⟩, bi⟩ := s
  simp only at hlen hstrict hstream hpos
  have hdm : bi / 64 * 64 + bi % 64 = bi := Nat.div_add_mod' bi 64
  have hm : bi % 64 < 64 := Nat.mod_lt _ (by decide)
  -- a strict backend without the word at the cursor: nothing is ahead of the reference either
  have hbeyond : strict = true → data.length ≤ bi / 64 → RefR.readUnary r = .err .eof := fun hs hle => by
    rw [RefR.readUnary_none fun i => bitZ_of_ge (by omega), hstrict, hs]; rfl
  rw [readUnary_eq]
  dsimp only
  by_cases c1 : strict = true ∧ data.length < bi / 64
  · rw [MemR.setWordPos_err _ c1.1 c1.2, hbeyond c1.1 (Nat.le_of_lt c1.2)]
    rfl
  rw [MemR.setWordPos_ok _ fun hs => Nat.le_of_not_lt fun hlt => c1 ⟨hs, hlt⟩]
  dsimp only
  rcases MemR.readWord_cases ⟨data, bi / 64, strict⟩ with ⟨hs, hp, hw⟩ | ⟨hp, hw⟩
  · rw [hw, hbeyond hs hp]
    rfl
  · rw [hw]
    dsimp only
    have hpost := unaryLoop_spec e (data.length + 3 - (bi / 64 + 1))
      { data := data, pos := bi / 64 + 1, strict := strict }
      (dropB e (data.getD (bi / 64) 0) (bi % 64)) (64 - bi % 64) 0 r hstrict hstream
      (by show r.pos + (0 + (64 - bi % 64)) = (bi / 64 + 1) * 64; omega) (by omega)
      (fun i hi => absurd hi (Nat.not_lt_zero _))
      (fun i hi => by
        rw [sbit_dropB, sbit_word e data _ _ (by omega), ← hstream, ← Nat.add_assoc, hdm, hpos, Nat.zero_add])
      (fun hs => hp hs) (Nat.le_refl _)
    generalize BitR.unaryLoop e _ _ _ (64 - bi % 64) 0 = x at hpost
    generalize RefR.readUnary r = y at hpost
    rcases x with ⟨z, d2⟩ | _ | _ | _ <;> rcases y with ⟨_, _⟩ | _ | _ | _ <;>
      first | exact hpost.elim | exact hpost | skip
    obtain ⟨rfl, a2, a3, rfl⟩ := hpost
    exact ⟨rfl, rel_move hrel a2 a3 rfl rfl rfl rfl (by show r.pos + z + 1 = bi + z + 1; rw [hpos])⟩

end BitRd
end Dsi
