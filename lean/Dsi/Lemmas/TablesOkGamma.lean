/-
  C05 — the γ tables against the bit-by-bit programs.  Each statement is a closed Boolean
  computation over the whole *generated* table (no table content is mentioned here); the kernel
  evaluates it (`decide +kernel`: no `native_decide`, no compiler trust), the decoding and encoding
  tables on the number machines of `TablesNat`, the length table as stated.
-/
import Dsi.Lemmas.TablesNat
import Dsi.Gen.TablesGamma
namespace Dsi
open Gen Tables

/-- every entry of the big-endian γ decoding table is a miss or agrees with `readGammaDefault` -/
theorem gamma_read_be_ok :
    chkReadTable .be readGammaDefault Gamma.READ_BITS Gamma.MISSING_VALUE_LEN_BE
      Gamma.READ_BE_chunks Gamma.READ_LEN_BE_chunks = true :=
  chkReadTable_of_shared peekFree_gamma (by decide +kernel)

theorem gamma_read_le_ok :
    chkReadTable .le readGammaDefault Gamma.READ_BITS Gamma.MISSING_VALUE_LEN_LE
      Gamma.READ_LE_chunks Gamma.READ_LEN_LE_chunks = true :=
  chkReadTable_of_shared peekFree_gamma (by decide +kernel)

/-- every entry of the big-endian γ encoding table is the codeword `writeGammaDefault` writes -/
theorem gamma_write_be_ok :
    chkWriteTable .be (writeGammaDefault false) Gamma.WRITE_MAX
      Gamma.WRITE_BE_chunks Gamma.WRITE_LEN_BE_chunks = true :=
  chkWriteTable_of_nat (by decide +kernel)

theorem gamma_write_le_ok :
    chkWriteTable .le (writeGammaDefault false) Gamma.WRITE_MAX
      Gamma.WRITE_LE_chunks Gamma.WRITE_LEN_LE_chunks = true :=
  chkWriteTable_of_nat (by decide +kernel)

/-- `LEN[v] = lenGammaDefault v` for the `WRITE_MAX + 1` entries of the γ length table -/
theorem gamma_len_ok :
    chkLenTable lenGammaDefault Gamma.WRITE_MAX Gamma.LEN_chunks = true := by decide +kernel

end Dsi
