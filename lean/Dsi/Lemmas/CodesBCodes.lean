/-
  Minimal binary and ζ: the published codewords written in terms of the quantities the
  implementation computes (`mbLimit`, `zetaU`), so that the programs can be followed step by step.
-/
import Dsi.Spec
import Dsi.Lemmas.CodesBFrame
import Dsi.Lemmas.CodesBArith
namespace Dsi.CodesB
open Dsi

/-- the published codeword with the threshold `T = 2^(l+1) - u` as a variable, so that no
    truncated subtraction is left -/
theorem minimalBinary_eq (e : Endian) (x : Nat) {u T : Nat} (hT : T + u = 2 ^ (u.log2 + 1)) :
    Spec.minimalBinary e x u =
      if x < T then fieldBits e x u.log2
      else fieldBits e ((x + T) / 2) u.log2 ++ fieldBits e (x + T) 1 := by
  have h1 : 2 ^ (u.log2 + 1) - u = T := by rw [← hT, Nat.add_sub_cancel]
  have h2 : x + 2 ^ (u.log2 + 1) - u = x + T := by rw [← hT, ← Nat.add_assoc, Nat.add_sub_cancel]
  simp only [Spec.minimalBinary, h1, h2, fieldBits_one]

theorem mbLimit_add {u : Nat} (hu : 1 ≤ u) (h64 : u < 2 ^ 64) : mbLimit u + u = 2 ^ (u.log2 + 1) :=
  (mb_arith hu h64).1.trans Nat.pow_succ'.symm

theorem specMB_short (e : Endian) {x u : Nat} (hu : 1 ≤ u) (h64 : u < 2 ^ 64) (h : x < mbLimit u) :
    Spec.minimalBinary e x u = fieldBits e x u.log2 := by
  rw [minimalBinary_eq e x (mbLimit_add hu h64), if_pos h]

/-- the long codeword: `x + T` in `l + 1` bits, as its `l` high bits followed by the lowest -/
theorem specMB_long (e : Endian) {x u : Nat} (hu : 1 ≤ u) (h64 : u < 2 ^ 64) (h : ¬ x < mbLimit u) :
    Spec.minimalBinary e x u =
      fieldBits e ((x + mbLimit u) / 2) u.log2 ++ fieldBits e ((x + mbLimit u) % 2) 1 := by
  rw [minimalBinary_eq e x (mbLimit_add hu h64), if_neg h,
    fieldBits_congr e (show (x + mbLimit u) % 2 % 2 ^ 1 = (x + mbLimit u) % 2 ^ 1 from Nat.mod_mod ..)]

theorem zetaWrapped_eq (e : Endian) (k n : Nat) (hhk : (n + 1).log2 / k * k < 64) :
    Spec.zetaWrapped e k n = unaryBits ((n + 1).log2 / k) ++
      Spec.minimalBinary e (n + 1 - 2 ^ ((n + 1).log2 / k * k)) (zetaU ((n + 1).log2 / k) k) := by
  rw [zetaU_eq hhk]; rfl

end Dsi.CodesB
