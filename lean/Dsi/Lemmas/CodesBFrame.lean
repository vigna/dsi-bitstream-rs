/-
  The single-operation programs, with `ret` as continuation, on the L1 reference reader / writer.
-/
import Dsi.Lemmas.CodesACodes
namespace Dsi.CodesB
open Dsi

theorem writes_writeBits_ret (e : Endian) (checks : Bool) (v n : Nat) (hn : n ≤ 64)
    (hv : checks = false ∨ v % 2 ^ 64 < 2 ^ n) :
    Writes (WProg.writeBits v n WProg.ret) e checks (fieldBits e v n) :=
  Writes.wbits hn hv

theorem writes_writeUnary_ret (e : Endian) (checks : Bool) (x : Nat) (hx : x < 2 ^ 64 - 1) :
    Writes (WProg.writeUnary x WProg.ret) e checks (unaryBits x) :=
  Writes.wunary hx

theorem reads_readBits_ret (e : Endian) (v n : Nat) (hn : n ≤ 64) :
    Reads (RProg.readBits n RProg.ret) e (fieldBits e v n) (v % 2 ^ n) :=
  Reads.bits_pure hn rfl

theorem reads_readUnary_ret (e : Endian) (x : Nat) :
    Reads (RProg.readUnary RProg.ret) e (unaryBits x) x :=
  (Reads.readUnary (Reads.ret e x)).congr (List.append_nil _) rfl

end Dsi.CodesB
