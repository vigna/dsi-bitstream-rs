/-
  VByte at byte level: what the two encoders produce for the value of a list of groups (hence
  that they give back every terminated string from its value; that they produce the published
  bytes is drawn in `Props/CodesB`),
  and the two `std::io` readers of `Dsi.VByteIO` on terminated strings.
-/
import Dsi.Lemmas.CodesBVByte
namespace Dsi.CodesB
open Dsi

theorem groupsVal_lt_128 (b : Nat) : groupsVal [b] < 128 := by
  rw [groupsVal_singleton]; exact Nat.mod_lt _ (by decide)

theorem groupsVal_div_mod (b c : Nat) (t : List Nat) :
    groupsVal (b :: c :: t) / 128 = groupsVal (c :: t) + 1 ∧ groupsVal (b :: c :: t) % 128 = b % 128 := by
  rw [groupsVal_cons]
  exact ⟨by rw [Nat.add_mul_div_left _ _ (by decide), Nat.div_eq_of_lt (Nat.mod_lt _ (by decide)),
      Nat.zero_add], by rw [Nat.add_mul_mod_self_left, Nat.mod_mod]⟩

theorem leLoop_groupsVal : ∀ (s : List Nat) (fuel : Nat), s ≠ [] → s.length ≤ fuel →
    vbyteLeBytesLoop fuel (groupsVal s) = mark (s.map (· % 128)) := by
  intro s
  induction s with
  | nil => intro _ h; exact absurd rfl h
  | cons b t ih =>
    intro fuel _ hf
    cases fuel with
    | zero => exact absurd hf (Nat.not_succ_le_zero _)
    | succ f =>
    rw [vbyteLeBytesLoop]
    cases t with
    | nil =>
      rw [if_neg (not_not_intro (Nat.div_eq_of_lt (groupsVal_lt_128 b))), groupsVal_singleton,
        Nat.mod_mod]
      rfl
    | cons c t =>
      obtain ⟨hd, hm⟩ := groupsVal_div_mod b c t
      rw [hd, hm, if_pos (Nat.succ_ne_zero _), Nat.add_sub_cancel,
        ih f (List.cons_ne_nil _ _) (Nat.le_of_succ_le_succ hf)]
      rfl

theorem beLoop_zero (f : Nat) (acc : List Nat) : vbyteBeBytesLoop f 0 acc = acc := by
  cases f <;> rfl

theorem beLoop_groupsVal : ∀ (t : List Nat) (fuel : Nat) (acc : List Nat), t.length ≤ fuel → t ≠ [] →
    vbyteBeBytesLoop fuel (groupsVal t + 1) acc = t.reverse.map (· % 128 + 128) ++ acc := by
  intro t
  induction t with
  | nil => intro _ _ _ h; exact absurd rfl h
  | cons c t ih =>
    intro fuel acc hf _
    cases fuel with
    | zero => exact absurd hf (Nat.not_succ_le_zero _)
    | succ f =>
    rw [vbyteBeBytesLoop, if_neg (Nat.succ_ne_zero _), Nat.add_sub_cancel, List.reverse_cons,
      List.map_append, List.append_assoc]
    show vbyteBeBytesLoop f (groupsVal (c :: t) / 128) ((128 + groupsVal (c :: t) % 128) :: acc) = _
    cases t with
    | nil =>
      rw [Nat.div_eq_of_lt (groupsVal_lt_128 c), beLoop_zero, groupsVal_singleton, Nat.mod_mod,
        Nat.add_comm]; rfl
    | cons d t =>
      obtain ⟨hd, hm⟩ := groupsVal_div_mod c d t
      rw [hd, hm, ih f _ (Nat.le_of_succ_le_succ hf) (List.cons_ne_nil _ _), Nat.add_comm]; rfl

theorem leBytes_groupsVal {s : List Nat} (hs : s ≠ []) (hl : s.length ≤ 10) :
    vbyteLeBytes (groupsVal s) = mark (s.map (· % 128)) :=
  leLoop_groupsVal s 10 hs hl

theorem beBytes_groupsVal {s : List Nat} (hs : s ≠ []) (hl : s.length ≤ 10) :
    vbyteBeBytes (groupsVal s) = mark (s.reverse.map (· % 128)) := by
  rw [vbyteBeBytes]
  cases s with
  | nil => exact absurd rfl hs
  | cons b t =>
    rw [List.reverse_cons, List.map_append, List.map_cons, List.map_nil, mark_snoc, List.map_map]
    cases t with
    | nil =>
      rw [Nat.div_eq_of_lt (groupsVal_lt_128 b), beLoop_zero, groupsVal_singleton, Nat.mod_mod]; rfl
    | cons c t =>
      obtain ⟨hd, hm⟩ := groupsVal_div_mod b c t
      rw [hd, hm, beLoop_groupsVal _ 10 _ (Nat.le_of_succ_le hl) (List.cons_ne_nil _ _)]; rfl

theorem le_encode_decode (s : List Nat) (ht : Term s) (hx : ∀ b ∈ s, b < 256)
    (hv : vbyteValLe s < 2 ^ 64) : vbyteLeBytes (vbyteValLe s) = s := by
  rw [valLe_eq s ht] at hv ⊢
  rw [leBytes_groupsVal (fun h => by subst h; exact ht) (length_le_of_groupsVal_lt hv),
    mark_of_term s ht hx]

theorem be_encode_decode (s : List Nat) (ht : Term s) (hx : ∀ b ∈ s, b < 256)
    (hv : vbyteValBe s < 2 ^ 64) : vbyteBeBytes (vbyteValBe s) = s := by
  rw [valBe_eq s] at hv ⊢
  have hl := length_le_of_groupsVal_lt hv
  rw [beBytes_groupsVal (fun h => by rw [List.reverse_eq_nil_iff.1 h] at ht; exact ht) hl,
    List.reverse_reverse, mark_of_term s ht hx]

theorem shl64_of_lt {a k : Nat} (h : a * 2 ^ k < 2 ^ 64) : shl64 a k = a * 2 ^ k :=
  Nat.mod_eq_of_lt h

theorem foldl_gBe_ge (bs : List Nat) (v : Nat) :
    v ≤ bs.foldl (fun v x => (v + 1) * 128 + x % 128) v := by
  induction bs generalizing v with
  | nil => exact Nat.le_refl _
  | cons b bs ih => exact Nat.le_trans (show v ≤ (v + 1) * 128 + b % 128 by omega) (ih _)

theorem readBe_succ (f value byte : Nat) (rest : List Nat) :
    vbyteReadBeLoop (f + 1) value byte rest =
      if byte / 128 = 0 then .ok (value, rest) else
      if value + 1 ≥ 2 ^ 64 then .dpanic else
      match rest with
      | [] => .err .eof
      | b :: t => vbyteReadBeLoop f (shl64 (value + 1) 7 + b % 128) b t := by
  conv => lhs; unfold vbyteReadBeLoop
  rfl

theorem readBe_ok_inv {f value byte : Nat} {bs : List Nat} {r : Nat × List Nat}
    (h : vbyteReadBeLoop (f + 1) value byte bs = .ok r) :
    (byte / 128 = 0 ∧ r = (value, bs)) ∨
    (byte / 128 ≠ 0 ∧ ¬ value + 1 ≥ 2 ^ 64 ∧ ∃ b t, bs = b :: t ∧
      vbyteReadBeLoop f (shl64 (value + 1) 7 + b % 128) b t = .ok r) := by
  rw [readBe_succ] at h
  by_cases h0 : byte / 128 = 0
  · rw [if_pos h0] at h; cases h; exact .inl ⟨h0, rfl⟩
  rw [if_neg h0] at h
  by_cases h1 : value + 1 ≥ 2 ^ 64
  · rw [if_pos h1] at h; cases h
  rw [if_neg h1] at h
  cases bs with
  | nil => cases h
  | cons b t => exact .inr ⟨h0, h1, b, t, rfl, h⟩

theorem readBeLoop_ok : ∀ (bs : List Nat) (fuel value byte : Nat) (rest : List Nat),
    Term (byte :: bs) → bs.length + 1 ≤ fuel →
    bs.foldl (fun v x => (v + 1) * 128 + x % 128) value < 2 ^ 64 →
    vbyteReadBeLoop fuel value byte (bs ++ rest)
      = .ok (bs.foldl (fun v x => (v + 1) * 128 + x % 128) value, rest) := by
  intro bs
  induction bs with
  | nil =>
    intro fuel value byte rest ht hf _
    cases fuel with
    | zero => exact absurd hf (Nat.not_succ_le_zero _)
    | succ f => rw [readBe_succ, if_pos (show byte / 128 = 0 from ht)]; rfl
  | cons b bs ih =>
    intro fuel value byte rest ht hf hb
    cases fuel with
    | zero => exact absurd hf (Nat.not_succ_le_zero _)
    | succ f =>
      rw [List.foldl_cons] at hb ⊢
      have hlt : (value + 1) * 128 < 2 ^ 64 :=
        Nat.lt_of_le_of_lt (Nat.le_trans (Nat.le_add_right _ _) (foldl_gBe_ge bs _)) hb
      rw [List.cons_append, readBe_succ, if_neg ht.1,
        if_neg (Nat.not_le.2 (Nat.lt_of_le_of_lt (Nat.le_mul_of_pos_right _ (by decide)) hlt)),
        shl64_of_lt hlt]
      exact ih f _ b rest ht.2 (Nat.le_of_succ_le_succ hf) hb

theorem readBeLoop_inv : ∀ (fuel value byte : Nat) (bs : List Nat) (w : Nat),
    vbyteReadBeLoop fuel value byte bs = .ok (w, []) → Term (byte :: bs) := by
  intro fuel
  induction fuel with
  | zero => intro value byte bs w h; cases h
  | succ f ih =>
    intro value byte bs w h
    rcases readBe_ok_inv h with ⟨h0, hr⟩ | ⟨h0, _, b, t, rfl, h'⟩
    · cases hr; exact h0
    · exact ⟨h0, ih _ _ _ _ h'⟩

theorem vbyteReadBe_ok (s rest : List Nat) (ht : Term s) (hv : vbyteValBe s < 2 ^ 64) :
    vbyteReadBe (s ++ rest) = .ok (vbyteValBe s, rest) := by
  cases s with
  | nil => exact ht.elim
  | cons b bs => exact readBeLoop_ok bs _ (b % 128) b rest ht (by simp) hv

theorem vbyteReadBe_inv (s : List Nat) (w : Nat) (h : vbyteReadBe s = .ok (w, [])) : Term s := by
  cases s with
  | nil => cases h
  | cons b bs => exact readBeLoop_inv _ _ _ _ _ h

theorem readLe_cons (f result shift b : Nat) (t : List Nat) :
    vbyteReadLeLoop (f + 1) result shift (b :: t) =
      if shift ≥ 64 then .dpanic else
      if result + shl64 (b % 128) shift ≥ 2 ^ 64 then .dpanic else
      if b / 128 = 0 then .ok (result + shl64 (b % 128) shift, t)
      else if shift + 7 ≥ 64 ∨ result + shl64 (b % 128) shift + 2 ^ (shift + 7) ≥ 2 ^ 64 then .dpanic
      else vbyteReadLeLoop f (result + shl64 (b % 128) shift + 2 ^ (shift + 7)) (shift + 7) t := by
  conv => lhs; unfold vbyteReadLeLoop

theorem readLe_ok_inv {f result shift : Nat} {bs : List Nat} {r : Nat × List Nat}
    (h : vbyteReadLeLoop (f + 1) result shift bs = .ok r) :
    ∃ b t, bs = b :: t ∧ ¬ shift ≥ 64 ∧ ¬ result + shl64 (b % 128) shift ≥ 2 ^ 64 ∧
      ((b / 128 = 0 ∧ r = (result + shl64 (b % 128) shift, t)) ∨
       (b / 128 ≠ 0 ∧
        ¬ (shift + 7 ≥ 64 ∨ result + shl64 (b % 128) shift + 2 ^ (shift + 7) ≥ 2 ^ 64) ∧
        vbyteReadLeLoop f (result + shl64 (b % 128) shift + 2 ^ (shift + 7)) (shift + 7) t = .ok r)) := by
  cases bs with
  | nil => cases h
  | cons b t =>
    rw [readLe_cons] at h
    refine ⟨b, t, rfl, ?_⟩
    by_cases hs : shift ≥ 64
    · rw [if_pos hs] at h; cases h
    rw [if_neg hs] at h
    by_cases hr : result + shl64 (b % 128) shift ≥ 2 ^ 64
    · rw [if_pos hr] at h; cases h
    rw [if_neg hr] at h
    refine ⟨hs, hr, ?_⟩
    by_cases h0 : b / 128 = 0
    · rw [if_pos h0] at h; cases h; exact .inl ⟨h0, rfl⟩
    rw [if_neg h0] at h
    by_cases h7 : shift + 7 ≥ 64 ∨ result + shl64 (b % 128) shift + 2 ^ (shift + 7) ≥ 2 ^ 64
    · rw [if_pos h7] at h; cases h
    rw [if_neg h7] at h
    exact .inr ⟨h0, h7, h⟩

theorem shl64_of_le {R c s : Nat} (h : R + 2 ^ s * c < 2 ^ 64) : shl64 c s = 2 ^ s * c := by
  rw [Nat.mul_comm]
  exact shl64_of_lt (Nat.lt_of_le_of_lt (Nat.le_add_left _ _) (Nat.mul_comm .. ▸ h))

/-- arithmetic of a continuing round: `c` the low bits of the byte, `V` the value of the bytes
    that follow. The final value is the accumulator after the round plus what is still to come,
    so every partial sum is below `2^64` with it. -/
theorem le_cont_arith {R s c V : Nat} (h : R + 2 ^ s * (c + 128 * (V + 1)) < 2 ^ 64) :
    shl64 c s = 2 ^ s * c ∧ s + 7 < 64 ∧ R + 2 ^ s * c + 2 ^ (s + 7) < 2 ^ 64 ∧
    R + 2 ^ s * c + 2 ^ (s + 7) + 2 ^ (s + 7) * V = R + 2 ^ s * (c + 128 * (V + 1)) := by
  have hp7 : 2 ^ (s + 7) = 128 * 2 ^ s := by rw [Nat.pow_add, Nat.mul_comm]
  have e : R + 2 ^ s * (c + 128 * (V + 1)) = R + 2 ^ s * c + 128 * 2 ^ s + 128 * 2 ^ s * V := by
    rw [Nat.mul_add, Nat.mul_left_comm (2 ^ s) 128, Nat.mul_add (2 ^ s) V 1, Nat.mul_one,
      Nat.mul_add 128, Nat.add_comm (128 * (2 ^ s * V)), ← Nat.mul_assoc, ← Nat.add_assoc,
      ← Nat.add_assoc]
  rw [e] at h ⊢
  have h3 := Nat.lt_of_le_of_lt (Nat.le_add_right _ _) h
  have h7 : 2 ^ (s + 7) < 2 ^ 64 := by
    rw [hp7]; exact Nat.lt_of_le_of_lt (Nat.le_add_left _ _) h3
  rw [hp7]
  exact ⟨shl64_of_le (Nat.lt_of_le_of_lt (Nat.le_add_right _ _) h3),
    (Nat.pow_lt_pow_iff_right (by decide)).1 h7, h3, rfl⟩

theorem readLeLoop_ok : ∀ (bs : List Nat) (fuel result shift : Nat) (rest : List Nat),
    Term bs → bs.length ≤ fuel → shift < 64 →
    result + 2 ^ shift * vbyteValLe bs < 2 ^ 64 →
    vbyteReadLeLoop fuel result shift (bs ++ rest)
      = .ok (result + 2 ^ shift * vbyteValLe bs, rest) := by
  intro bs
  induction bs with
  | nil => intro _ _ _ _ h; exact h.elim
  | cons b t ih =>
    intro fuel result shift rest ht hf hs hb
    cases fuel with
    | zero => exact absurd hf (Nat.not_succ_le_zero _)
    | succ f =>
    rw [List.cons_append, readLe_cons, if_neg (Nat.not_le.2 hs)]
    cases t with
    | nil =>
      have h0 : b / 128 = 0 := ht
      have hv : vbyteValLe [b] = b % 128 := by rw [vbyteValLe, if_pos h0]; rfl
      rw [hv] at hb ⊢
      rw [shl64_of_le hb, if_neg (Nat.not_le.2 hb), if_pos h0]; rfl
    | cons c cs =>
      have hv : vbyteValLe (b :: c :: cs) = b % 128 + 128 * (vbyteValLe (c :: cs) + 1) := by
        rw [vbyteValLe, if_neg ht.1]
      rw [hv] at hb ⊢
      obtain ⟨hsh, hs7, hlt, e⟩ := le_cont_arith hb
      rw [hsh, if_neg (Nat.not_le.2 (Nat.lt_of_le_of_lt (Nat.le_add_right _ _) hlt)), if_neg ht.1,
        if_neg (not_or.2 ⟨Nat.not_le.2 hs7, Nat.not_le.2 hlt⟩), ← e]
      exact ih f _ (shift + 7) rest ht.2 (Nat.le_of_succ_le_succ hf) hs7 (by rw [e]; exact hb)

theorem readLeLoop_inv : ∀ (fuel result shift : Nat) (bs : List Nat) (w : Nat),
    vbyteReadLeLoop fuel result shift bs = .ok (w, []) → Term bs := by
  intro fuel
  induction fuel with
  | zero => intro result shift bs w h; cases h
  | succ f ih =>
    intro result shift bs w h
    obtain ⟨b, t, rfl, _, _, ⟨h0, hr⟩ | ⟨h0, _, h'⟩⟩ := readLe_ok_inv h
    · cases hr; exact h0
    · exact term_cons h0 (ih _ _ _ _ h')

theorem vbyteReadLe_ok (s rest : List Nat) (ht : Term s) (hv : vbyteValLe s < 2 ^ 64) :
    vbyteReadLe (s ++ rest) = .ok (vbyteValLe s, rest) := by
  have := readLeLoop_ok s ((s ++ rest).length + 1) 0 0 rest ht
    (by rw [List.length_append]; omega) (by decide) (by rwa [Nat.pow_zero, Nat.one_mul, Nat.zero_add])
  rwa [Nat.pow_zero, Nat.one_mul, Nat.zero_add] at this

theorem vbyteReadLe_inv (s : List Nat) (w : Nat) (h : vbyteReadLe s = .ok (w, [])) : Term s :=
  readLeLoop_inv _ _ _ _ _ h

theorem pow128_9 : (128 : Nat) ^ 9 = 2 ^ 63 := by decide

end Dsi.CodesB
