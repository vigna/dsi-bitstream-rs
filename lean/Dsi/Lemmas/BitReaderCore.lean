/-
  Unbuffered `BitReader`: the shared body `extract` of `read_bits` / `peek_bits`.
  `extract` succeeds exactly when the words holding the `n` bits are there, and then returns the bits
  of the stream at the cursor (`exval` = the shift/or expression of the Rust on the one or two words
  read).
-/
import Dsi.Lemmas.ReaderBits
namespace Dsi
namespace BitRd

/-- the field of `n` bits `off` bits into the word `w`, as the Rust computes it -/
def exOne (e : Endian) (w : BitVec 64) (off n : Nat) : BitVec 64 :=
  match e with
  | .be => (w <<< off) >>> (64 - n)
  | .le => (w <<< (64 - n - off)) >>> (64 - n)

/-- the same when the field goes on into the next word `w2` -/
def exTwo (e : Endian) (w1 w2 : BitVec 64) (off n : Nat) : BitVec 64 :=
  match e with
  | .be => ((w1 <<< off) >>> (64 - n)) ||| (w2 >>> (128 - off - n))
  | .le => ((w2 <<< (128 - off - n)) >>> (64 - n)) ||| (w1 >>> off)

def exval (e : Endian) (w1 w2 : BitVec 64) (off n : Nat) : BitVec 64 :=
  if off + n ≤ 64 then exOne e w1 off n else exTwo e w1 w2 off n

theorem extract_eq (e : Endian) (s : BitR) (n : Nat) :
    BitR.extract e s n =
      if s.data.strict = true ∧
          s.data.data.length < s.bitIndex / 64 + (if s.bitIndex % 64 + n ≤ 64 then 1 else 2) then
        .err .eof
      else .ok (exval e (s.data.data.getD (s.bitIndex / 64) 0) (s.data.data.getD (s.bitIndex / 64 + 1) 0)
          (s.bitIndex % 64) n,
        { s.data with pos := s.bitIndex / 64 + (if s.bitIndex % 64 + n ≤ 64 then 1 else 2) }) := by
  obtain ⟨⟨data, pos, strict⟩, bi⟩ := s
  unfold BitR.extract exval
  dsimp only
  by_cases hc : bi % 64 + n ≤ 64
  · simp only [if_pos hc]
    by_cases hs : strict = true ∧ data.length < bi / 64 + 1
    · rw [if_pos hs]
      by_cases c1 : data.length < bi / 64
      · rw [MemR.setWordPos_err _ hs.1 c1]
      · rw [MemR.setWordPos_ok _ fun _ => Nat.le_of_not_lt c1]
        dsimp only
        rw [MemR.readWord_err _ hs.1 (by show data.length ≤ bi / 64; omega)]
    · have hlt : strict = true → bi / 64 < data.length := fun h =>
        Nat.lt_of_not_le fun hle => hs ⟨h, Nat.lt_succ_of_le hle⟩
      rw [if_neg hs, MemR.setWordPos_ok _ fun h => Nat.le_of_lt (hlt h)]
      dsimp only
      rw [MemR.readWord_ok _ hlt]
      cases e <;> rfl
  · simp only [if_neg hc]
    by_cases hs : strict = true ∧ data.length < bi / 64 + 2
    · rw [if_pos hs]
      by_cases c1 : data.length < bi / 64
      · rw [MemR.setWordPos_err _ hs.1 c1]
      · rw [MemR.setWordPos_ok _ fun _ => Nat.le_of_not_lt c1]
        dsimp only
        by_cases c2 : data.length ≤ bi / 64
        · rw [MemR.readWord_err _ hs.1 c2]
        · rw [MemR.readWord_ok _ fun _ => Nat.lt_of_not_le c2]
          dsimp only
          rw [MemR.readWord_err _ hs.1 (by show data.length ≤ bi / 64 + 1; omega)]
    · have hlt : strict = true → bi / 64 + 1 < data.length := fun h =>
        Nat.lt_of_not_le fun hle => hs ⟨h, Nat.lt_succ_of_le hle⟩
      rw [if_neg hs, MemR.setWordPos_ok _ fun h => by have := hlt h; show bi / 64 ≤ data.length; omega]
      dsimp only
      rw [MemR.readWord_ok _ fun h => by have := hlt h; show bi / 64 < data.length; omega]
      dsimp only
      rw [MemR.readWord_ok _ hlt]
      cases e <;> rfl

theorem extract_ok {e : Endian} {s : BitR} {n : Nat} {v : BitVec 64} {d : MemR 64}
    (h : BitR.extract e s n = .ok (v, d)) :
    v = exval e (s.data.data.getD (s.bitIndex / 64) 0) (s.data.data.getD (s.bitIndex / 64 + 1) 0)
        (s.bitIndex % 64) n ∧ d.data = s.data.data ∧ d.strict = s.data.strict := by
  rw [extract_eq] at h
  by_cases hc : s.data.strict = true ∧
      s.data.data.length < s.bitIndex / 64 + (if s.bitIndex % 64 + n ≤ 64 then 1 else 2)
  · rw [if_pos hc] at h; cases h
  · rw [if_neg hc] at h; cases h; exact ⟨rfl, rfl, rfl⟩

/-- bit `q` of the two consecutive words `w1`, `w2` in stream order -/
def wbit (e : Endian) (w1 w2 : BitVec 64) (q : Nat) : Bool :=
  if q < 64 then sbit e w1 q else sbit e w2 (q - 64)

theorem wbit_stream (e : Endian) (data : List (BitVec 64)) (j q : Nat) (hq : q < 128) :
    wbit e (data.getD j 0) (data.getD (j + 1) 0) q = bitZ (data.flatMap (wordBits e)) (j * 64 + q) := by
  unfold wbit
  by_cases h : q < 64
  · rw [if_pos h, sbit_word e data j q h]
  · rw [if_neg h, sbit_word e data (j + 1) (q - 64) (by omega), Nat.succ_mul]
    congr 1; omega

theorem exval_field (e : Endian) (w1 w2 : BitVec 64) {off n : Nat} (ho : off < 64) (hn : n ≤ 64) :
    IsField e (exval e w1 w2 off n) n fun i => wbit e w1 w2 (off + i) := by
  unfold exval
  by_cases hc : off + n ≤ 64
  · rw [if_pos hc]
    cases e
    · exact (isField_takeB .be (dropB .be w1 off) hn).congr fun i hi => by
        rw [sbit_dropB, wbit, if_pos (by omega)]
    · intro i
      show ((w1 <<< (64 - n - off)) >>> (64 - n)).getLsbD i = (decide (i < n) && wbit .le w1 w2 (off + i))
      rw [BitVec.getLsbD_ushiftRight, BitVec.getLsbD_shiftLeft, Bool.and_assoc]
      exact guard_congr (by omega) fun hi => by
        rw [decide_eq_false (by omega : ¬ 64 - n + i < 64 - n - off),
          (by omega : 64 - n + i - (64 - n - off) = off + i), wbit, if_pos (by omega)]
        rfl
  · rw [if_neg hc]
    intro i
    cases e
    · show (((w1 <<< off) >>> (64 - n)) ||| (w2 >>> (128 - off - n))).getLsbD i
        = (decide (i < n) && wbit .be w1 w2 (off + (n - 1 - i)))
      have ha : ((w1 <<< off) >>> (64 - n)).getLsbD i = _ := isField_takeB .be (dropB .be w1 off) hn i
      rw [BitVec.getLsbD_or, ha, sbit_dropB, BitVec.getLsbD_ushiftRight, wbit]
      show (_ && sbit .be w1 (off + (n - 1 - i)) || _) = _
      by_cases hi : i < n
      · rw [decide_eq_true hi]
        by_cases hq : off + (n - 1 - i) < 64
        · rw [if_pos hq, BitVec.getLsbD_of_ge w2 _ (by omega : 64 ≤ 128 - off - n + i), Bool.or_false]
        · rw [if_neg hq, sbit_of_ge .be w1 (Nat.le_of_not_lt hq), BitVec.getLsbD_eq_getMsbD,
            decide_eq_true (by omega : 128 - off - n + i < 64),
            (by omega : 64 - 1 - (128 - off - n + i) = off + (n - 1 - i) - 64)]
          rfl
      · rw [decide_eq_false hi, BitVec.getLsbD_of_ge w2 _ (by omega : 64 ≤ 128 - off - n + i)]
        rfl
    · show (((w2 <<< (128 - off - n)) >>> (64 - n)) ||| (w1 >>> off)).getLsbD i
        = (decide (i < n) && wbit .le w1 w2 (off + i))
      rw [BitVec.getLsbD_or, BitVec.getLsbD_ushiftRight, BitVec.getLsbD_ushiftRight,
        BitVec.getLsbD_shiftLeft, wbit]
      by_cases hi : i < n
      · rw [decide_eq_true hi, decide_eq_true (by omega : 64 - n + i < 64)]
        by_cases hq : off + i < 64
        · rw [if_pos hq, decide_eq_true (by omega : 64 - n + i < 128 - off - n)]
          rfl
        · rw [if_neg hq, decide_eq_false (by omega : ¬ 64 - n + i < 128 - off - n),
            BitVec.getLsbD_of_ge w1 _ (Nat.le_of_not_lt hq),
            (by omega : 64 - n + i - (128 - off - n) = off + i - 64), Bool.or_false, Bool.not_false,
            Bool.and_true]
          rfl
      · rw [decide_eq_false hi, decide_eq_false (by omega : ¬ 64 - n + i < 64),
          BitVec.getLsbD_of_ge w1 _ (by omega : 64 ≤ off + i)]
        rfl

theorem exval_toNat (e : Endian) (data : List (BitVec 64)) (p n : Nat) (hn : n ≤ 64) :
    (exval e (data.getD (p / 64) 0) (data.getD (p / 64 + 1) 0) (p % 64) n).toNat =
      bitsVal e (takeZ n ((data.flatMap (wordBits e)).drop p)) := by
  have hm : p % 64 < 64 := Nat.mod_lt _ (by decide)
  refine ((exval_field e _ _ hm hn).congr fun i hi => ?_).toNat
  rw [wbit_stream e data _ _ (by omega), bitZ_drop, ← Nat.add_assoc, Nat.div_add_mod' p 64]

theorem extract_lt {e : Endian} {s : BitR} {n : Nat} {v : BitVec 64} {d : MemR 64}
    (hn : n ≤ 64) (h : BitR.extract e s n = .ok (v, d)) : v.toNat < 2 ^ n := by
  rw [(extract_ok h).1]
  exact (exval_field e _ _ (Nat.mod_lt _ (by decide)) hn).toNat_lt

end BitRd
end Dsi
