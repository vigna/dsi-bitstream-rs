/-
  Headline2: a generated reader built on a byte image whose bits are known, brought by `skip_bits`
  to the bits of interest: where every statement about decoding from bytes starts
  (`gen_image_start`, `gen_bitr_image_start`), and the generated `bit_pos` where it ends.
-/
import Dsi.Lemmas.Headline2Reader
import Dsi.Lemmas.EndToEndSim
namespace Dsi
namespace Headline2
open Headline E2E

theorem wpad_length_lt {W : Nat} (n : Nat) (hW : 0 < W) : (wpad W n).length < W := by
  unfold wpad
  rw [List.length_replicate]
  exact Nat.mod_lt _ hW

theorem rpad_length_le {Wr : Nat} (nb : Nat) (hW : 0 < Wr) (h8 : 8 ∣ Wr) : (rpad Wr nb).length ≤ Wr := by
  obtain ⟨m, rfl⟩ := h8
  have hm : 0 < m := Nat.pos_of_mul_pos_left hW
  unfold rpad
  rw [List.length_replicate, Nat.mul_div_cancel_left m (by decide : 0 < 8)]
  exact Nat.mul_le_mul_left 8 (Nat.le_of_lt (Nat.mod_lt _ hm))

theorem reader_words (e : Endian) {Wr : Nat} (hWr : 0 < Wr) (h8r : 8 ∣ Wr)
    {bits : List Bool} {bytes : List Nat} (hb : ∀ b ∈ bytes, b < 256)
    (h3 : bitsOfBytes e bytes = bits) :
    ∃ zeros, (wordsOfBytes e Wr (padTo (Wr / 8) bytes)).flatMap (wordBits e) = bits ++ zeros ∧
      (wordsOfBytes e Wr (padTo (Wr / 8) bytes)).length * Wr ≤ bits.length + Wr := by
  have hst : (wordsOfBytes e Wr (padTo (Wr / 8) bytes)).flatMap (wordBits e)
      = bits ++ rpad Wr bytes.length := by
    rw [e2e_words_padTo e h8r hWr, reader_stream e hWr h8r _ hb, h3]
  refine ⟨_, hst, ?_⟩
  have hl := congrArg List.length hst
  rw [length_flatMap_wordBits, List.length_append] at hl
  exact hl ▸ Nat.add_le_add_left (rpad_length_le bytes.length hWr h8r) _

variable {W : Nat} {e : Endian} {strict : Bool} {pre bits post : List Bool}

/-- a fresh generated reader over words spelling `pre ++ bits ++ post`: `skip_bits(pre.len())` -/
theorem gen_buf_start (e : Endian) (hW : 0 < W) (words : List (BitVec W)) (strict : Bool)
    (hst : words.flatMap (wordBits e) = pre ++ bits ++ post)
    (hfit : words.length * W + 4 * W < 2 ^ 64) :
    ∃ s1, (genRImpl e).skipBits (BufR.new ⟨words, 0, strict⟩) pre.length = .ok s1 ∧
      GInv e s1 (RefR.at e pre bits post strict W) := by
  have hav : (refAt e words strict W 0).avail pre.length = true := avail_of_le <| by
    show 0 + pre.length ≤ (words.flatMap (wordBits e)).length
    rw [hst, Nat.zero_add, List.append_assoc, List.length_append]
    exact Nat.le_add_right _ _
  obtain ⟨s1, hs1, hi1⟩ := gen_skip_ginv (ginv_new e hW words strict hfit) hav
  refine ⟨s1, hs1, ?_⟩
  -- `gen_skip_ginv` leaves the reference reader at `pos := 0 + pre.length`
  rw [← refAt_eq_at hst, ← Nat.zero_add pre.length]
  exact hi1

theorem gen_image_start (e : Endian) {Wr : Nat} (hWr : 0 < Wr) (h8r : 8 ∣ Wr) (strict : Bool)
    {bytes : List Nat} (hbytes : ∀ b ∈ bytes, b < 256)
    (hbits : bitsOfBytes e bytes = pre ++ bits ++ post)
    (hfit : (pre ++ bits ++ post).length + 5 * Wr < 2 ^ 64) :
    ∃ (zeros : List Bool) (s1 : BufR Wr),
      (genRImpl e).skipBits (BufR.new ⟨wordsOfBytes e Wr (padTo (Wr / 8) bytes), 0, strict⟩) pre.length
        = .ok s1 ∧
      GInv e s1 (RefR.at e pre bits (post ++ zeros) strict Wr) := by
  obtain ⟨zeros, hst, hlen⟩ := reader_words e hWr h8r hbytes hbits
  generalize wordsOfBytes e Wr (padTo (Wr / 8) bytes) = words at hst hlen
  rw [List.append_assoc] at hst
  obtain ⟨s1, hs1, hi1⟩ := gen_buf_start e hWr words strict hst <| by
    generalize (pre ++ bits ++ post).length = n at hfit hlen
    generalize words.length * Wr = m at hlen
    omega
  exact ⟨zeros, s1, hs1, hi1⟩

theorem gen_bitPos_after {s : BufR W} (hi : GInv e s (RefR.after e pre bits post strict W))
    (hfit : pre.length + bits.length + 2 * W ≤ 2 ^ 64) :
    GenBufR.genBitPos e s = .ok (pre.length + bits.length, s) :=
  gen_bitPos_ginv hi (.inr hfit)

theorem gen_bitr_image_start (e : Endian) (strict : Bool) {bytes : List Nat}
    (hbytes : ∀ b ∈ bytes, b < 256) (hbits : bitsOfBytes e bytes = pre ++ bits ++ post)
    (hfit : pre.length < 2 ^ 64) :
    ∃ (zeros : List Bool) (s1 : BitR),
      (genBitRImpl e).skipBits { data := ⟨wordsOfBytes e 64 (padTo 8 bytes), 0, strict⟩ } pre.length
        = .ok s1 ∧
      BitR.Rel' e s1 (RefR.at e pre bits (post ++ zeros) strict 32) ∧
      s1.data.data.length * 64 ≤ (pre ++ bits ++ post).length + 64 := by
  obtain ⟨zeros, hst, hlen⟩ := reader_words e (Wr := 64) (by decide) (by decide) hbytes hbits
  change (wordsOfBytes e 64 (padTo 8 bytes)).flatMap _ = _ at hst
  change (wordsOfBytes e 64 (padTo 8 bytes)).length * 64 ≤ _ at hlen
  generalize wordsOfBytes e 64 (padTo 8 bytes) = words at hst hlen
  rw [List.append_assoc] at hst
  refine ⟨zeros, { data := ⟨words, 0, strict⟩, bitIndex := 0 + pre.length }, ?_, ?_, hlen⟩
  · rw [genBitRImpl_eq, GenBitR.genImpl_skipBits e _ _ (by rw [Nat.zero_add]; exact hfit)]
    rfl
  · have h0 : BitR.Rel' e { data := ⟨words, 0, strict⟩ } (refAt e words strict 32 0) :=
      bitr_new_rel e words 0 strict
    have hav : (refAt e words strict 32 0).avail pre.length = true := avail_of_le <| by
      show 0 + pre.length ≤ (words.flatMap (wordBits e)).length
      rw [hst, Nat.zero_add, List.append_assoc, List.length_append]
      exact Nat.le_add_right _ _
    have hsk := bitr_skipBits h0 hav
    unfold RefR.skipBits at hsk
    rw [if_pos hav] at hsk
    rw [← refAt_eq_at hst,
      show refAt e words strict 32 pre.length = refAt e words strict 32 (0 + pre.length) by
        rw [Nat.zero_add]]
    exact hsk

end Headline2
end Dsi
