/-
  The writer (readers in HeadlineRunR.lean): the method bodies translated from the Rust source
  (lean/Dsi/Gen/BufWriterBodies.lean) assembled into an implementation of the `BitWrite` interface,
  and the proof that every program whose `write_unary` arguments are `u64`s runs on it exactly as
  on the hand-written model, on the states of the struct invariant, for `W < 2^64`.

  * `genWImpl e : WImpl (BufW W)`  — `BufBitWriter<E, _>::{write_bits, write_unary, flush}`.

  Invariant: `BufW.Inv` (`1 ≤ space_left_in_buffer ≤ W`).
  Side condition on programs: `U64` (the argument of every `write_unary` is a `u64`: it is one in
  the Rust).
-/
import Dsi.Props.BufWriterGen
import Dsi.Lemmas.WriterSim
import Dsi.Lemmas.Headline2CongrW
namespace Dsi

/-! ## the hand-written methods keep the struct invariant `BufW.Inv`, from every state (no
    reference writer involved): `write_unary` and `flush` by their closed forms (`BufW.Delivers`),
    `write_bits` by `writeBits_ok` -/
namespace BufW
variable {W : Nat}

theorem inv_new (hW : 0 < W) (checks : Bool) (cap : Option Nat) : (BufW.new W checks cap).Inv :=
  ⟨hW, Nat.le_refl W⟩

theorem writeUnary_inv (e : Endian) {s s' : BufW W} {x r : Nat} (hi : s.Inv)
    (h : writeUnary e s x = .ok (r, s')) : s'.Inv := by
  by_cases hx : x < 2 ^ 64 - 1
  · exact ((writeUnary_delivers e s x hi hx).inv h).1
  · rw [writeUnary, if_pos (Nat.le_of_not_lt hx)] at h; cases h

theorem impl_keeps_inv (e : Endian) : WImpl.Steps (impl (W := W) e) fun s s' => s.Inv → s'.Inv where
  refl := fun _ h => h
  trans := fun h1 h2 h => h2 (h1 h)
  writeBits := fun h hi => (writeBits_ok e hi h).1
  writeUnary := fun h hi => writeUnary_inv e hi h
  flush := fun h hi => ((flush_delivers e _ hi).inv h).1

end BufW

namespace Headline
variable {W : Nat}

/-- `impl BitWrite<E> for BufBitWriter<E, _>`, assembled from the translated bodies -/
def genWImpl (e : Endian) : WImpl (BufW W) :=
  { writeBits := fun s v n =>
      match e with
      | .be => Gen.BufW.write_bits_be s (BitVec.ofNat 64 v) n
      | .le => Gen.BufW.write_bits_le s (BitVec.ofNat 64 v) n,
    writeUnary := fun s x =>
      match e with
      | .be => Gen.BufW.write_unary_be s (BitVec.ofNat 64 x)
      | .le => Gen.BufW.write_unary_le s (BitVec.ofNat 64 x),
    flush := fun s =>
      match e with
      | .be => Gen.BufW.flush_be s
      | .le => Gen.BufW.flush_le s }

theorem genWImpl_eq (e : Endian) : genWImpl (W := W) e = GenBufW.genImpl e := by
  cases e <;> rfl

theorem genW_writeBits (e : Endian) (s : BufW W) (hi : s.Inv) (v n : Nat) :
    (genWImpl e).writeBits s v n = (BufW.impl e).writeBits s v n := by
  rw [genWImpl_eq]; exact GenBufW.genImpl_writeBits e s hi v n

theorem genW_writeUnary (e : Endian) (s : BufW W) (hi : s.Inv) (hW : W < 2 ^ 64) (x : Nat)
    (hx : x < 2 ^ 64) : (genWImpl e).writeUnary s x = (BufW.impl e).writeUnary s x := by
  rw [genWImpl_eq]; exact GenBufW.genImpl_writeUnary e s hi hW x hx

theorem genW_flush (e : Endian) (s : BufW W) : (genWImpl e).flush s = (BufW.impl e).flush s := by
  rw [genWImpl_eq]; exact GenBufW.genImpl_flush e s

end Headline

/-- the generated writer against the hand-written one, on the struct invariant: they differ only
    where the hand-written `write_unary` refuses (debug assertion) an argument that is not a `u64` -/
theorem Headline2.wagree_gen (e : Endian) (hW : W < 2 ^ 64) :
    Headline2.WAgree (Headline.genWImpl (W := W) e) (BufW.impl e) BufW.Inv where
  writeBits := fun s v n hj =>
    ⟨.inr (Headline.genW_writeBits e s hj v n), fun _ _ h => (BufW.impl_keeps_inv e).writeBits h hj⟩
  writeUnary := fun s x hj => by
    refine ⟨?_, fun _ _ h => BufW.writeUnary_inv e hj h⟩
    by_cases hx : x < 2 ^ 64
    · exact .inr (Headline.genW_writeUnary e s hj hW x hx)
    · exact .inl (if_pos (by omega))
  flush := fun s hj => ⟨.inr (Headline.genW_flush e s), fun _ _ h => (BufW.impl_keeps_inv e).flush h hj⟩

namespace Headline

/-- the argument of every `write_unary` of the program is a `u64` (it is one in the Rust, where the
    parameter has that type; the model passes `Nat`s) -/
def U64 {α : Type} : WProg α → Prop
  | .ret _ => True
  | .panic => True
  | .dpanic => True
  | .writeBits _ _ k => ∀ r, U64 (k r)
  | .writeUnary x k => x < 2 ^ 64 ∧ ∀ r, U64 (k r)
  | .flush k => ∀ r, U64 (k r)

theorem U64.bind {α β : Type} {p : WProg α} {f : α → WProg β} (hp : U64 p) (hf : ∀ a, U64 (f a)) :
    U64 (p.bind f) := by
  induction p with
  | ret a => exact hf a
  | panic => trivial
  | dpanic => trivial
  | writeBits v n k ih => exact fun r => ih r (hp r)
  | writeUnary x k ih => exact ⟨hp.1, fun r => ih r (hp.2 r)⟩
  | flush k ih => exact fun r => ih r (hp r)

/-- **Every writer program satisfying `U64` runs on the translated `BufBitWriter` exactly as on the
    hand-written model**, from every state of the struct invariant, for `W < 2^64`. -/
theorem gen_wrun_eq {α : Type} (e : Endian) (hW : W < 2 ^ 64) (p : WProg α) :
    ∀ (s : BufW W), s.Inv → U64 p → p.run (genWImpl e) s = p.run (BufW.impl e) s := by
  induction p with
  | ret a => intro s _ _; rfl
  | panic => intro s _ _; rfl
  | dpanic => intro s _ _; rfl
  | writeBits v n k ih =>
    intro s hi hu
    rw [WProg.run_writeBits, WProg.run_writeBits, genW_writeBits e s hi]
    exact Res.bind_congr fun b hb => ih b.1 b.2 ((BufW.impl_keeps_inv e).writeBits hb hi) (hu _)
  | writeUnary x k ih =>
    intro s hi hu
    rw [WProg.run_writeUnary, WProg.run_writeUnary, genW_writeUnary e s hi hW x hu.1]
    exact Res.bind_congr fun b hb => ih b.1 b.2 (BufW.writeUnary_inv e hi hb) (hu.2 _)
  | flush k ih =>
    intro s hi hu
    rw [WProg.run_flush, WProg.run_flush, genW_flush e s]
    exact Res.bind_congr fun b hb => ih b.1 b.2 ((BufW.impl_keeps_inv e).flush hb hi) (hu _)

/-- the same without the side condition on the program: the hand-written `write_unary` refuses
    (debug assertion, outcome `dpanic`) an argument that is not below `2^64 - 1`, so a program with
    such a call debug-panics on the hand-written model; off that outcome the two runs are equal. -/
theorem gen_wrun_agree {α : Type} (e : Endian) (hW : W < 2 ^ 64) (p : WProg α) :
    ∀ (s : BufW W), s.Inv →
      p.run (BufW.impl e) s = .dpanic ∨ p.run (genWImpl e) s = p.run (BufW.impl e) s :=
  Headline2.wrun_agree (Headline2.wagree_gen e hW) p

theorem gen_wrun_of_ok {α : Type} (e : Endian) (hW : W < 2 ^ 64) (p : WProg α) {s : BufW W}
    (hi : s.Inv) {a : α} {s' : BufW W} (h : p.run (BufW.impl e) s = .ok (a, s')) :
    p.run (genWImpl e) s = .ok (a, s') :=
  Headline2.wrun_of_ok (Headline2.wagree_gen e hW) p hi h

theorem gen_wrun_inv {α : Type} (e : Endian) (hW : W < 2 ^ 64) (p : WProg α) :
    ∀ (s : BufW W) (a : α) (s' : BufW W), s.Inv → U64 p → p.run (genWImpl e) s = .ok (a, s') →
      s'.Inv := by
  intro s a s' hi hu h
  rw [gen_wrun_eq e hW p s hi hu] at h
  exact WProg.run_steps (BufW.impl_keeps_inv e) p h hi

end Headline
end Dsi
