/-
  Bulk copy, reference level: the specification `refCopy` ("move `n` bits"), its algebra
  (copying `a + b` bits is copying `a` then `b`), and the generic chunked loop on the reference
  machines.
-/
import Dsi.Impl.Copy
import Dsi.Lemmas.ReaderBits
import Dsi.Lemmas.CodesABits
import Dsi.Lemmas.ProgSim
namespace Dsi

/-- The specification of a bulk copy: if the reader has `n` more bits (always, on a zero-extended
    stream) append them to the writer and advance the reader by `n`; otherwise `UnexpectedEof`.
    A fixed-capacity writer that cannot take the bits refuses (`RefW.put`). -/
def refCopy (r : RefR) (w : RefW) (n : Nat) : Res (RefR × RefW) :=
  if r.avail n then
    match w.put (takeZ n r.rest) n with
    | .ok (_, w') => .ok ({ r with pos := r.pos + n }, w')
    | .err e => .err e
    | .panic => .panic
    | .dpanic => .dpanic
  else .err .eof

namespace CopyL

theorem takeZ_add (a b : Nat) (l : List Bool) :
    takeZ (a + b) l = takeZ a l ++ takeZ b (l.drop a) := by
  induction a generalizing l with
  | zero => simp [takeZ]
  | succ a ih =>
    rw [Nat.succ_add]
    cases l with
    | nil =>
      have := ih []
      simp only [List.drop_nil] at this
      simp [takeZ, this]
    | cons x xs => simp [takeZ, ih]

theorem readVal_lt (e : Endian) (k : Nat) (l : List Bool) : bitsVal e (takeZ k l) < 2 ^ k := by
  have := bitsVal_lt e (takeZ k l)
  rwa [takeZ_length] at this

theorem readVal_bits (e : Endian) (k : Nat) (l : List Bool) :
    fieldBits e (bitsVal e (takeZ k l)) k = takeZ k l := by
  have := fieldBits_bitsVal e (takeZ k l)
  rwa [takeZ_length] at this

theorem fits_mono (w : RefW) (a b : List Bool) (h : w.fits (a ++ b) = true) : w.fits a = true := by
  unfold RefW.fits at *
  cases hc : w.cap with
  | none => rfl
  | some c =>
    simp only [hc, List.length_append, decide_eq_true_eq] at h ⊢
    exact Nat.le_trans (Nat.div_le_div_right (Nat.le_add_right _ _)) h

theorem fits_with_bits (w : RefW) (b l : List Bool) :
    RefW.fits { w with bits := b } l = w.fits l := rfl

theorem put_eq (w : RefW) (bs : List Bool) (k : Nat) :
    w.put bs k = if w.fits (w.bits ++ bs) then .ok (k, { w with bits := w.bits ++ bs })
      else .err .eof := rfl

theorem avail_mono (r : RefR) {a b : Nat} (h : a ≤ b) (hb : r.avail b = true) : r.avail a = true := by
  unfold RefR.avail at *
  cases hs : r.strict
  · rfl
  · rw [hs] at hb
    simp only [Bool.not_true, Bool.false_or, decide_eq_true_eq] at hb ⊢
    exact Nat.le_trans (Nat.add_le_add_left h _) hb

theorem avail_advance (r : RefR) (a b : Nat) :
    RefR.avail { r with pos := r.pos + a } b = r.avail (a + b) := by
  simp [RefR.avail, Nat.add_assoc]

theorem rest_advance (r : RefR) (a : Nat) :
    RefR.rest { r with pos := r.pos + a } = r.rest.drop a := by
  simp [RefR.rest, List.drop_drop, Nat.add_comm]

theorem readBits_avail (r : RefR) {k : Nat} (hk : k ≤ 64) (hav : r.avail k = true) :
    RefR.readBits r k = .ok (bitsVal r.e (takeZ k r.rest), { r with pos := r.pos + k }) := by
  rw [RefR.readBits, if_neg (Nat.not_lt.2 hk), if_pos hav]

end CopyL

open CopyL

theorem refCopy_eq (r : RefR) (w : RefW) (n : Nat) :
    refCopy r w n =
      if r.avail n = true ∧ w.fits (w.bits ++ takeZ n r.rest) = true then
        .ok ({ r with pos := r.pos + n }, { w with bits := w.bits ++ takeZ n r.rest })
      else .err .eof := by
  unfold refCopy
  rw [put_eq]
  by_cases h1 : r.avail n = true <;> by_cases h2 : w.fits (w.bits ++ takeZ n r.rest) = true <;>
    simp [h1, h2]

theorem refCopy_growable (r : RefR) (w : RefW) (n : Nat) (hav : r.avail n = true)
    (hcap : w.cap = none) :
    refCopy r w n =
      .ok ({ r with pos := r.pos + n }, { w with bits := w.bits ++ takeZ n r.rest }) := by
  rw [refCopy_eq]
  simp [hav, RefW.fits, hcap]

theorem refCopy_zero (r : RefR) (w : RefW) (h0 : r.avail 0 = true) (hfit : w.fits w.bits = true) :
    refCopy r w 0 = .ok (r, w) := by
  rw [refCopy_eq]
  simp [takeZ, h0, hfit]

/-- copying `a + b` bits is copying `a` bits, then `b` bits (also when it fails: every failure is
    `UnexpectedEof`) -/
theorem refCopy_add (r : RefR) (w : RefW) (a b : Nat) :
    refCopy r w (a + b) = (refCopy r w a).bind (fun p => refCopy p.1 p.2 b) := by
  rw [refCopy_eq r w a]
  by_cases h1 : r.avail a = true ∧ w.fits (w.bits ++ takeZ a r.rest) = true
  · rw [if_pos h1]
    show _ = refCopy _ _ b
    rw [refCopy_eq, refCopy_eq, avail_advance, rest_advance, takeZ_add]
    simp only [RefW.fits, List.append_assoc, Nat.add_assoc]
    rfl
  · rw [if_neg h1]
    show _ = Res.err Err.eof
    rw [refCopy_eq, if_neg]
    rintro ⟨h2, h3⟩
    apply h1
    refine ⟨avail_mono r (Nat.le_add_right a b) h2, ?_⟩
    rw [takeZ_add, ← List.append_assoc] at h3
    exact fits_mono w _ _ h3

theorem refCopy_ok_facts {r r' : RefR} {w w' : RefW} {n : Nat} (h : refCopy r w n = .ok (r', w')) :
    r' = { r with pos := r.pos + n } ∧ w'.e = w.e ∧ w'.checks = w.checks ∧
      w'.fits w'.bits = true ∧ r.avail n = true := by
  rw [refCopy_eq] at h
  split at h
  · rename_i hc
    cases h
    exact ⟨rfl, rfl, rfl, hc.2, hc.1⟩
  · cases h

theorem refCopy_put {r : RefR} {n : Nat} (hav : r.avail n = true) (w : RefW) :
    refCopy r w n =
      (w.put (takeZ n r.rest) n).bind fun q => .ok ({ r with pos := r.pos + n }, q.2) := by
  rw [refCopy, if_pos hav]
  cases w.put (takeZ n r.rest) n <;> rfl

theorem refCopy_of_write (r : RefR) (w : RefW) (k v : Nat) (hk : k ≤ 64) (he : w.e = r.e)
    (hav : r.avail k = true) (hv : w.checks = false ∨ v % 2 ^ 64 < 2 ^ k)
    (hb : fieldBits r.e v k = takeZ k r.rest) :
    refCopy r w k =
      (RefW.writeBits w v k).bind (fun p => .ok ({ r with pos := r.pos + k }, p.2)) := by
  have hck : ¬ (w.checks && decide (v % 2 ^ 64 ≥ 2 ^ k)) = true := by
    rcases hv with hv | hv
    · simp [hv]
    · simp [Nat.not_le.2 hv]
  rw [refCopy_put hav, RefW.writeBits, if_neg (Nat.not_lt.2 hk), if_neg hck, he, hb]

theorem CopyL.fuel_le {n fuel : Nat} (h : n / 64 + 1 ≤ fuel) : n ≤ 64 * fuel := by omega

theorem CopyL.chunk_fuel {n k : Nat} (h : n ≤ 64 * (k + 1)) : n - min n 64 ≤ 64 * k := by omega

/-- `write_bits(read_bits(k)?, k)?` -/
def copyStep {ρ ω} (ri : RImpl ρ) (wi : WImpl ω) (r : ρ) (w : ω) (k : Nat) : Res (ρ × ω) :=
  match ri.readBits r k with
  | .ok (v, r') =>
    match wi.writeBits w v k with
    | .ok (_, w') => .ok (r', w')
    | .err e => .err e
    | .panic => .panic
    | .dpanic => .dpanic
  | .err e => .err e
  | .panic => .panic
  | .dpanic => .dpanic

theorem copyStep_bind {ρ ω} (ri : RImpl ρ) (wi : WImpl ω) (r : ρ) (w : ω) (k : Nat) :
    copyStep ri wi r w k =
      (ri.readBits r k).bind fun p => (wi.writeBits w p.1 k).bind fun q => .ok (p.2, q.2) := by
  unfold copyStep
  cases ri.readBits r k with
  | ok p =>
    obtain ⟨v, r'⟩ := p
    simp only [Res.bind]
    cases wi.writeBits w v k <;> rfl
  | _ => rfl

theorem copyGeneric_succ {ρ ω} (ri : RImpl ρ) (wi : WImpl ω) (fuel : Nat) (r : ρ) (w : ω) (n : Nat) :
    copyGeneric ri wi (fuel + 1) r w n =
      if n = 0 then .ok (r, w)
      else (copyStep ri wi r w (min n 64)).bind
        (fun p => copyGeneric ri wi fuel p.1 p.2 (n - min n 64)) := by
  rw [copyGeneric, copyStep_bind]
  split
  · rfl
  · dsimp only
    cases ri.readBits r (min n 64) with
    | ok p =>
      obtain ⟨v, r'⟩ := p
      simp only [Res.bind]
      cases wi.writeBits w v (min n 64) <;> rfl
    | _ => rfl

/-- on the reference machines a step moves the next `k ≤ 64` bits: the value read is clean, so
    the `checks` assertion of `write_bits` never fires -/
theorem copyStep_ref (r : RefR) (w : RefW) (k : Nat) (hk : k ≤ 64) (he : w.e = r.e) :
    copyStep RefR.impl RefW.impl r w k = refCopy r w k := by
  rw [copyStep_bind]
  show (RefR.readBits r k).bind _ = _
  by_cases hav : r.avail k = true
  · rw [readBits_avail r hk hav]
    exact (refCopy_of_write r w k _ hk he hav
      (.inr (Nat.lt_of_le_of_lt (Nat.mod_le _ _) (readVal_lt r.e k r.rest))) (readVal_bits r.e k r.rest)).symm
  · rw [RefR.readBits, refCopy, if_neg (Nat.not_lt.2 hk), if_neg hav, if_neg hav]; rfl

/-- **The generic chunked loop on the reference machines is the specification.**  `fuel` bounds
    the number of iterations (`n ≤ 64 * fuel`; the driver uses `n / 64 + 2`).  `r.avail 0` only excludes a strict
    reader positioned beyond the end of its stream, `w.fits w.bits` a fixed writer already over
    capacity (both hold in every reachable state, and follow from `r.avail n`, `w.cap = none`).
    When the stream ends inside the copy both sides are `UnexpectedEof` (the generic loop has
    then already appended some chunks to a writer that is no longer observable in `Res`). -/
theorem copyGeneric_ref_gen (fuel : Nat) (r : RefR) (w : RefW) (n : Nat) (he : w.e = r.e)
    (h0 : r.avail 0 = true) (hfit : w.fits w.bits = true) (hfuel : n ≤ 64 * fuel) :
    copyGeneric RefR.impl RefW.impl fuel r w n = refCopy r w n := by
  induction fuel generalizing r w n with
  | zero =>
    obtain rfl : n = 0 := Nat.le_zero.1 hfuel
    rw [refCopy_zero r w h0 hfit]
    rfl
  | succ fuel ih =>
    rw [copyGeneric_succ]
    by_cases hn : n = 0
    · subst hn
      rw [if_pos rfl, refCopy_zero r w h0 hfit]
    · rw [if_neg hn, copyStep_ref r w _ (Nat.min_le_right _ _) he]
      conv => rhs; rw [← Nat.add_sub_cancel' (Nat.min_le_left n 64), refCopy_add]
      cases hstep : refCopy r w (min n 64) with
      | ok p =>
        obtain ⟨hr, hwe, _, hf, hav⟩ := refCopy_ok_facts (r' := p.1) (w' := p.2) hstep
        exact ih p.1 p.2 _ (by rw [hwe, hr]; exact he) (by rw [hr, avail_advance]; exact hav) hf
          (CopyL.chunk_fuel hfuel)
      | _ => rfl

end Dsi
