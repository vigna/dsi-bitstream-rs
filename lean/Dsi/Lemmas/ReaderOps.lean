/-
  The buffered reader against the reference reader, both endiannesses at once.  Apart from
  `read_bits` (Lemmas/ReaderReadBits.lean), each big-endian operation of `BufR` is the
  little-endian one with the shifts reversed: the `_eq` lemmas write the two as one function of the
  endianness, and each simulation is proved once, in the stream-order relation `RelS`.
-/
import Dsi.Lemmas.ReaderRel
namespace Dsi

namespace BufR
variable {W : Nat} {e : Endian}

/-- word `w` at the front of an empty buffer -/
def ofWord (e : Endian) (w : BitVec W) : BitVec (2 * W) :=
  match e with
  | .be => w.setWidth (2 * W) <<< W
  | .le => w.setWidth (2 * W)

/-- word `w` behind `b` buffered bits (what `refill` ORs in) -/
def wordAt (e : Endian) (w : BitVec W) (b : Nat) : BitVec (2 * W) :=
  match e with
  | .be => w.setWidth (2 * W) <<< (2 * W - (b + W))
  | .le => w.setWidth (2 * W) <<< b

theorem sbit_wordAt (e : Endian) (w : BitVec W) {b : Nat} (hb : b ≤ W) (i : Nat) :
    sbit e (wordAt e w b) i = (decide (b ≤ i) && sbit e w (i - b)) := by
  cases e
  · show (w.setWidth (2 * W) <<< (2 * W - (b + W))).getMsbD i = (decide (b ≤ i) && w.getMsbD (i - b))
    rw [BitVec.getMsbD_shiftLeft, BitVec.getMsbD_setWidth]
    exact guard_congr (by omega) fun h => by congr 1; omega
  · show (w.setWidth (2 * W) <<< b).getLsbD i = (decide (b ≤ i) && w.getLsbD (i - b))
    rw [BitVec.getLsbD_shiftLeft, BitVec.getLsbD_setWidth]
    by_cases h : b ≤ i
    · rw [decide_eq_true h, decide_eq_false (Nat.not_lt.2 h)]
      by_cases h2 : i < 2 * W
      · rw [decide_eq_true h2, decide_eq_true (by omega : i - b < 2 * W)]; rfl
      · rw [decide_eq_false h2, BitVec.getLsbD_of_ge w _ (by omega : W ≤ i - b)]; rfl
    · rw [decide_eq_false h, decide_eq_true (Nat.lt_of_not_le h), Bool.not_true, Bool.and_false]
      rfl

theorem sbit_ofWord (e : Endian) (w : BitVec W) (i : Nat) : sbit e (ofWord e w) i = sbit e w i := by
  cases e
  · show (w.setWidth (2 * W) <<< W).getMsbD i = w.getMsbD i
    rw [BitVec.getMsbD_shiftLeft, BitVec.getMsbD_setWidth, decide_eq_true (by omega : 2 * W - W ≤ i + W),
      Bool.true_and]
    congr 1; omega
  · show (w.setWidth (2 * W)).getLsbD i = w.getLsbD i
    rw [BitVec.getLsbD_setWidth]
    by_cases h : i < 2 * W
    · rw [decide_eq_true h, Bool.true_and]
    · rw [decide_eq_false h, BitVec.getLsbD_of_ge w i (by omega)]; rfl

theorem RelS.length_stream {s : BufR W} {r : RefR} (h : RelS e s r) :
    r.stream.length = s.back.data.length * W := by
  rw [h.hstream, length_flatMap_wordBits]

theorem RelS.pos_W {s : BufR W} {r : RefR} (h : RelS e s r) : 0 < W := by
  have := h.bib_lt
  omega

theorem RelS.avail_of_le {s : BufR W} {r : RefR} (h : RelS e s r) {n : Nat} (hn : n ≤ s.bib) :
    r.avail n = true := by
  rw [RefR.avail_iff, h.length_stream]
  intro hs
  have := Nat.mul_le_mul_right W (h.hstr (h.hstrict ▸ hs))
  have := h.hpos
  omega

theorem RelS.bitPos {s : BufR W} {r : RefR} (h : RelS e s r) : s.bitPos = r.pos := by
  have := h.hpos
  unfold BufR.bitPos
  omega

theorem RelS.advance {s : BufR W} {r : RefR} (h : RelS e s r) {n : Nat} (hn : n ≤ s.bib) :
    RelS e { s with bib := s.bib - n, buffer := dropB e s.buffer n } { r with pos := r.pos + n } := by
  obtain ⟨h1, h2, h3, h4, h5, h6, h7, h8⟩ := h
  refine ⟨Nat.lt_of_le_of_lt (Nat.sub_le _ _) h1, h2, h3, h4, h5, ?_, h7, fun i => ?_⟩
  · show r.pos + n + (s.bib - n) = s.back.pos * W
    rw [Nat.add_assoc, Nat.add_sub_cancel' hn]
    exact h6
  · show sbit e (dropB e s.buffer n) i = (decide (i < s.bib - n) && bitZ r.stream (r.pos + n + i))
    rw [sbit_dropB, h8, Nat.add_assoc]
    congr 1
    exact decide_eq_decide.2 (by omega)

theorem RelS.empty {m : MemR W} {r : RefR} (hW : 0 < W) (he : r.e = e) (hstrict : r.strict = m.strict)
    (hpm : r.peekMax = W) (hstream : r.stream = m.data.flatMap (wordBits e)) (hpos : r.pos = m.pos * W)
    (hstr : m.strict = true → m.pos ≤ m.data.length) :
    RelS e { buffer := 0, bib := 0, back := m } r :=
  ⟨by show 0 < 2 * W; omega, he, hstrict, hpm, hstream, hpos, hstr, fun i => sbit_zero e i⟩

theorem RelS.after_word (hW : 0 < W) (m : MemR W) (k : Nat) (r : RefR)
    (he : r.e = e) (hstrict : r.strict = m.strict) (hpm : r.peekMax = W)
    (hstream : r.stream = m.data.flatMap (wordBits e))
    (hpos : r.pos = m.pos * W + k) (hk : k ≤ W)
    (hstr : m.strict = true → m.pos < m.data.length) :
    RelS e { buffer := dropB e (ofWord e (m.data.getD m.pos 0)) k, bib := W - k,
             back := { m with pos := m.pos + 1 } } r := by
  refine ⟨by show W - k < 2 * W; omega, he, hstrict, hpm, hstream, ?_, fun hs => hstr hs, fun i => ?_⟩
  · show r.pos + (W - k) = (m.pos + 1) * W
    rw [hpos, Nat.succ_mul, Nat.add_assoc, Nat.add_sub_cancel' hk]
  · show sbit e (dropB e (ofWord e (m.data.getD m.pos 0)) k) i
      = (decide (i < W - k) && bitZ r.stream (r.pos + i))
    rw [sbit_dropB, sbit_ofWord]
    by_cases h : i < W - k
    · rw [sbit_word e _ _ _ (by omega : k + i < W), ← hstream, hpos, Nat.add_assoc, decide_eq_true h]
      rfl
    · rw [sbit_of_ge e _ (by omega : W ≤ k + i), decide_eq_false h]
      rfl

/-- a word loop that ran into the end of a strict backend short of the `n` bits wanted: the
    reference has not got them -/
theorem RelS.not_avail {s : BufR W} {r : RefR} (h : RelS e s r) {n : Nat} {m : MemR W}
    (hd : m.data = s.back.data) (hs : m.strict = s.back.strict) (hst : m.strict = true)
    (hp : m.data.length ≤ m.pos) (hlt : m.pos * W < r.pos + n) : r.avail n = false := by
  have := Nat.mul_le_mul_right W hp
  rw [hd, ← h.length_stream] at this
  exact (RefR.avail_false_iff _ _).2 ⟨h.hstrict.trans (hs ▸ hst), by omega⟩

/-- the common end of `read_bits` and `skip_bits`: with `n` bits to deliver in all, the backend `m'`
    is positioned at the word holding the last `k` of them.  Reading that word fails exactly when
    the reference has not got `n` bits, and otherwise leaves its other bits buffered. -/
theorem RelS.last_word {s : BufR W} {r : RefR} (h : RelS e s r) (hW : 0 < W) {n k : Nat}
    (m' : MemR W) (hd : m'.data = s.back.data) (hs : m'.strict = s.back.strict)
    (hpos : r.pos + n = m'.pos * W + k) (hk0 : 0 < k) (hk : k ≤ W)
    {α β : Type} {Q : α → β → Prop} {g : BitVec W → MemR W → α} {b : β}
    (hQ : RelS e { buffer := dropB e (ofWord e (m'.data.getD m'.pos 0)) k, bib := W - k,
                   back := { m' with pos := m'.pos + 1 } } { r with pos := r.pos + n } →
      Q (g (m'.data.getD m'.pos 0) { m' with pos := m'.pos + 1 }) b) :
    ResRel Q
      (match m'.readWord with
       | .ok (w, m'') => .ok (g w m'')
       | .err x => .err x
       | .panic => .panic
       | .dpanic => .dpanic)
      (if r.avail n = true then .ok b else .err .eof) := by
  have hsr : r.strict = m'.strict := h.hstrict.trans hs.symm
  rcases m'.readWord_cases with ⟨hst, hp, hw⟩ | ⟨hp, hw⟩
  · rw [hw, h.not_avail hd hs hst hp (by omega)]
    rfl
  · rw [hw, if_pos ((RefR.avail_iff _ _).2 fun hst => by
      have := Nat.mul_le_mul_right W (hp (hsr ▸ hst))
      rw [hd, ← h.length_stream, Nat.succ_mul] at this
      omega)]
    exact hQ (RelS.after_word hW m' k { r with pos := r.pos + n } h.he hsr h.hpm (hd ▸ h.hstream) hpos hk hp)

theorem RelS.field_value {s : BufR W} {r : RefR} (h : RelS e s r) {n : Nat} (hn : n ≤ s.bib)
    {w : Nat} {v : BitVec w} (hv : IsField e v n (sbit e s.buffer)) :
    v.toNat = bitsVal r.e (takeZ n r.rest) := by
  rw [h.he]
  refine (hv.congr fun i hi => ?_).toNat
  rw [h.hbits, RefR.rest, bitZ_drop, decide_eq_true (Nat.lt_of_lt_of_le hi hn), Bool.true_and]

theorem RelS.take_value {s : BufR W} {r : RefR} (h : RelS e s r) {n : Nat} (hn : n ≤ s.bib) :
    (takeB e s.buffer n).toNat = bitsVal r.e (takeZ n r.rest) :=
  h.field_value hn (isField_takeB e _ (Nat.le_trans hn (Nat.le_of_lt h.bib_lt)))

theorem RelS.skipAfterPeek {s : BufR W} {r : RefR} (h : RelS e s r) {k : Nat} (hk : k ≤ s.bib) :
    RelS e ((impl e).skipAfterPeek s k) (RefR.skipAfterPeek r k) := by
  cases e <;> exact h.advance hk

def refill (e : Endian) (s : BufR W) : Res (BufR W) :=
  match e with
  | .be => refillBE s
  | .le => refillLE s

theorem refill_eq (e : Endian) (s : BufR W) :
    refill e s =
      if s.bib > W then .dpanic else
      match s.back.readWord with
      | .ok (w, back) => .ok { buffer := s.buffer ||| wordAt e w s.bib, bib := s.bib + W, back := back }
      | .err x => .err x
      | .panic => .panic
      | .dpanic => .dpanic := by
  cases e <;> rfl

theorem peekBits_eq (e : Endian) (s : BufR W) (n : Nat) :
    (impl e).peekBits s n =
      if n = 0 ∨ n > 2 * W then .dpanic else
      match (if n > s.bib then refill e s else .ok s) with
      | .ok s' => if n > s'.bib then .dpanic else .ok ((takeB e s'.buffer n).toNat, s')
      | .err x => .err x
      | .panic => .panic
      | .dpanic => .dpanic := by
  cases e <;> rfl

theorem RelS.refill {s : BufR W} {r : RefR} (h : RelS e s r) (hb : s.bib < W) :
    (s.back.strict = true ∧ s.back.data.length ≤ s.back.pos ∧ refill e s = .err .eof) ∨
    ∃ s', refill e s = .ok s' ∧ RelS e s' r ∧ s'.bib = s.bib + W := by
  rw [refill_eq, if_neg (by omega)]
  rcases s.back.readWord_cases with ⟨hs, hp, hw⟩ | ⟨hp, hw⟩
  · exact .inl ⟨hs, hp, by rw [hw]⟩
  · refine .inr ⟨_, by rw [hw], ?_, rfl⟩
    obtain ⟨h1, h2, h3, h4, h5, h6, h7, h8⟩ := h
    refine ⟨by show s.bib + W < 2 * W; omega, h2, h3, h4, h5, ?_, fun hs => hp hs, fun i => ?_⟩
    · show r.pos + (s.bib + W) = (s.back.pos + 1) * W
      rw [Nat.succ_mul, ← h6, Nat.add_assoc]
    · show sbit e (s.buffer ||| wordAt e (s.back.data.getD s.back.pos 0) s.bib) i
        = (decide (i < s.bib + W) && bitZ r.stream (r.pos + i))
      rw [sbit_or, h8, sbit_wordAt e _ (Nat.le_of_lt hb)]
      by_cases hi : i < s.bib
      · rw [decide_eq_true hi, decide_eq_false (by omega : ¬ s.bib ≤ i),
          decide_eq_true (by omega : i < s.bib + W), Bool.false_and, Bool.or_false]
      · rw [decide_eq_false hi, decide_eq_true (by omega : s.bib ≤ i), Bool.false_and, Bool.false_or,
          Bool.true_and]
        by_cases hi' : i < s.bib + W
        · rw [sbit_word e _ _ _ (by omega : i - s.bib < W), ← h5, decide_eq_true hi', Bool.true_and]
          congr 1; omega
        · rw [sbit_of_ge e _ (by omega : W ≤ i - s.bib), decide_eq_false hi', Bool.false_and]

/-- `n = 0` is `dpanic` on both sides, so only `n ≤ W` is needed -/
theorem RelS.peekBits_sim {s : BufR W} {r : RefR} (h : RelS e s r) {n : Nat} (hn : n ≤ W) :
    ResRel (SimPost (RelS e)) ((impl e).peekBits s n) (RefR.peekBits r n) := by
  rw [peekBits_eq, RefR.peekBits, h.hpm]
  by_cases h0 : n = 0
  · rw [if_pos (.inl h0), if_pos (.inl h0)]; trivial
  rw [if_neg (show ¬(n = 0 ∨ n > 2 * W) by omega), if_neg (show ¬(n = 0 ∨ n > W) by omega)]
  by_cases hnb : n ≤ s.bib
  · rw [if_neg (show ¬n > s.bib by omega), if_pos (h.avail_of_le hnb)]
    dsimp only
    rw [if_neg (show ¬n > s.bib by omega)]
    exact ⟨h.take_value hnb, h⟩
  · rw [if_pos (show n > s.bib by omega)]
    rcases h.refill (by omega) with ⟨hs, hp, hw⟩ | ⟨s', hw, hrel, hbib⟩
    · have := h.hpos
      rw [hw, h.not_avail rfl rfl hs hp (by omega)]
      rfl
    · rw [hw, if_pos (hrel.avail_of_le (by omega))]
      dsimp only
      rw [if_neg (show ¬n > s'.bib by omega)]
      exact ⟨hrel.take_value (by omega), hrel⟩

theorem peekBits_bib {s s1 : BufR W} {n v : Nat} (h : (impl e).peekBits s n = .ok (v, s1)) :
    n ≤ s1.bib := by
  rw [peekBits_eq] at h
  split at h
  · cases h
  · split at h
    · split at h
      · cases h
      · cases h; omega
    all_goals cases h

/-- the word-skipping loop keeps any invariant `Q` of (bits to go, backend) that one round keeps;
    `E` is what running into the end of a strict backend means -/
theorem skipWords_rule (Q : Nat → MemR W → Prop) (E : Prop)
    (hstep : ∀ n (m : MemR W), Q n m → n > W → (m.strict = true → m.pos < m.data.length) →
      Q (n - W) { m with pos := m.pos + 1 })
    (herr : ∀ n (m : MemR W), Q n m → n > W → m.strict = true → m.data.length ≤ m.pos → E)
    (fuel : Nat) (m : MemR W) (n : Nat) (h : Q n m) :
    match skipWords fuel m n with
    | .ok (n', m') => Q n' m' ∧ (n ≤ fuel * W + W → n' ≤ W)
    | .err x => x = .eof ∧ E
    | _ => False := by
  induction fuel generalizing m n with
  | zero => exact ⟨h, fun hn => by omega⟩
  | succ fuel ih =>
    unfold skipWords
    by_cases hc : n > W
    · rw [if_pos hc]
      rcases m.readWord_cases with ⟨hs, hp, hw⟩ | ⟨hp, hw⟩
      · rw [hw]
        exact ⟨rfl, herr n m h hc hs hp⟩
      · rw [hw]
        dsimp only
        have := ih _ _ (hstep n m h hc hp)
        rw [Nat.succ_mul]
        generalize skipWords fuel _ _ = x at this
        rcases x with ⟨n', m'⟩ | _ | _ | _
        · exact ⟨this.1, fun hn => this.2 (by omega)⟩
        all_goals exact this
    · rw [if_neg hc]
      exact ⟨h, fun _ => by omega⟩

/-- the buffer `skip_bits` builds from the last word `w`, of which `k` bits are skipped -/
def skipTail (e : Endian) (w : BitVec W) (k : Nat) : BitVec (2 * W) :=
  match e with
  | .be => (w.setWidth (2 * W) <<< (2 * W - 1 - (W - k))) <<< 1
  | .le => w.setWidth (2 * W) >>> k

theorem skipTail_eq (e : Endian) (w : BitVec W) {k : Nat} (hk0 : 0 < k) (hk : k ≤ W) :
    skipTail e w k = dropB e (ofWord e w) k := by
  cases e
  · show (w.setWidth (2 * W) <<< (2 * W - 1 - (W - k))) <<< 1 = (w.setWidth (2 * W) <<< W) <<< k
    rw [← BitVec.shiftLeft_add, ← BitVec.shiftLeft_add]
    congr 1; omega
  · rfl

theorem skipBits_eq (e : Endian) (s : BufR W) (n : Nat) :
    (impl e).skipBits s n =
      if n ≤ s.bib then .ok { s with bib := s.bib - n, buffer := dropB e s.buffer n }
      else
        match skipWords (n - s.bib) s.back (n - s.bib) with
        | .ok (k, back) =>
          match back.readWord with
          | .ok (w, back') => .ok { buffer := skipTail e w k, bib := W - k, back := back' }
          | .err x => .err x
          | .panic => .panic
          | .dpanic => .dpanic
        | .err x => .err x
        | .panic => .panic
        | .dpanic => .dpanic := by
  cases e <;> rfl

theorem RelS.skipBits_sim {s : BufR W} {r : RefR} (h : RelS e s r) (n : Nat) :
    ResRel (RelS e) ((impl e).skipBits s n) (RefR.skipBits r n) := by
  rw [skipBits_eq, RefR.skipBits]
  by_cases hnb : n ≤ s.bib
  · rw [if_pos hnb, if_pos (h.avail_of_le hnb)]
    exact h.advance hnb
  · rw [if_neg hnb]
    have hW := h.pos_W
    have hpos := h.hpos
    -- `k` bits are still to skip, the last of them at the backend position
    have hpost := skipWords_rule
      (fun k m => m.data = s.back.data ∧ m.strict = s.back.strict ∧ r.pos + n = m.pos * W + k ∧ 0 < k)
      (r.avail n = false)
      (fun k m ⟨a1, a2, a3, _⟩ hc _ =>
        ⟨a1, a2, by
          show r.pos + n = (m.pos + 1) * W + (k - W)
          rw [Nat.succ_mul, Nat.add_assoc, Nat.add_sub_cancel' (Nat.le_of_lt hc)]; exact a3,
          Nat.sub_pos_of_lt hc⟩)
      (fun k m ⟨a1, a2, a3, _⟩ hc hs hp => h.not_avail a1 a2 hs hp (by omega))
      (n - s.bib) s.back (n - s.bib) ⟨rfl, rfl, by omega, by omega⟩
    generalize skipWords (n - s.bib) s.back (n - s.bib) = x at hpost
    rcases x with ⟨k, m'⟩ | _ | _ | _
    · obtain ⟨⟨a1, a2, a3, a4⟩, a5⟩ := hpost
      have hk := a5 (by have := Nat.le_mul_of_pos_right (n - s.bib) hW; omega)
      exact h.last_word hW m' a1 a2 a3 a4 hk fun hrel => by rw [skipTail_eq e _ a4 hk]; exact hrel
    · obtain ⟨rfl, hav⟩ := hpost
      rw [hav]; rfl
    · exact hpost.elim
    · exact hpost.elim

def unaryWords (e : Endian) : Nat → MemR W → Nat → Res (Nat × BufR W) :=
  match e with
  | .be => unaryWordsBE
  | .le => unaryWordsLE

/-- the buffer `read_unary` builds from the word `w` holding the terminating one behind `z` zeros -/
def unaryTail (e : Endian) (w : BitVec W) (z : Nat) : BitVec (2 * W) :=
  match e with
  | .be => (w.setWidth (2 * W) <<< (W + z)) <<< 1
  | .le => (w.setWidth (2 * W) >>> z) >>> 1

theorem unaryTail_eq (e : Endian) (w : BitVec W) (z : Nat) :
    unaryTail e w z = dropB e (ofWord e w) (z + 1) := by
  cases e
  · show (w.setWidth (2 * W) <<< (W + z)) <<< 1 = (w.setWidth (2 * W) <<< W) <<< (z + 1)
    rw [BitVec.shiftLeft_add, BitVec.shiftLeft_add]
  · exact (BitVec.shiftRight_add _ z 1).symm

theorem unaryWords_succ (e : Endian) (fuel : Nat) (m : MemR W) (res : Nat) :
    unaryWords e (fuel + 1) m res =
      match m.readWord with
      | .ok (w, m') =>
        if w ≠ 0 then
          .ok (res + zerosB e w, { buffer := unaryTail e w (zerosB e w), bib := W - zerosB e w - 1, back := m' })
        else unaryWords e fuel m' (res + W)
      | .err x => .err x
      | .panic => .panic
      | .dpanic => .dpanic := by
  cases e <;> rfl

theorem readUnary_eq (e : Endian) (s : BufR W) :
    (impl e).readUnary s =
      if zerosB e s.buffer < s.bib then
        .ok (zerosB e s.buffer,
             { s with buffer := dropB e (dropB e s.buffer (zerosB e s.buffer)) 1,
                      bib := s.bib - (zerosB e s.buffer + 1) })
      else unaryWords e (s.back.data.length + 2 - s.back.pos) s.back s.bib := by
  cases e <;> rfl

/-- the word loop of `read_unary`, entered with `res` zeros behind the reference position -/
theorem unaryWords_sim (hW : 0 < W) (fuel : Nat) (m : MemR W) (res : Nat) (r : RefR)
    (he : r.e = e) (hstrict : r.strict = m.strict) (hpm : r.peekMax = W)
    (hstream : r.stream = m.data.flatMap (wordBits e))
    (hpos : r.pos + res = m.pos * W) (hz : ∀ i, i < res → bitZ r.stream (r.pos + i) = false)
    (hstr : m.strict = true → m.pos ≤ m.data.length) (hfuel : m.data.length + 2 - m.pos ≤ fuel) :
    ResRel (SimPost (RelS e)) (unaryWords e fuel m res) (RefR.readUnary r) := by
  induction fuel generalizing m res with
  | zero =>
    have hs : m.strict = false := by
      cases hst : m.strict
      · rfl
      · have := hstr hst; omega
    rw [RefR.readUnary_none (RefR.none_ahead m res r hstream hpos hz (by omega)), hstrict, hs]
    cases e <;> trivial
  | succ fuel ih =>
    rw [unaryWords_succ]
    rcases m.readWord_cases with ⟨hs, hp, hw⟩ | ⟨hp, hw⟩
    · rw [hw, RefR.readUnary_none (RefR.none_ahead m res r hstream hpos hz hp), hstrict, hs]
      rfl
    · rw [hw]
      dsimp only
      have hscan := RefR.readUnary_scan (e := e) (x := m.data.getD m.pos 0) (b := W) hz
        (fun i hi => by rw [sbit_word e _ _ _ hi, hstream, ← hpos, Nat.add_assoc]) (Nat.le_refl _)
      by_cases hw0 : m.data.getD m.pos 0 ≠ 0
      · rw [if_pos hw0]
        have hlt := zerosB_lt_of_ne_zero e _ hw0
        rw [if_pos hlt] at hscan
        rw [hscan, unaryTail_eq, Nat.sub_sub]
        exact ⟨rfl, RelS.after_word hW m _ _ he hstrict hpm hstream
          (by show r.pos + (res + _) + 1 = _; omega) hlt hp⟩
      · rw [Decidable.not_not.1 hw0, zerosB_zero, if_neg (Nat.lt_irrefl W)] at hscan
        rw [if_neg hw0]
        exact ih { m with pos := m.pos + 1 } (res + W) hstrict hstream
          (by show r.pos + (res + W) = (m.pos + 1) * W; rw [Nat.succ_mul, ← hpos, Nat.add_assoc]) hscan
          (fun hs => hp hs) (by show m.data.length + 2 - (m.pos + 1) ≤ fuel; omega)

theorem RelS.readUnary_sim {s : BufR W} {r : RefR} (h : RelS e s r) :
    ResRel (SimPost (RelS e)) ((impl e).readUnary s) (RefR.readUnary r) := by
  rw [readUnary_eq]
  have hscan := RefR.readUnary_scan (e := e) (x := s.buffer) (res := 0) (b := s.bib)
    (fun i hi => absurd hi (Nat.not_lt_zero i))
    (fun i hi => by rw [h.hbits, decide_eq_true hi, Nat.zero_add]; rfl) (Nat.le_of_lt h.bib_lt)
  by_cases hc : zerosB e s.buffer < s.bib
  · rw [if_pos hc] at hscan
    rw [if_pos hc, hscan, dropB_dropB, Nat.zero_add]
    exact ⟨rfl, h.advance hc⟩
  · rw [if_neg hc, Nat.zero_add] at hscan
    rw [if_neg hc]
    exact unaryWords_sim h.pos_W _ s.back s.bib r h.he h.hstrict h.hpm h.hstream h.hpos hscan h.hstr
      (Nat.le_refl _)

/-- the buffer `set_bit_pos` builds from the word `w` the position falls in, `off` bits into it -/
def seekTail (e : Endian) (w : BitVec W) (off : Nat) : BitVec (2 * W) :=
  match e with
  | .be => w.setWidth (2 * W) <<< (2 * W - (W - off))
  | .le => w.setWidth (2 * W) >>> off

theorem seekTail_eq (e : Endian) (w : BitVec W) {off : Nat} (h : off ≤ W) :
    seekTail e w off = dropB e (ofWord e w) off := by
  cases e
  · show w.setWidth (2 * W) <<< (2 * W - (W - off)) = (w.setWidth (2 * W) <<< W) <<< off
    rw [← BitVec.shiftLeft_add]
    congr 1; omega
  · rfl

theorem setBitPos_eq (e : Endian) (s : BufR W) (p : Nat) :
    setBitPos e s p =
      match s.back.setWordPos (p / W) with
      | .ok back =>
        if p % W ≠ 0 then
          match back.readWord with
          | .ok (w, back') => .ok { buffer := seekTail e w (p % W), bib := W - p % W, back := back' }
          | .err x => .err x
          | .panic => .panic
          | .dpanic => .dpanic
        else .ok { buffer := 0, bib := 0, back := back }
      | .err x => .err x
      | .panic => .panic
      | .dpanic => .dpanic := by
  cases e <;> rfl

theorem RelS.setBitPos_sim {s : BufR W} {r : RefR} (h : RelS e s r) {p : Nat} (hp : p ≤ r.stream.length) :
    ResRel (RelS e) (setBitPos e s p) (.ok (r.seek p)) := by
  have hW := h.pos_W
  have hlen := h.length_stream
  have hdiv : p / W ≤ s.back.data.length := Nat.div_le_of_le_mul (by rw [Nat.mul_comm]; omega)
  have hdm : p / W * W + p % W = p := Nat.div_add_mod' p W
  have hmod : p % W < W := Nat.mod_lt _ hW
  rw [setBitPos_eq, s.back.setWordPos_ok fun _ => hdiv]
  dsimp only
  by_cases hoff : p % W ≠ 0
  · have hlt : p / W < s.back.data.length :=
      Nat.lt_of_le_of_ne hdiv fun he => by rw [← he] at hlen; omega
    rw [if_pos hoff, MemR.readWord_ok _ fun _ => hlt]
    dsimp only
    rw [seekTail_eq e _ (Nat.le_of_lt hmod)]
    exact RelS.after_word hW { s.back with pos := p / W } (p % W) (r.seek p) h.he h.hstrict h.hpm
      h.hstream hdm.symm (Nat.le_of_lt hmod) fun _ => hlt
  · rw [if_neg hoff]
    exact RelS.empty hW h.he h.hstrict h.hpm h.hstream (by show p = p / W * W; omega) fun _ => hdiv

theorem RelLE.advance {s : BufR W} {r : RefR} (h : RelLE s r) {n : Nat} (hn : n ≤ s.bib) :
    RelLE { s with bib := s.bib - n, buffer := s.buffer >>> n } { r with pos := r.pos + n } :=
  (relS_le_iff _ _).2 (((relS_le_iff _ _).1 h).advance hn)

theorem RelBE.advance {s : BufR W} {r : RefR} (h : RelBE s r) {n : Nat} (hn : n ≤ s.bib) :
    RelBE { s with bib := s.bib - n, buffer := s.buffer <<< n } { r with pos := r.pos + n } :=
  (relS_be_iff _ _).2 (((relS_be_iff _ _).1 h).advance hn)

theorem bitPos_eq_LE {s : BufR W} {r : RefR} (h : RelLE s r) : s.bitPos = r.pos :=
  ((relS_le_iff _ _).1 h).bitPos

theorem bitPos_eq_BE {s : BufR W} {r : RefR} (h : RelBE s r) : s.bitPos = r.pos :=
  ((relS_be_iff _ _).1 h).bitPos

theorem relLE_after_word (hW : 0 < W) (m : MemR W) (k : Nat) (r' : RefR)
    (he : r'.e = .le) (hstrict : r'.strict = m.strict) (hpm : r'.peekMax = W)
    (hstream : r'.stream = m.data.flatMap (wordBits .le))
    (hpos : r'.pos = m.pos * W + k) (hk : k ≤ W)
    (hstr : m.strict = true → m.pos < m.data.length) :
    RelLE { buffer := (m.data.getD m.pos 0).setWidth (2 * W) >>> k, bib := W - k,
            back := { m with pos := m.pos + 1 } } r' :=
  (relS_le_iff _ _).2 (RelS.after_word hW m k r' he hstrict hpm hstream hpos hk hstr)

theorem relBE_after_word (hW : 0 < W) (m : MemR W) (k : Nat) (r' : RefR)
    (he : r'.e = .be) (hstrict : r'.strict = m.strict) (hpm : r'.peekMax = W)
    (hstream : r'.stream = m.data.flatMap (wordBits .be))
    (hpos : r'.pos = m.pos * W + k) (hk : k ≤ W)
    (hstr : m.strict = true → m.pos < m.data.length) :
    RelBE { buffer := (m.data.getD m.pos 0).setWidth (2 * W) <<< (W + k), bib := W - k,
            back := { m with pos := m.pos + 1 } } r' := by
  rw [BitVec.shiftLeft_add]
  exact (relS_be_iff _ _).2 (RelS.after_word hW m k r' he hstrict hpm hstream hpos hk hstr)

end BufR
end Dsi
