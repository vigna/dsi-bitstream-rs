/-
  C05 — soundness of the decoding-table checker and the generic decoding-table theorem
  `readTable_eq` (generic in the table).  `writeTable_eq`, `lenTable_eq` are in `TablesWrite`.
-/
import Dsi.Lemmas.TablesLift
namespace Dsi
namespace Tables

structure ReadOK (e : Endian) (dflt : RProg Nat) (t : RTab) : Prop where
  rb_pos : 1 ≤ t.readBits
  entries : ∀ idx, idx < 2 ^ t.readBits → ∃ v l, t.vals[idx]? = some v ∧ t.lens[idx]? = some l ∧
    chkReadEntry e dflt t.readBits t.missing idx v l = true

theorem chkReadEntry_hit {e : Endian} {dflt : RProg Nat} {rb missing idx val len : Nat}
    (h : chkReadEntry e dflt rb missing idx val len = true) (hne : len ≠ missing) :
    ∃ r', dflt.run RefR.impl ⟨e, fieldBits e idx rb, 0, true, 64⟩ = .ok (val, r') ∧ r'.pos = len := by
  unfold chkReadEntry idxReader at h
  split at h
  · rename_i v r heq
    simp only [Bool.or_eq_true, beq_iff_eq, Bool.and_eq_true] at h
    rcases h with h | ⟨h1, h2⟩
    · exact absurd h hne
    · exact ⟨r, by rw [heq, h1], h2.symm⟩
  · simp only [beq_iff_eq] at h; exact absurd h hne
  · cases h
  · cases h

/-- `chkReadChunk` / `chkWriteChunk` with the entry check as a parameter -/
def walk (f : Nat → Nat → Nat → Bool) : Nat → List Nat → List Nat → Bool
  | _, [], [] => true
  | i, v :: vs, l :: ls => f i v l && walk f (i + 1) vs ls
  | _, _, _ => false

/-- `chkReadChunks` / `chkWriteChunks` with the entry check and the final size check as parameters -/
def walks (f : Nat → Nat → Nat → Bool) (fin : Nat → Bool) :
    Nat → List (List Nat) → List (List Nat) → Bool
  | i, [], [] => fin i
  | i, vc :: vcs, lc :: lcs => walk f i vc lc && walks f fin (i + vc.length) vcs lcs
  | _, _, _ => false

theorem walk_mono {f g : Nat → Nat → Nat → Bool} (h : ∀ i v l, f i v l = true → g i v l = true) :
    ∀ i vs ls, walk f i vs ls = true → walk g i vs ls = true
  | _, [], [], _ => rfl
  | i, v :: vs, l :: ls, hw => by
    rw [walk, Bool.and_eq_true] at hw ⊢
    exact ⟨h i v l hw.1, walk_mono h _ vs ls hw.2⟩
  | _, [], _ :: _, hw => by cases hw
  | _, _ :: _, [], hw => by cases hw

theorem walks_mono {f g : Nat → Nat → Nat → Bool} {fin : Nat → Bool}
    (h : ∀ i v l, f i v l = true → g i v l = true) :
    ∀ i vcs lcs, walks f fin i vcs lcs = true → walks g fin i vcs lcs = true
  | _, [], [], hw => hw
  | i, vc :: vcs, lc :: lcs, hw => by
    rw [walks, Bool.and_eq_true] at hw ⊢
    exact ⟨walk_mono h i vc lc hw.1, walks_mono h _ vcs lcs hw.2⟩
  | _, [], _ :: _, hw => by cases hw
  | _, _ :: _, [], hw => by cases hw

theorem walk_sound {f : Nat → Nat → Nat → Bool} :
    ∀ (start : Nat) (vs ls : List Nat), walk f start vs ls = true →
      vs.length = ls.length ∧ ∀ i, i < vs.length → ∃ v l, vs[i]? = some v ∧ ls[i]? = some l ∧
        f (start + i) v l = true := by
  intro start vs
  induction vs generalizing start with
  | nil =>
    intro ls h
    cases ls with
    | nil => exact ⟨rfl, fun i hi => absurd hi (Nat.not_lt_zero _)⟩
    | cons l ls => cases h
  | cons v vs ih =>
    intro ls h
    cases ls with
    | nil => cases h
    | cons l ls =>
      simp only [walk, Bool.and_eq_true] at h
      have ⟨hlen, hrest⟩ := ih (start + 1) ls h.2
      refine ⟨by simp [hlen], ?_⟩
      intro i hi
      cases i with
      | zero => exact ⟨v, l, rfl, rfl, h.1⟩
      | succ i =>
        obtain ⟨v', l', h1, h2, h3⟩ := hrest i (by simpa using hi)
        refine ⟨v', l', by simpa using h1, by simpa using h2, ?_⟩
        rw [← h3]; congr 1; omega

theorem walks_sound {f : Nat → Nat → Nat → Bool} {fin : Nat → Bool} :
    ∀ (vcs lcs : List (List Nat)) (start : Nat), walks f fin start vcs lcs = true →
      fin (start + vcs.flatten.length) = true ∧ lcs.flatten.length = vcs.flatten.length ∧
      ∀ i, i < vcs.flatten.length → ∃ v l, vcs.flatten[i]? = some v ∧ lcs.flatten[i]? = some l ∧
        f (start + i) v l = true := by
  intro vcs
  induction vcs with
  | nil =>
    intro lcs start h
    cases lcs with
    | nil => exact ⟨h, rfl, fun i hi => absurd hi (Nat.not_lt_zero _)⟩
    | cons l ls => cases h
  | cons vc vcs ih =>
    intro lcs start h
    cases lcs with
    | nil => cases h
    | cons lc lcs =>
      simp only [walks, Bool.and_eq_true] at h
      have ⟨hlen, hc⟩ := walk_sound start vc lc h.1
      have ⟨htot, hlens, hrest⟩ := ih lcs (start + vc.length) h.2
      refine ⟨by simpa only [List.flatten_cons, List.length_append, Nat.add_assoc] using htot,
        by simp only [List.flatten_cons, List.length_append]; omega, ?_⟩
      intro i hi
      simp only [List.flatten_cons] at hi ⊢
      by_cases hiv : i < vc.length
      · obtain ⟨v, l, h1, h2, h3⟩ := hc i hiv
        refine ⟨v, l, ?_, ?_, h3⟩
        · rw [List.getElem?_append_left hiv]; exact h1
        · rw [List.getElem?_append_left (by omega)]; exact h2
      · have hiv' : vc.length ≤ i := Nat.le_of_not_lt hiv
        obtain ⟨v, l, h1, h2, h3⟩ := hrest (i - vc.length) (by
          simp only [List.length_append] at hi; omega)
        refine ⟨v, l, ?_, ?_, ?_⟩
        · rw [List.getElem?_append_right hiv']; exact h1
        · rw [List.getElem?_append_right (by omega), ← hlen]; exact h2
        · rw [← h3]; congr 1; omega

theorem chkReadChunk_eq_walk (e : Endian) (dflt : RProg Nat) (rb missing : Nat) :
    ∀ i vs ls, chkReadChunk e dflt rb missing i vs ls = walk (chkReadEntry e dflt rb missing) i vs ls
  | _, [], [] => rfl
  | i, v :: vs, l :: ls => by rw [chkReadChunk, walk, chkReadChunk_eq_walk e dflt rb missing _ vs ls]
  | _, [], _ :: _ => rfl
  | _, _ :: _, [] => rfl

theorem chkReadChunks_eq_walks (e : Endian) (dflt : RProg Nat) (rb missing : Nat) :
    ∀ i vcs lcs, chkReadChunks e dflt rb missing i vcs lcs
      = walks (chkReadEntry e dflt rb missing) (· == 2 ^ rb) i vcs lcs
  | _, [], [] => rfl
  | i, vc :: vcs, lc :: lcs => by
    rw [chkReadChunks, walks, chkReadChunk_eq_walk, chkReadChunks_eq_walks e dflt rb missing _ vcs lcs]
  | _, [], _ :: _ => rfl
  | _, _ :: _, [] => rfl

theorem chkReadChunks_split {e : Endian} {dflt : RProg Nat} {rb missing : Nat} (n : Nat) :
    ∀ (i : Nat) (vcs lcs : List (List Nat)),
      chkReadChunks e dflt rb missing i vcs lcs =
        (chkReadChunksNoEnd e dflt rb missing i (vcs.take n) (lcs.take n) &&
          chkReadChunks e dflt rb missing (i + (vcs.take n).flatten.length) (vcs.drop n) (lcs.drop n)) := by
  induction n with
  | zero => intro i vcs lcs; simp [chkReadChunksNoEnd]
  | succ n ih =>
    intro i vcs lcs
    cases vcs with
    | nil =>
      cases lcs with
      | nil => simp [chkReadChunksNoEnd]
      | cons l ls => simp [chkReadChunks, chkReadChunksNoEnd]
    | cons v vs =>
      cases lcs with
      | nil => simp [chkReadChunks, chkReadChunksNoEnd]
      | cons l ls =>
        simp only [List.take_succ_cons, List.drop_succ_cons, chkReadChunks, chkReadChunksNoEnd,
          List.flatten_cons, List.length_append]
        rw [ih (i + v.length) vs ls, Bool.and_assoc, Nat.add_assoc]

theorem chkReadRest_split {e : Endian} {dflt : RProg Nat} {rb missing : Nat} (n : Nat) (st : RPos) :
    chkReadRest e dflt rb missing st =
      (chkReadHead e dflt rb missing n st && chkReadRest e dflt rb missing (st.adv n)) :=
  chkReadChunks_split n st.1 st.2.1 st.2.2

theorem readOK_of_chk {e : Endian} {dflt : RProg Nat} {rb missing : Nat} {vcs lcs : List (List Nat)}
    (h : chkReadTable e dflt rb missing vcs lcs = true) :
    ReadOK e dflt ⟨rb, missing, vcs.flatten.toArray, lcs.flatten.toArray⟩ := by
  simp only [chkReadTable, chkReadChunks_eq_walks, Bool.and_eq_true, decide_eq_true_eq] at h
  have ⟨htot, _, hent⟩ := walks_sound vcs lcs 0 h.2
  replace htot : 0 + vcs.flatten.length = 2 ^ rb := by simpa using htot
  refine ⟨h.1, ?_⟩
  intro idx hidx
  simp only at hidx
  obtain ⟨v, l, h1, h2, h3⟩ := hent idx (by omega)
  refine ⟨v, l, by simpa using h1, by simpa using h2, ?_⟩
  simpa using h3

theorem chkReadTable_sizes {e : Endian} {dflt : RProg Nat} {rb missing : Nat}
    {vcs lcs : List (List Nat)} (h : chkReadTable e dflt rb missing vcs lcs = true) :
    vcs.flatten.toArray.size = 2 ^ rb ∧ lcs.flatten.toArray.size = 2 ^ rb := by
  simp only [chkReadTable, chkReadChunks_eq_walks, Bool.and_eq_true, decide_eq_true_eq] at h
  have ⟨htot, hl, _⟩ := walks_sound vcs lcs 0 h.2
  replace htot : 0 + vcs.flatten.length = 2 ^ rb := by simpa using htot
  simp only [List.size_toArray]
  omega

end Tables

/-- **Table decoding = bit-by-bit decoding**, generic in the table: on *every* reference reader
    state `r` (any position, strict or zero-extended, any number of bits left) whose look-ahead
    capacity is at least the index width, the table-driven program and its peek-free fallback
    have the same outcome. -/
theorem readTable_eq {e : Endian} {dflt : RProg Nat} (hpf : PeekFree dflt) {t : RTab}
    (hok : Tables.ReadOK e dflt t) (r : RefR) (he : r.e = e) (hpm : t.readBits ≤ r.peekMax) :
    (readTable t dflt).run RefR.impl r = dflt.run RefR.impl r := by
  subst he
  have hrb := hok.rb_pos
  unfold readTable
  simp only [RProg.run, RefR.impl_peekBits, RefR.peekBits]
  rw [if_neg (by omega)]
  by_cases hav : r.avail t.readBits = true
  · rw [if_pos hav]
    simp only
    have hlen : (takeZ t.readBits r.rest).length = t.readBits := takeZ_length _ _
    have hidx : bitsVal r.e (takeZ t.readBits r.rest) < 2 ^ t.readBits := by
      have := bitsVal_lt r.e (takeZ t.readBits r.rest)
      rwa [hlen] at this
    obtain ⟨v, l, hv, hl, hchk⟩ := hok.entries _ hidx
    rw [hl, hv]
    simp only
    by_cases hm : l = t.missing
    · rw [if_neg (by simp [hm])]
    · rw [if_pos hm]
      obtain ⟨r', hrun, hpos⟩ := Tables.chkReadEntry_hit hchk hm
      have hfb : fieldBits r.e (bitsVal r.e (takeZ t.readBits r.rest)) t.readBits
          = takeZ t.readBits r.rest := by
        have := fieldBits_bitsVal r.e (takeZ t.readBits r.rest)
        rwa [hlen] at this
      rw [hfb] at hrun
      have := run_embed dflt hpf r.e _ 64 v r' hrun r rfl (by rw [hlen]) (by rw [hlen]; exact hav)
      rw [this, hpos]
      simp [RProg.run, RefR.skipAfterPeek]
  · rw [if_neg hav]

/-- the table reader only uses its fallback at the state it was started in -/
theorem readTable_congr (t : RTab) (fb fb' : RProg Nat) (r : RefR)
    (h : fb.run RefR.impl r = fb'.run RefR.impl r) :
    (readTable t fb).run RefR.impl r = (readTable t fb').run RefR.impl r := by
  unfold readTable
  simp only [RProg.run, RefR.impl_peekBits, RefR.peekBits]
  by_cases h0 : t.readBits = 0 ∨ t.readBits > r.peekMax
  · rw [if_pos h0]
  · rw [if_neg h0]
    by_cases hav : r.avail t.readBits = true
    · rw [if_pos hav]
      simp only
      cases t.lens[bitsVal r.e (takeZ t.readBits r.rest)]? with
      | none => rfl
      | some l =>
        cases t.vals[bitsVal r.e (takeZ t.readBits r.rest)]? with
        | none => rfl
        | some v =>
          simp only
          by_cases hm : l ≠ t.missing
          · rw [if_pos hm, if_pos hm]
          · rw [if_neg hm, if_neg hm]; exact h
    · rw [if_neg hav]; exact h

end Dsi
