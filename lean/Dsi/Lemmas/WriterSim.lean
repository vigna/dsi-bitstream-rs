/-
  `flush` in closed form (`flush_delivers`, `flush_ok`); the length of the abstract stream
  (`abs_length`) and `RefW.fits` as a count of words (`fits_eq`), as used by the simulation step
  `Delivers.sim` of `Props/Writer`.
-/
import Dsi.Lemmas.WriterCore
namespace Dsi
namespace BufW
variable {W : Nat}

theorem flush_delivers (e : Endian) (s : BufW W) (hi : s.Inv) :
    Delivers e s (List.replicate ((W - (W - s.space)) % W) false) (W - s.space) (flush e s) := by
  obtain ⟨hi1, hi2⟩ := hi
  unfold flush
  dsimp only
  by_cases h0 : W - s.space = 0
  · rw [if_neg (fun h => h h0)]
    refine Delivers.fast (b := s.buffer) (sp := s.space) hi1 hi2 ?_
    rw [h0, Nat.sub_zero, Nat.mod_self, List.replicate_zero, List.append_nil]
  · rw [if_pos h0, Nat.sub_sub_self hi2, Nat.mod_eq_of_lt (Nat.lt_of_sub_pos (Nat.pos_of_ne_zero h0))]
    refine ⟨[shiftIn e s.buffer s.space], shiftIn e s.buffer s.space, W, ?_,
      Nat.lt_of_lt_of_le hi1 hi2, Nat.le_refl W, ?_⟩
    · rw [← emit_eq_emitAll]
      cases s.emit _ <;> rfl
    · rw [List.flatMap_cons, List.flatMap_nil, List.append_nil, validAt_full, List.append_nil,
        shifted_word e s.buffer hi2]

theorem flush_ok (e : Endian) {s s' : BufW W} {k : Nat} (h : flush e s = .ok (k, s')) :
    W - s'.space = 0 ∧ (s.space ≤ W → s'.space = W) := by
  unfold flush at h
  dsimp only at h
  split at h
  · cases he : s.emit (shiftIn e s.buffer s.space) <;> rw [he] at h <;> cases h
    exact ⟨Nat.sub_self W, fun _ => rfl⟩
  · rename_i h0
    cases h
    exact ⟨Decidable.of_not_not h0,
      fun hs => Nat.le_antisymm hs (Nat.le_of_sub_eq_zero (Decidable.of_not_not h0))⟩

theorem abs_length (e : Endian) (s : BufW W) :
    (s.abs e).length = s.out.length * W + (W - s.space) := by
  rw [abs, List.length_append, length_flatMap_wordBits, valid_eq, validAt_length]

theorem fits_eq (r : RefW) (l : List Bool) : r.fits l = capFits r.cap (l.length / r.W) := by
  unfold RefW.fits
  cases r.cap <;> simp [capFits]

end BufW
end Dsi
