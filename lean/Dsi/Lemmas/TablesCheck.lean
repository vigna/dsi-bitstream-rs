/-
  C05 — executable checkers for the precomputed coding tables over the *generated* table
  literals.  Core Lean only.  These definitions are what the table theorems state.  The length
  checks are evaluated by the kernel as they stand (`decide +kernel`), the decoding and encoding
  checks through the number machines of `Dsi.Lemmas.TablesNat`, whose checks imply them.

  The checkers walk `List Nat` chunks linearly with a running index (no array indexing: `Array`
  access on big literals is quadratic in the kernel).
-/
import Dsi.Codes
import Dsi.Ref
namespace Dsi

/-! ### decoding tables -/

/-- the strict reference reader over exactly the `rb` bits of the table index `idx` -/
def Tables.idxReader (e : Endian) (idx rb : Nat) : RefR :=
  { e := e, stream := fieldBits e idx rb, pos := 0, strict := true, peekMax := 64 }

/-- One entry of a decoding table: run the bit-by-bit reader `dflt` on the `rb` index bits alone
    (strict stream).  A miss (`len = missing`) is always safe because the table reader falls
    back; a hit must return the value and the length the bit-by-bit reader finds within those
    `rb` bits.  If the bit-by-bit reader runs out of bits the entry must be a miss. -/
def chkReadEntry (e : Endian) (dflt : RProg Nat) (rb missing idx val len : Nat) : Bool :=
  match dflt.run RefR.impl (Tables.idxReader e idx rb) with
  | .ok (v, r) => len == missing || (val == v && len == r.pos)
  | .err _ => len == missing
  | .panic => false
  | .dpanic => false

/-- a chunk of a decoding table (values, lengths) whose first entry has index `start` -/
def chkReadChunk (e : Endian) (dflt : RProg Nat) (rb missing : Nat) :
    Nat → List Nat → List Nat → Bool
  | _, [], [] => true
  | i, v :: vs, l :: ls =>
    chkReadEntry e dflt rb missing i v l && chkReadChunk e dflt rb missing (i + 1) vs ls
  | _, _, _ => false

/-- all chunks from index `start` on; at the end the number of entries must be `2^rb` -/
def chkReadChunks (e : Endian) (dflt : RProg Nat) (rb missing : Nat) :
    Nat → List (List Nat) → List (List Nat) → Bool
  | i, [], [] => i == 2 ^ rb
  | i, vc :: vcs, lc :: lcs =>
    chkReadChunk e dflt rb missing i vc lc &&
      chkReadChunks e dflt rb missing (i + vc.length) vcs lcs
  | _, _, _ => false

/-- A whole decoding table, given as chunks: the index width is at least one, both arrays have
    exactly `2^rb` entries and every entry passes `chkReadEntry`. -/
def chkReadTable (e : Endian) (dflt : RProg Nat) (rb missing : Nat)
    (vals lens : List (List Nat)) : Bool :=
  decide (1 ≤ rb) && chkReadChunks e dflt rb missing 0 vals lens

/-! #### a decoding-table check cut into pieces

  A check can be cut into *heads* (the next `n` chunks, no size check) and a *rest*; the cut is by
  position in the chunk list, so the pieces mention no table content.
  `chkReadRest_split` (`Dsi.Lemmas.TablesSound`) recombines them. -/

/-- like `chkReadChunks`, without the final size check -/
def chkReadChunksNoEnd (e : Endian) (dflt : RProg Nat) (rb missing : Nat) :
    Nat → List (List Nat) → List (List Nat) → Bool
  | _, [], [] => true
  | i, vc :: vcs, lc :: lcs =>
    chkReadChunk e dflt rb missing i vc lc &&
      chkReadChunksNoEnd e dflt rb missing (i + vc.length) vcs lcs
  | _, _, _ => false

/-- position in a table walk: next index, remaining value chunks, remaining length chunks -/
abbrev Tables.RPos := Nat × List (List Nat) × List (List Nat)

/-- skip the next `n` chunks -/
def Tables.RPos.adv (n : Nat) (st : Tables.RPos) : Tables.RPos :=
  (st.1 + (st.2.1.take n).flatten.length, st.2.1.drop n, st.2.2.drop n)

/-- check the next `n` chunks -/
def chkReadHead (e : Endian) (dflt : RProg Nat) (rb missing n : Nat) (st : Tables.RPos) : Bool :=
  chkReadChunksNoEnd e dflt rb missing st.1 (st.2.1.take n) (st.2.2.take n)

/-- check all remaining chunks and the final size -/
def chkReadRest (e : Endian) (dflt : RProg Nat) (rb missing : Nat) (st : Tables.RPos) : Bool :=
  chkReadChunks e dflt rb missing st.1 st.2.1 st.2.2

/-! ### encoding tables -/

/-- the empty growable reference writer -/
def Tables.emptyW (e : Endian) (checks : Bool) : RefW :=
  { e := e, W := 64, checks := checks, cap := none, bits := [] }

/-- One entry of an encoding table: the bit-by-bit writer `dflt v`, run on an empty growable
    writer, appends exactly the `len` low bits of `bits` and returns `len`; moreover
    `1 ≤ len ≤ 64` and `bits` has no bit set beyond `len` (so `write_bits` accepts it under
    `checks`). -/
def chkWriteEntry (e : Endian) (dflt : Nat → WProg Nat) (v bits len : Nat) : Bool :=
  match (dflt v).run RefW.impl (Tables.emptyW e false) with
  | .ok (r, w) => r == len && w.bits == fieldBits e bits len && decide (1 ≤ len)
      && decide (len ≤ 64) && decide (bits < 2 ^ len)
  | _ => false

def chkWriteChunk (e : Endian) (dflt : Nat → WProg Nat) : Nat → List Nat → List Nat → Bool
  | _, [], [] => true
  | i, b :: bs, l :: ls => chkWriteEntry e dflt i b l && chkWriteChunk e dflt (i + 1) bs ls
  | _, _, _ => false

/-- all chunks from value `start` on; at the end the number of entries must be `wmax + 1` -/
def chkWriteChunks (e : Endian) (dflt : Nat → WProg Nat) (wmax : Nat) :
    Nat → List (List Nat) → List (List Nat) → Bool
  | i, [], [] => i == wmax + 1
  | i, bc :: bcs, lc :: lcs =>
    chkWriteChunk e dflt i bc lc && chkWriteChunks e dflt wmax (i + bc.length) bcs lcs
  | _, _, _ => false

/-- A whole encoding table: `wmax + 1` entries in both arrays (all values below `2^64 - 1`), each
    passing `chkWriteEntry`. -/
def chkWriteTable (e : Endian) (dflt : Nat → WProg Nat) (wmax : Nat)
    (vals lens : List (List Nat)) : Bool :=
  decide (wmax + 1 < 2 ^ 64) && chkWriteChunks e dflt wmax 0 vals lens

/-! ### length tables -/

def chkLenEntry (dflt : Nat → Nat) (v len : Nat) : Bool := len == dflt v

def chkLenChunk (dflt : Nat → Nat) : Nat → List Nat → Bool
  | _, [] => true
  | i, l :: ls => chkLenEntry dflt i l && chkLenChunk dflt (i + 1) ls

def chkLenChunks (dflt : Nat → Nat) (wmax : Nat) : Nat → List (List Nat) → Bool
  | i, [] => i == wmax + 1
  | i, c :: cs => chkLenChunk dflt i c && chkLenChunks dflt wmax (i + c.length) cs

/-- A whole length table: `wmax + 1` entries, entry `v` equal to `dflt v`. -/
def chkLenTable (dflt : Nat → Nat) (wmax : Nat) (lens : List (List Nat)) : Bool :=
  chkLenChunks dflt wmax 0 lens

end Dsi
