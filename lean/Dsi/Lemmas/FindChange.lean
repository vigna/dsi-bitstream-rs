/-
  Lemmas about the `FindChangePoints` model: the exponential phase brackets the least change
  point, the binary phase finds it, neither runs out of fuel, overflows or trips a debug
  assertion on a non-decreasing function.

  The argument: a non-decreasing `f` keeps the value `f cur` exactly below the least change point
  `x` (`LeastChange.eq_iff_lt`), so each comparison `f mid = f cur` of either bisection (the
  iterator's and the reference's) is the comparison `mid < x`, and each probe of the exponential
  phase the comparison `cur + 2^j < x`.
-/
import Dsi.Glue.FindChange
namespace Dsi
namespace FC

/-- non-decreasing on the values the search may probe (`< 2^64 - 1`) -/
def Mono (f : Nat → Nat) : Prop := ∀ a b, a ≤ b → b < U64MAX → f a ≤ f b

/-- a state the iterator can be in after its first call -/
def Started (f : Nat → Nat) (s : FC) : Prop := s.prev = some (f s.current) ∧ s.current < U64MAX

/-- `x` is the least point after `cur` where `f` differs from `f cur` -/
def LeastChange (f : Nat → Nat) (cur x : Nat) : Prop :=
  cur < x ∧ f x ≠ f cur ∧ ∀ y, cur ≤ y → y < x → f y = f cur

/-- some probe `cur + 2^j` of the exponential search lies at or beyond `x` and below `2^64 - 1` -/
def InReach (cur x : Nat) : Prop := ∃ j, x ≤ cur + 2 ^ j ∧ cur + 2 ^ j < U64MAX

/-! ### below `U64MAX` no u64 sum overflows -/

theorem lt_two_pow_64 {a : Nat} (h : a < U64MAX) : a < 2 ^ 64 := by
  unfold U64MAX at h; omega

theorem no_ovf {a : Nat} (h : a < U64MAX) : ¬ a ≥ 2 ^ 64 := Nat.not_le.mpr (lt_two_pow_64 h)

/-- the exit test of the exponential phase: the next probe would not be below `2^64 - 1` -/
theorem out_iff {cur step : Nat} : U64MAX - cur ≤ step ↔ ¬ cur + step < U64MAX := by
  omega

theorem exp_lt_64 {cur j : Nat} (h : cur + 2 ^ j < U64MAX) : j < 64 :=
  (Nat.pow_lt_pow_iff_right (by decide)).1
    (Nat.lt_of_le_of_lt (Nat.le_add_left _ _) (lt_two_pow_64 h))

/-- one round of the exponential phase; the overflow check cannot fire below `U64MAX` -/
theorem expPhase_succ (f : Nat → Nat) (cur prev fuel step : Nat) :
    expPhase f cur prev (fuel + 1) step =
      if ¬ cur + step < U64MAX then .ok none
      else if f (cur + step) < prev then .dpanic
      else if f (cur + step) ≠ prev then .ok (some step)
      else if step * 2 ≥ 2 ^ 64 then .ok none
      else expPhase f cur prev fuel (step * 2) := by
  rw [expPhase]
  by_cases h : cur + step < U64MAX
  · rw [if_neg (fun h1 => out_iff.mp h1 h), if_neg (no_ovf h), if_neg (not_not_intro h)]
  · rw [if_pos (out_iff.mpr h), if_pos h]

theorem binPhase_succ (f : Nat → Nat) (prev fuel left right : Nat) :
    binPhase f prev (fuel + 1) left right =
      if left < right then
        if f (left + (right - left) / 2) < prev then .dpanic
        else if f (left + (right - left) / 2) = prev then
          if left + (right - left) / 2 + 1 ≥ 2 ^ 64 then .dpanic
          else binPhase f prev fuel (left + (right - left) / 2 + 1) right
        else binPhase f prev fuel left (left + (right - left) / 2)
      else .ok left := rfl

theorem Mono.const_between {f : Nat → Nat} (hm : Mono f) {cur y z : Nat}
    (h1 : cur ≤ y) (h2 : y ≤ z) (hz : z < U64MAX) (hv : f z = f cur) : f y = f cur := by
  have a := hm cur y h1 (by omega)
  have b := hm y z h2 hz
  omega

theorem LeastChange.eq_iff_lt {f : Nat → Nat} (hm : Mono f) {cur x y : Nat}
    (hx : LeastChange f cur x) (h1 : cur ≤ y) (h2 : y < U64MAX) : f y = f cur ↔ y < x :=
  ⟨fun h => Nat.lt_of_not_le fun hxy =>
      hx.2.1 (hm.const_between (Nat.le_of_lt hx.1) hxy h2 h),
   hx.2.2 y h1⟩

theorem exists_leastChange {f : Nat → Nat} {cur z : Nat} (hz : cur < z) (h : f z ≠ f cur) :
    ∃ x, LeastChange f cur x ∧ x ≤ z := by
  induction z using Nat.strongRecOn with
  | _ z ih =>
    by_cases hex : ∃ y, cur < y ∧ y < z ∧ f y ≠ f cur
    · obtain ⟨y, h1, h2, h3⟩ := hex
      obtain ⟨x, hx, hxy⟩ := ih y h2 h1 h3
      exact ⟨x, hx, by omega⟩
    · refine ⟨z, ⟨hz, h, fun y hy1 hy2 => ?_⟩, Nat.le_refl _⟩
      rcases Nat.eq_or_lt_of_le hy1 with rfl | hlt
      · rfl
      · exact Classical.not_not.mp fun hne => hex ⟨y, hlt, hy2, hne⟩

theorem leastChange_unique {f : Nat → Nat} {cur x x' : Nat}
    (h : LeastChange f cur x) (h' : LeastChange f cur x') : x = x' :=
  Nat.le_antisymm
    (Nat.le_of_not_lt fun hlt => h'.2.1 (h.2.2 x' (Nat.le_of_lt h'.1) hlt))
    (Nat.le_of_not_lt fun hlt => h.2.1 (h'.2.2 x (Nat.le_of_lt h.1) hlt))

/-- From step `2^i` (the previous probe `cur + 2^i / 2` still having the anchor's value) the
    exponential phase either stops at the first probe `cur + 2^j` with another value, the probe
    before it having the anchor's value, or finds the anchor's value at every probe below
    `2^64 - 1` and returns `none`. -/
theorem expPhase_spec {f : Nat → Nat} (hm : Mono f) (cur : Nat) :
    ∀ fuel i, i ≤ 63 → 64 - i ≤ fuel → f (cur + 2 ^ i / 2) = f cur →
    (∃ j, cur + 2 ^ j < U64MAX ∧ f (cur + 2 ^ j) ≠ f cur ∧ f (cur + 2 ^ j / 2) = f cur ∧
        expPhase f cur (f cur) fuel (2 ^ i) = .ok (some (2 ^ j))) ∨
    ((∀ j, i ≤ j → cur + 2 ^ j < U64MAX → f (cur + 2 ^ j) = f cur) ∧
        expPhase f cur (f cur) fuel (2 ^ i) = .ok none) := by
  intro fuel
  induction fuel with
  | zero => intro i hi hf; omega
  | succ fuel ih =>
    intro i hi hf hhalf
    rw [expPhase_succ]
    by_cases hlt : cur + 2 ^ i < U64MAX
    · rw [if_neg (not_not_intro hlt), if_neg (Nat.not_lt.mpr (hm cur _ (Nat.le_add_right _ _) hlt))]
      by_cases h4 : f (cur + 2 ^ i) = f cur
      · rw [if_neg (not_not_intro h4)]
        by_cases h5 : 2 ^ i * 2 ≥ 2 ^ 64
        · rw [if_pos h5]
          refine Or.inr ⟨fun j hij hj => ?_, rfl⟩
          have hi64 : 64 ≤ i + 1 := (Nat.pow_le_pow_iff_right (by decide)).1 h5
          obtain rfl : j = i :=
            Nat.le_antisymm (Nat.le_of_lt_succ (Nat.lt_of_lt_of_le (exp_lt_64 hj) hi64)) hij
          exact h4
        · have hi' : i + 1 < 64 :=
            (Nat.pow_lt_pow_iff_right (by decide)).1 (Nat.lt_of_not_le h5)
          have hhalf' : f (cur + 2 ^ (i + 1) / 2) = f cur := by
            rw [Nat.pow_succ, Nat.mul_div_cancel _ Nat.two_pos]; exact h4
          rw [if_neg h5, ← Nat.pow_succ]
          rcases ih (i + 1) (Nat.le_of_lt_succ hi') (by omega) hhalf' with ⟨j, a, b, c, e⟩ | ⟨a, e⟩
          · exact Or.inl ⟨j, a, b, c, e⟩
          · refine Or.inr ⟨fun j hij hj => ?_, e⟩
            rcases Nat.eq_or_lt_of_le hij with rfl | h
            · exact h4
            · exact a j h hj
      · rw [if_pos h4]
        exact Or.inl ⟨i, hlt, h4, hhalf, rfl⟩
    · rw [if_pos hlt]
      refine Or.inr ⟨fun j hij hj => absurd ?_ hlt, rfl⟩
      exact Nat.lt_of_le_of_lt (Nat.add_le_add_left (Nat.pow_le_pow_right Nat.two_pos hij) _) hj

theorem mid_lt {left right : Nat} (h : left < right) : left + (right - left) / 2 < right := by
  omega

theorem mid_bounds {left right w : Nat} (h : left < right) (hw : right - left < w * 2) :
    left ≤ left + (right - left) / 2 ∧ left + (right - left) / 2 < right ∧
      right - (left + (right - left) / 2 + 1) < w ∧ left + (right - left) / 2 - left < w := by
  omega

theorem binPhase_eq {f : Nat → Nat} (hm : Mono f) {cur x : Nat} (hx : LeastChange f cur x) :
    ∀ fuel left right, right - left < 2 ^ fuel → cur ≤ left → left ≤ x → x ≤ right →
      right < U64MAX → binPhase f (f cur) (fuel + 1) left right = .ok x := by
  intro fuel
  induction fuel with
  | zero =>
    intro left right hw hc hl hr hU
    rw [binPhase_succ, if_neg (by omega), show left = x by omega]
  | succ fuel ih =>
    intro left right hw hc hl hr hU
    rw [binPhase_succ]
    by_cases h1 : left < right
    · obtain ⟨m1, m2, m3, m4⟩ := mid_bounds h1 hw
      have hmU := Nat.lt_trans m2 hU
      have hiff := hx.eq_iff_lt hm (Nat.le_trans hc m1) hmU
      rw [if_pos h1, if_neg (Nat.not_lt.mpr (hm cur _ (Nat.le_trans hc m1) hmU))]
      by_cases h4 : f (left + (right - left) / 2) = f cur
      · rw [if_pos h4, if_neg (no_ovf (Nat.lt_of_le_of_lt m2 hU))]
        exact ih _ _ m3 (Nat.le_succ_of_le (Nat.le_trans hc m1)) (hiff.1 h4) hr hU
      · rw [if_neg h4]
        exact ih _ _ m4 hc hl (Nat.le_of_not_lt (mt hiff.2 h4)) hmU
    · rw [if_neg h1, show left = x by omega]

theorem next_first (f : Nat → Nat) :
    next f new = .ok (some (0, f 0), { current := 0, prev := some (f 0) }) := by
  simp [next, new]

theorem started_first (f : Nat → Nat) : Started f { current := 0, prev := some (f 0) } := by
  constructor
  · rfl
  · show 0 < U64MAX
    decide

theorem next_started {f : Nat → Nat} (hm : Mono f) {s : FC} (hs : Started f s) :
    (∃ x, LeastChange f s.current x ∧ InReach s.current x ∧
        next f s = .ok (some (x, f x), { current := x, prev := some (f x) }) ∧
        Started f { current := x, prev := some (f x) }) ∨
    ((¬ ∃ x, LeastChange f s.current x ∧ InReach s.current x) ∧ next f s = .ok (none, s)) := by
  obtain ⟨hp, hc⟩ := hs
  have hfirst : ¬ (s.current = 0 ∧ s.prev = none) := by simp [hp]
  have hpv : s.prevValue = f s.current := by simp [prevValue, hp]
  rcases expPhase_spec hm s.current 65 0 (by omega) (by omega) rfl with
    ⟨j, hlt, hne, hhalf, hr⟩ | ⟨hnone, hr⟩ <;> rw [Nat.pow_zero] at hr
  · -- the least change point lies in the bracket `[cur + 2^j / 2, cur + 2^j]`
    have hpos : 0 < 2 ^ j := Nat.two_pow_pos j
    obtain ⟨x, hx, hxr⟩ := exists_leastChange (z := s.current + 2 ^ j) (by omega) hne
    have hxl := (hx.eq_iff_lt hm (Nat.le_add_right _ _)
      (Nat.lt_of_le_of_lt (Nat.add_le_add_left (Nat.div_le_self _ _) _) hlt)).1 hhalf
    have hb := binPhase_eq hm hx 64 (s.current + 2 ^ j / 2) (s.current + 2 ^ j)
      (Nat.lt_of_le_of_lt (Nat.sub_le _ _) (lt_two_pow_64 hlt)) (Nat.le_add_right _ _)
      (Nat.le_of_lt hxl) hxr hlt
    have hxU : x < U64MAX := Nat.lt_of_le_of_lt hxr hlt
    have hmono : ¬ f x < f s.current := Nat.not_lt.mpr (hm _ _ (Nat.le_of_lt hx.1) hxU)
    refine Or.inl ⟨x, hx, ⟨j, hxr, hlt⟩, ?_, rfl, hxU⟩
    simp only [next, if_neg hfirst, hpv, hr, if_neg (no_ovf hlt), hb, if_neg hmono]
  · refine Or.inr ⟨?_, by simp only [next, if_neg hfirst, hpv, hr]⟩
    rintro ⟨x, hx, j, hj1, hj2⟩
    exact hx.2.1 (hm.const_between (Nat.le_of_lt hx.1) hj1 hj2 (hnone j (Nat.zero_le _) hj2))

/-- every change point up to `2^63` is within reach of the search: the probe `cur + 2^j` with
    `j = ⌊log₂ (x - cur - 1)⌋ + 1` is the first at or beyond `x`, and at most `2x - cur - 2`
    (for `x = cur + 1`: `j = 0`, the probe is `x`) -/
theorem inReach_of_le {cur x : Nat} (h : cur < x) (hx : x ≤ 2 ^ 63) : InReach cur x := by
  by_cases h1 : x = cur + 1
  · exact ⟨0, by omega, by unfold U64MAX; omega⟩
  · have a := Nat.log2_self_le (n := x - cur - 1) (by omega)
    have b := Nat.lt_log2_self (n := x - cur - 1)
    rw [Nat.pow_succ] at b
    refine ⟨(x - cur - 1).log2 + 1, ?_, ?_⟩ <;> rw [Nat.pow_succ]
    · omega
    · unfold U64MAX; omega

/-! ### the reference used by the correspondence check (`specNext`) is the same specification -/

theorem reachTopAux_sound {cur top : Nat} : ∀ {n}, reachTopAux cur n = some top →
    ∃ j, top = cur + 2 ^ j ∧ cur + 2 ^ j < U64MAX
  | n + 1, h => by
    rw [reachTopAux] at h
    split at h
    · next hlt => exact ⟨n, (Option.some.inj h).symm, hlt⟩
    · exact reachTopAux_sound h

theorem reachTopAux_complete {cur j : Nat} (hj : cur + 2 ^ j < U64MAX) : ∀ {n}, j < n →
    ∃ top, reachTopAux cur n = some top ∧ cur + 2 ^ j ≤ top
  | n + 1, hjn => by
    rw [reachTopAux]
    split
    · exact ⟨_, rfl, Nat.add_le_add_left (Nat.pow_le_pow_right Nat.two_pos (by omega)) _⟩
    · next hn =>
      rcases Nat.eq_or_lt_of_le (Nat.le_of_lt_succ hjn) with rfl | hlt
      · exact absurd hj hn
      · exact reachTopAux_complete hj hlt

theorem inReach_iff_reachTop (cur x : Nat) :
    InReach cur x ↔ ∃ top, reachTop cur = some top ∧ x ≤ top := by
  constructor
  · rintro ⟨j, hj1, hj2⟩
    obtain ⟨top, ht, hle⟩ := reachTopAux_complete hj2 (exp_lt_64 hj2)
    exact ⟨top, ht, Nat.le_trans hj1 hle⟩
  · rintro ⟨top, hr, hx⟩
    obtain ⟨j, rfl, hlt⟩ := reachTopAux_sound hr
    exact ⟨j, hx, hlt⟩

theorem avg_bounds {lo hi w : Nat} (h : ¬ hi ≤ lo + 1) (hw : hi - lo ≤ w * 2) :
    lo < (lo + hi) / 2 ∧ (lo + hi) / 2 < hi ∧ hi - (lo + hi) / 2 ≤ w ∧ (lo + hi) / 2 - lo ≤ w := by
  omega

theorem leastChange_eq {f : Nat → Nat} (hm : Mono f) {cur x : Nat} (hx : LeastChange f cur x) :
    ∀ fuel lo hi, hi - lo ≤ 2 ^ fuel → cur ≤ lo → lo < x → x ≤ hi → hi < U64MAX →
      leastChange f (f cur) fuel lo hi = x := by
  intro fuel
  induction fuel with
  | zero =>
    intro lo hi hw hc hl hr hU
    show hi = x
    omega
  | succ fuel ih =>
    intro lo hi hw hc hl hr hU
    rw [leastChange]
    by_cases h1 : hi ≤ lo + 1
    · rw [if_pos h1]; omega
    · obtain ⟨m1, m2, m3, m4⟩ := avg_bounds h1 hw
      have hmU := Nat.lt_trans m2 hU
      have hcm := Nat.le_trans hc (Nat.le_of_lt m1)
      have hiff := hx.eq_iff_lt hm hcm hmU
      simp only [if_neg h1]
      by_cases h2 : f ((lo + hi) / 2) = f cur
      · rw [if_pos h2]
        exact ih _ _ m3 hcm (hiff.1 h2) hr hU
      · rw [if_neg h2]
        exact ih _ _ m4 hc hl (Nat.le_of_not_lt (mt hiff.2 h2)) hmU

theorem specNext_spec {f : Nat → Nat} (hm : Mono f) (cur : Nat) :
    (specNext f cur = none → ¬ ∃ x, LeastChange f cur x ∧ InReach cur x) ∧
    (∀ x v, specNext f cur = some (x, v) → LeastChange f cur x ∧ InReach cur x ∧ v = f x) := by
  rw [show specNext f cur = specNextAt f cur (reachTop cur) from rfl]
  generalize hr : reachTop cur = rt
  cases rt with
  | none =>
    refine ⟨fun _ => ?_, fun x v h => nomatch h⟩
    rintro ⟨x, _, hx⟩
    obtain ⟨top, ht, _⟩ := (inReach_iff_reachTop cur x).1 hx
    exact nomatch hr.symm.trans ht
  | some top =>
    obtain ⟨j, rfl, hlt⟩ := reachTopAux_sound hr
    by_cases h : f (cur + 2 ^ j) = f cur
    · rw [specNextAt, if_pos h]
      refine ⟨fun _ => ?_, fun x v h' => nomatch h'⟩
      rintro ⟨x, hx, hxr⟩
      obtain ⟨top', ht', hle⟩ := (inReach_iff_reachTop cur x).1 hxr
      cases hr.symm.trans ht'
      exact hx.2.1 (hm.const_between (Nat.le_of_lt hx.1) hle hlt h)
    · rw [specNextAt, if_neg h]
      have hpos : 0 < 2 ^ j := Nat.two_pow_pos j
      obtain ⟨x, hx, hxt⟩ := exists_leastChange (z := cur + 2 ^ j) (by omega) h
      have hw : 2 ^ j ≤ 2 ^ bisectFuel :=
        Nat.pow_le_pow_right Nat.two_pos (Nat.le_trans (Nat.le_of_lt (exp_lt_64 hlt)) (by decide))
      rw [leastChange_eq hm hx bisectFuel cur _ (by omega) (Nat.le_refl _) hx.1 hxt hlt]
      refine ⟨fun h' => (nomatch h'), fun x' v h' => ?_⟩
      cases h'
      exact ⟨hx, (inReach_iff_reachTop cur x).2 ⟨_, hr, hxt⟩, rfl⟩

theorem specNext_eq_some {f : Nat → Nat} (hm : Mono f) {cur x : Nat}
    (hx : LeastChange f cur x) (hr : InReach cur x) : specNext f cur = some (x, f x) := by
  cases hsp : specNext f cur with
  | none => exact absurd ⟨x, hx, hr⟩ ((specNext_spec hm cur).1 hsp)
  | some p =>
    obtain ⟨a, _, c⟩ := (specNext_spec hm cur).2 p.1 p.2 hsp
    rw [leastChange_unique hx a, ← c]

theorem specNext_eq_none {f : Nat → Nat} (hm : Mono f) {cur : Nat}
    (h : ¬ ∃ x, LeastChange f cur x ∧ InReach cur x) : specNext f cur = none := by
  cases hsp : specNext f cur with
  | none => rfl
  | some p =>
    obtain ⟨a, b, _⟩ := (specNext_spec hm cur).2 p.1 p.2 hsp
    exact absurd ⟨p.1, a, b⟩ h

theorem collect_eq_spec {f : Nat → Nat} (hm : Mono f) : ∀ (fuel : Nat) (s : FC) (acc : List (Nat × Nat)),
    Started f s → collect f fuel s acc = .ok (specCollect f fuel s.current acc) := by
  intro fuel
  induction fuel with
  | zero => intro s acc _; rfl
  | succ fuel ih =>
    intro s acc hs
    unfold collect specCollect
    rcases next_started hm hs with ⟨x, hx, hr, hn, hst⟩ | ⟨hno, hn⟩
    · rw [hn, specNext_eq_some hm hx hr]
      exact ih _ _ hst
    · rw [hn, specNext_eq_none hm hno]
      rfl

/-- the iterator model and the reference of the correspondence check agree on every
    non-decreasing function -/
theorem changePoints_eq_spec {f : Nat → Nat} (hm : Mono f) (n : Nat) :
    changePoints f n = .ok (specChangePoints f n) := by
  cases n with
  | zero => rfl
  | succ n =>
    simp only [changePoints, collect, next_first, specChangePoints]
    exact collect_eq_spec hm n _ _ (started_first f)

end FC
end Dsi
