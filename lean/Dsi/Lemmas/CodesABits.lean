/-
  Basic facts about bit fields, unary codewords and the list helpers of `Dsi.Basic` / `Dsi.Ref`.
-/
import Dsi.Basic
import Dsi.Ref
namespace Dsi

@[simp] theorem fieldLE_length (v n : Nat) : (fieldLE v n).length = n := by
  induction n generalizing v with
  | zero => rfl
  | succ n ih => simp [fieldLE, ih]

@[simp] theorem fieldBits_length (e : Endian) (v n : Nat) : (fieldBits e v n).length = n := by
  cases e <;> simp [fieldBits]

theorem natLE_fieldLE (v n : Nat) : natLE (fieldLE v n) = v % 2 ^ n := by
  induction n generalizing v with
  | zero => exact (Nat.mod_one v).symm
  | succ n ih =>
    rw [fieldLE, natLE, ih, Nat.pow_succ, Nat.mul_comm (2 ^ n) 2, Nat.mod_mul]
    rcases Nat.mod_two_eq_zero_or_one v with h | h
    · rw [h]; rfl
    · rw [h]; rfl

theorem bitsVal_fieldBits (e : Endian) (v n : Nat) : bitsVal e (fieldBits e v n) = v % 2 ^ n := by
  cases e <;> simp [bitsVal, fieldBits, natLE_fieldLE]

@[simp] theorem takeZ_length (n : Nat) (l : List Bool) : (takeZ n l).length = n := by
  induction n generalizing l with
  | zero => rfl
  | succ n ih => cases l <;> simp [takeZ, ih]

theorem fieldLE_natLE (s : List Bool) : fieldLE (natLE s) s.length = s := by
  induction s with
  | nil => rfl
  | cons b bs ih =>
    simp only [List.length_cons, fieldLE, natLE]
    cases b
    · simp [ih]
    · have h1 : (1 + 2 * natLE bs) % 2 = 1 := by omega
      have h2 : (1 + 2 * natLE bs) / 2 = natLE bs := by omega
      simp [h1, h2, ih]

theorem fieldBits_bitsVal (e : Endian) (s : List Bool) : fieldBits e (bitsVal e s) s.length = s := by
  cases e with
  | le => exact fieldLE_natLE s
  | be =>
    have := fieldLE_natLE s.reverse
    simp only [List.length_reverse] at this
    simp [fieldBits, bitsVal, this]

theorem natLE_lt (s : List Bool) : natLE s < 2 ^ s.length := by
  induction s with
  | nil => exact Nat.one_pos
  | cons b bs ih =>
    rw [natLE, List.length_cons, Nat.pow_succ]
    cases b <;> simp only [Bool.false_eq_true, if_false, if_true] <;> omega

theorem bitsVal_lt (e : Endian) (s : List Bool) : bitsVal e s < 2 ^ s.length := by
  cases e with
  | le => exact natLE_lt s
  | be => exact List.length_reverse ▸ natLE_lt s.reverse

theorem fieldLE_mod (v n : Nat) : fieldLE (v % 2 ^ n) n = fieldLE v n := by
  induction n generalizing v with
  | zero => rfl
  | succ n ih =>
    simp only [fieldLE]
    have h1 : v % 2 ^ (n + 1) % 2 = v % 2 := by
      rw [Nat.pow_succ, Nat.mul_comm]
      exact Nat.mod_mul_right_mod v 2 (2 ^ n)
    have h2 : v % 2 ^ (n + 1) / 2 = (v / 2) % 2 ^ n := by
      rw [Nat.pow_succ, Nat.mul_comm, Nat.mod_mul_right_div_self]
    rw [h1, h2, ih]

theorem fieldLE_congr {a b n : Nat} (h : a % 2 ^ n = b % 2 ^ n) : fieldLE a n = fieldLE b n := by
  rw [← fieldLE_mod a, ← fieldLE_mod b, h]

theorem fieldBits_congr (e : Endian) {a b n : Nat} (h : a % 2 ^ n = b % 2 ^ n) :
    fieldBits e a n = fieldBits e b n := by
  cases e <;> simp [fieldBits, fieldLE_congr h]

theorem fieldBits_one (e : Endian) (v : Nat) : fieldBits e v 1 = [v % 2 == 1] := by
  cases e <;> rfl

theorem fieldLE_succ_last (v n : Nat) :
    fieldLE v (n + 1) = fieldLE v n ++ [(v / 2 ^ n) % 2 == 1] := by
  induction n generalizing v with
  | zero => simp [fieldLE]
  | succ n ih =>
    rw [fieldLE, ih (v / 2)]
    simp only [fieldLE, List.cons_append, Nat.div_div_eq_div_mul, Nat.pow_succ]
    rw [Nat.mul_comm 2 (2 ^ n)]

theorem takeZ_append_left (a b : List Bool) (n : Nat) (h : a.length = n) : takeZ n (a ++ b) = a := by
  induction a generalizing n with
  | nil => subst h; cases b <;> rfl
  | cons x xs ih =>
    subst h
    simp [takeZ, ih]

theorem drop_pre (pre r : List Bool) : (pre ++ r).drop pre.length = r := by
  simp

@[simp] theorem unaryBits_length (x : Nat) : (unaryBits x).length = x + 1 := by
  simp [unaryBits]

theorem firstOne_unary (x : Nat) (r : List Bool) : RefR.firstOne (unaryBits x ++ r) = some x := by
  induction x with
  | zero => simp [unaryBits, RefR.firstOne]
  | succ x ih =>
    have : unaryBits (x + 1) ++ r = false :: (unaryBits x ++ r) := by
      simp [unaryBits, List.replicate_succ]
    rw [this, RefR.firstOne, ih]; rfl

theorem log2_bounds {m : Nat} (h : m ≠ 0) : 2 ^ m.log2 ≤ m ∧ m < 2 ^ (m.log2 + 1) :=
  ⟨Nat.log2_self_le h, Nat.lt_log2_self⟩

theorem log2_lt_of_lt {m k : Nat} (hk : k ≠ 0) (h : m < 2 ^ k) : m.log2 < k := by
  by_cases h0 : m = 0
  · rw [h0, Nat.log2_zero]; exact Nat.pos_of_ne_zero hk
  · exact (Nat.log2_lt h0).2 h

theorem log2_lt_64 {m : Nat} (h : m < 2 ^ 64) : m.log2 < 64 := log2_lt_of_lt (by decide) h

theorem mod_pow_log2_add {m : Nat} (h : m ≠ 0) : m % 2 ^ m.log2 + 2 ^ m.log2 = m := by
  have ⟨h1, h2⟩ := log2_bounds h
  rw [Nat.pow_succ, Nat.mul_two] at h2
  rw [Nat.mod_eq_sub_mod h1, Nat.mod_eq_of_lt (Nat.sub_lt_left_of_lt_add h1 h2), Nat.sub_add_cancel h1]

theorem sub_pow_log2_mod {m : Nat} (h : m ≠ 0) : (m - 2 ^ m.log2) % 2 ^ m.log2 = m % 2 ^ m.log2 :=
  (Nat.mod_eq_sub_mod (log2_bounds h).1).symm

/-- the low bits of `(m << 1) | 1` -/
theorem two_mul_add_one_mod (m P : Nat) : (2 * m + 1) % (2 * P) = 2 * (m % P) + 1 := by
  rw [Nat.mod_mul, Nat.mul_add_mod, Nat.mul_add_div (by decide), Nat.add_comm]
  rfl

theorem div_pow_log2 {m : Nat} (h : m ≠ 0) : m / 2 ^ m.log2 = 1 := by
  have ⟨h1, h2⟩ := log2_bounds h
  rw [Nat.pow_succ, Nat.mul_comm] at h2
  exact Nat.div_eq_of_lt_le (by rwa [Nat.one_mul]) h2

end Dsi
