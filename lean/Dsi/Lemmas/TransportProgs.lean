/-
  Side conditions of the reader simulations, for every code reader of `Dsi.Codes` / `Dsi.Defaults`:
  `RSide K p` packs `PeekBounded W 0 p` for every `W ≥ K` (buffered reader), `BitR.ProgOK 0 p` when
  `K ≤ 32` and `BitR.NoSkip p` (unbuffered reader).  `K` is an upper bound on the look-aheads of
  `p` (`RSide.mono`).

  * programs without look-ahead and without `skip` whose reads are of at most 64 bits (`Simple`,
    in `Lemmas/EndToEndProgs`) satisfy `RSide K` for every `K`;
  * `RSide` is closed under `bind`, `if`, and the table-reader shape (`readTable`), provided the
    table never asks to skip more than it peeked (`LensOK`, which a checked table satisfies:
    the reader that fills it cannot run past the index bits).
-/
import Dsi.Lemmas.EndToEndProgs
import Dsi.Props.Equiv
import Dsi.Props.Writer
namespace Dsi.TrL
open Dsi Dsi.E2E Gen BitRd

/-- the side conditions of `rprog_sim` (for every word size `W ≥ K`) and of `bitr_rprog_sim`
    (when `K ≤ 32`) -/
structure RSide {α : Type} (K : Nat) (p : RProg α) : Prop where
  pb : ∀ W, K ≤ W → PeekBounded W 0 p
  ok : K ≤ 32 → BitR.ProgOK 0 p
  ns : BitR.NoSkip p

theorem RSide.of_simple {α : Type} {p : RProg α} (hp : Simple p) (K : Nat) : RSide K p :=
  ⟨fun W _ => hp.peekBounded W p 0, fun _ => hp.progOK p 0, hp.noSkip p⟩

theorem RSide.mono {α : Type} {p : RProg α} {K K' : Nat} (h : RSide K p) (hK : K ≤ K') : RSide K' p :=
  ⟨fun W hW => h.pb W (Nat.le_trans hK hW), fun h32 => h.ok (Nat.le_trans hK h32), h.ns⟩

theorem RSide.bind {α β : Type} {K : Nat} {p : RProg α} {f : α → RProg β} (hp : RSide K p)
    (hf : ∀ a, RSide K (f a)) : RSide K (p.bind f) :=
  ⟨fun W hW => peekBounded_bind p f (fun a => (hf a).pb W hW) (hp.pb W hW),
   fun h32 => progOK_bind p f (fun a => (hf a).ok h32) (hp.ok h32),
   noSkip_bind p f (fun a => (hf a).ns) hp.ns⟩

theorem RSide.ite {α : Type} {K : Nat} {c : Prop} [Decidable c] {p q : RProg α} (hp : c → RSide K p)
    (hq : ¬ c → RSide K q) : RSide K (if c then p else q) := by
  split
  · exact hp ‹_›
  · exact hq ‹_›

/-- a hit never asks to skip more bits than were peeked -/
def LensOK (t : RTab) : Prop :=
  ∀ (idx l : Nat), t.lens[idx]? = some l → l ≠ t.missing → l ≤ t.readBits

theorem peekFree_run_avail {α : Type} (p : RProg α) (hp : PeekFree p) : ∀ {r r' : RefR} {a : α},
    r.avail 0 = true → p.run RefR.impl r = .ok (a, r') → r'.avail 0 = true := by
  induction p with
  | ret a => intro r r' b h0 h; cases h; exact h0
  | fail er => intro _ _ _ _ h; cases h
  | panic => intro _ _ _ _ h; cases h
  | dpanic => intro _ _ _ _ h; cases h
  | readBits n k ih =>
    intro r r' b _ h
    rw [RProg.run_readBits] at h
    obtain ⟨x, hx, hk⟩ := Res.bind_eq_ok.mp h
    exact ih _ (hp _) (ref_readBits_avail hx) hk
  | readUnary k ih =>
    intro r r' b _ h
    rw [RProg.run_readUnary] at h
    obtain ⟨x, hx, hk⟩ := Res.bind_eq_ok.mp h
    exact ih _ (hp _) (ref_readUnary_avail hx) hk
  | peek n k _ => exact hp.elim
  | skipAfterPeek n k _ => exact hp.elim
  | skip n k ih =>
    intro r r' b _ h
    rw [RProg.run_skip] at h
    obtain ⟨x, hx, hk⟩ := Res.bind_eq_ok.mp h
    refine ih hp ?_ hk
    rw [RefR.impl_skipBits, RefR.skipBits] at hx
    split at hx
    · cases hx; assumption
    · cases hx

theorem lensOK_of_readOK {e : Endian} {dflt : RProg Nat} {t : RTab} (hpf : PeekFree dflt)
    (hok : Tables.ReadOK e dflt t) (hsz : t.lens.size = 2 ^ t.readBits) : LensOK t := by
  intro idx l hl hne
  have hidx : idx < 2 ^ t.readBits := hsz ▸ (Array.getElem?_eq_some_iff.mp hl).1
  obtain ⟨v, l', _, hl', hchk⟩ := hok.entries idx hidx
  cases hl.symm.trans hl'
  obtain ⟨r', hrun, hpos⟩ := Tables.chkReadEntry_hit hchk hne
  -- the run leaves the stream and its strictness as they were, and the cursor inside
  -- (`run_embed_aux` with the stream embedded in itself: `s = S`, `pm = PM = 64`, offset `p0 = 0`,
  -- strict; only its first conclusion, the shape of the final reader, is kept)
  obtain ⟨q', rfl, -⟩ := Tables.run_embed_aux dflt hpf e _ _ 64 64 0 true (fun i _ => by rw [Nat.zero_add])
    (fun _ => Nat.le_of_eq (Nat.zero_add _)) 0 v _ hrun
  have := (RefR.avail_iff _ 0).1 (peekFree_run_avail dflt hpf rfl hrun) rfl
  rwa [← hpos, ← fieldBits_length e idx t.readBits]
theorem rside_readTable {K rb : Nat} (t : RTab) (fb : RProg Nat) (hrb : t.readBits = rb)
    (h1 : 1 ≤ rb) (hK : rb ≤ K) (hl : LensOK t) (hfb : RSide K fb) : RSide K (readTable t fb) := by
  subst hrb
  refine ⟨fun W hW => ⟨Nat.le_trans hK hW, fun idx => ?_, fun x => hfb.pb W hW⟩,
    fun h32 => ⟨h1, Nat.le_trans hK h32, fun idx => ?_, fun x => hfb.ok h32⟩, fun x => ?_⟩
  · dsimp only
    split
    · split
      · exact ⟨hl idx _ (by assumption) (by assumption), trivial⟩
      · exact peekBounded_mono fb (Nat.zero_le _) (hfb.pb W hW)
    · trivial
  · dsimp only
    split
    · split
      · exact ⟨hl idx _ (by assumption) (by assumption), trivial⟩
      · exact progOK_mono fb (Nat.zero_le _) (hfb.ok h32)
    · trivial
  · cases x with
    | error er => exact hfb.ns
    | ok idx =>
      dsimp only
      split
      · split
        · trivial
        · exact hfb.ns
      · trivial

theorem lensOK_gamma (e : Endian) : LensOK (gammaRTab e) :=
  lensOK_of_readOK Tables.peekFree_gamma (Tables.gammaReadOK e) (gammaRTab_sizes e).2

theorem lensOK_delta (e : Endian) : LensOK (deltaRTab e) :=
  lensOK_of_readOK Tables.peekFree_delta (Tables.deltaReadOK e) (deltaRTab_sizes e).2

theorem lensOK_zeta (e : Endian) : LensOK (zetaRTab e) :=
  lensOK_of_readOK (Tables.peekFree_zeta 3) (Tables.zetaReadOK e) (zetaRTab_sizes e).2

def need (t : Bool) (rb : Nat) : Nat := if t then rb else 0

theorem need_le {t : Bool} {rb K : Nat} (h : t = true → rb ≤ K) : need t rb ≤ K := by
  cases t
  · exact Nat.zero_le _
  · exact h rfl

theorem rside_gammaP (e : Endian) (t : Bool) : RSide (need t Gamma.READ_BITS) (readGammaP e t) := by
  cases t with
  | false => exact RSide.of_simple simple_gamma _
  | true =>
    exact rside_readTable _ _ (Tables.gammaRTab_readBits e) (by decide) (Nat.le_refl _)
      (lensOK_gamma e) (RSide.of_simple simple_gamma _)

theorem rside_deltaDefault (e : Endian) (tg : Bool) :
    RSide (need tg Gamma.READ_BITS) (readDeltaDefault (opt tg (gammaRTab e))) := by
  unfold readDeltaDefault
  exact RSide.bind (rside_gammaP e tg) (fun len => RSide.of_simple (simple_tail len) _)

theorem rside_deltaP (e : Endian) (td tg : Bool) :
    RSide (max (need td Delta.READ_BITS) (need tg Gamma.READ_BITS)) (readDeltaP e td tg) := by
  cases td with
  | false => exact (rside_deltaDefault e tg).mono (Nat.le_max_right _ _)
  | true =>
    exact rside_readTable _ _ (Tables.deltaRTab_readBits e) (by decide) (Nat.le_max_left _ _)
      (lensOK_delta e)
      ((rside_deltaDefault e tg).mono (Nat.le_max_right _ _))

theorem rside_zeta3P (e : Endian) (t : Bool) : RSide (need t Zeta.READ_BITS) (readZeta3P e t) := by
  cases t with
  | false => exact RSide.of_simple (simple_zeta 3) _
  | true =>
    exact rside_readTable _ _ (Tables.zetaRTab_readBits e) (by decide) (Nat.le_refl _)
      (lensOK_zeta e) (RSide.of_simple (simple_zeta 3) _)

theorem rside_expGolomb_opt (e : Endian) (t : Bool) (k : Nat) :
    RSide (need t Gamma.READ_BITS) (readExpGolomb (opt t (gammaRTab e)) k) := by
  unfold readExpGolomb
  refine RSide.ite (fun _ => RSide.of_simple Simple.dpanic _) (fun hk => ?_)
  refine RSide.bind (rside_gammaP e t) (fun g => RSide.of_simple ?_ _)
  refine Simple.readBits (by omega) (fun v => ?_)
  exact Simple.ite (fun _ => trivial) (fun _ => trivial)

/-- the own reader program of every code (`Dsi/Glue/Dispatch.lean`) -/
theorem rside_ownRead (e : Endian) (c : CodeId) {v : Nat} (hd : c.Dom v) :
    RSide tablePeek (ownRead e c) := by
  obtain ⟨fam, p⟩ := c
  cases fam
  case unary => exact RSide.of_simple simple_unary _
  case gamma => exact (rside_gammaP e Params.readGammaTable).mono (need_le fun _ => gamma_le_tablePeek)
  case delta =>
    exact (rside_deltaP e Params.readDeltaTable Params.readDeltaGammaTable).mono
      (Nat.max_le.2 ⟨need_le fun _ => delta_le_tablePeek, need_le fun _ => gamma_le_tablePeek⟩)
  case omega =>
    exact ⟨fun _ hW => pb_omega e (Nat.le_trans one_le_tablePeek hW), fun _ => ok_omega e, ns_omega e⟩
  case vbyteBe => exact RSide.of_simple (simple_vbyteBe _) _
  case vbyteLe => exact RSide.of_simple (simple_vbyteLe _) _
  case zeta => exact RSide.of_simple (simple_zeta p) _
  case pi => exact RSide.of_simple (simple_pi p) _
  case golomb =>
    have hb : p < 2 ^ 64 := hd.2.1
    exact RSide.of_simple (simple_golomb hb) _
  case expGolomb => exact (rside_expGolomb_opt e Params.readGammaTable p).mono (need_le fun _ => gamma_le_tablePeek)
  case rice => exact RSide.of_simple (simple_rice p) _

theorem rside_callRead (e : Endian) (call : Call) (bound : Option Nat) {p : RProg Nat}
    {want : CodeId} {v : Nat} (hp : callRead e call bound = some p)
    (hok : semOk .read call bound want = true) (hd : want.Dom v) : RSide tablePeek p := by
  obtain ⟨got, hs, heq⟩ := semOk_elim hok
  rcases callRead_cases hs hp with rfl | ⟨rfl, _⟩
  · exact rside_ownRead e got ((equiv_dom heq v).2 hd)
  · exact (rside_zeta3P e Params.readZeta3Table).mono (need_le fun _ => zeta_le_tablePeek)

end Dsi.TrL
