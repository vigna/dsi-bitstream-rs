/-
  VByte: the arithmetic of the code. A value with `k` bytes is the first such value
  (`Spec.vbyteOffset (k-1)`) plus the base-128 number formed by the low 7 bits of its bytes, and
  the published byte list is those groups with the continuation bit set on all but the last.
  Lengths, the values of terminated strings (`vbyteValLe`, `vbyteValBe`) and `Spec.vbyteBytes`
  are all brought to this form.
-/
import Dsi.Lemmas.CodesBFrame
import Dsi.Spec
import Dsi.VByteIO
namespace Dsi.CodesB
open Dsi

theorem off_succ' (k : Nat) : Spec.vbyteOffset (k + 1) = Spec.vbyteOffset k + 128 ^ (k + 1) := by
  show Spec.vbyteOffset k + 2 ^ (7 * (k + 1)) = _
  rw [Nat.pow_mul]

theorem off_succ (k : Nat) : Spec.vbyteOffset (k + 1) = 128 * (Spec.vbyteOffset k + 1) := by
  induction k with
  | zero => rfl
  | succ k ih =>
    have h1 := off_succ' k
    have h2 := off_succ' (k + 1)
    rw [Nat.pow_succ] at h2
    omega

theorem off_le {a b : Nat} (h : a ≤ b) : Spec.vbyteOffset a ≤ Spec.vbyteOffset b := by
  induction h with
  | refl => exact Nat.le_refl _
  | step _ ih => exact Nat.le_trans ih (Nat.le_add_right _ _)

/-- `v` lies in block `j`, the values whose code has `j + 1` bytes -/
def Block (j v : Nat) : Prop := Spec.vbyteOffset j ≤ v ∧ v < Spec.vbyteOffset (j + 1)

theorem exists_block (v : Nat) : ∀ K, v < Spec.vbyteOffset K → ∃ j, j < K ∧ Block j v := by
  intro K
  induction K with
  | zero => exact fun h => absurd h (Nat.not_lt_zero _)
  | succ K ih =>
    intro h
    by_cases hK : v < Spec.vbyteOffset K
    · obtain ⟨j, hj, hb⟩ := ih hK
      exact ⟨j, Nat.lt_succ_of_lt hj, hb⟩
    · exact ⟨K, Nat.lt_succ_self K, Nat.le_of_not_lt hK, h⟩

theorem off10_gt : 2 ^ 64 < Spec.vbyteOffset 10 := by decide

theorem off9_lt : Spec.vbyteOffset 9 < 2 ^ 64 := by decide

theorem vbyteLen_of_block {v j : Nat} (hj : j ≤ 10) (h : Block j v) : Spec.vbyteLen v = j + 1 := by
  have hf : (List.range 11).find? (fun k => decide (v < Spec.vbyteOffset (k + 1))) = some j := by
    rw [List.find?_range_eq_some]
    refine ⟨decide_eq_true h.2, List.mem_range.2 (by omega), fun i hi => ?_⟩
    have := off_le (show i + 1 ≤ j by omega)
    exact Bool.not_eq_true' _ ▸ decide_eq_false (by have := h.1; omega)
  unfold Spec.vbyteLen
  rw [hf]; rfl

theorem vbyteLen_block {v : Nat} (hv : v < 2 ^ 64) :
    ∃ j, Spec.vbyteLen v = j + 1 ∧ j ≤ 9 ∧ Block j v := by
  obtain ⟨j, hj, hb⟩ := exists_block v 10 (Nat.lt_trans hv off10_gt)
  exact ⟨j, vbyteLen_of_block (by omega) hb, by omega, hb⟩

theorem block_succ {j v : Nat} (h : Block (j + 1) v) : v / 128 ≠ 0 ∧ Block j (v / 128 - 1) := by
  obtain ⟨h1, h2⟩ := h
  rw [off_succ] at h1 h2
  unfold Block
  omega

theorem lenLoop_of_block (fuel : Nat) : ∀ (j v len : Nat), j ≤ fuel → Block j v →
    vbyteByteLenLoop fuel v len = len + j := by
  induction fuel with
  | zero => intro j v len hj _; rw [Nat.le_zero.1 hj]; rfl
  | succ f ih =>
    intro j v len hj h
    cases j with
    | zero => rw [vbyteByteLenLoop, if_pos (Nat.div_eq_of_lt (show v < 128 from h.2))]; rfl
    | succ j =>
      rw [vbyteByteLenLoop, if_neg (block_succ h).1, ih j _ _ (Nat.le_of_succ_le_succ hj) (block_succ h).2]
      exact Nat.add_right_comm len 1 j

theorem vbyteLen_bounds (v : Nat) (hv : v < 2 ^ 64) :
    1 ≤ Spec.vbyteLen v ∧ Spec.vbyteLen v ≤ 10 ∧
    Spec.vbyteOffset (Spec.vbyteLen v - 1) ≤ v ∧ v < Spec.vbyteOffset (Spec.vbyteLen v) := by
  obtain ⟨j, hl, hj, h1, h2⟩ := vbyteLen_block hv
  rw [hl, Nat.add_sub_cancel]
  exact ⟨Nat.succ_pos j, Nat.succ_le_succ hj, h1, h2⟩

theorem specBytes_length (big : Bool) (v : Nat) :
    (Spec.vbyteBytes big v).length = Spec.vbyteLen v := by
  simp [Spec.vbyteBytes]

theorem block_unique {i j v : Nat} (hi : Block i v) (hj : Block j v) : i = j := by
  have h1 := fun h : i + 1 ≤ j => off_le h
  have h2 := fun h : j + 1 ≤ i => off_le h
  obtain ⟨a, b⟩ := hi; obtain ⟨c, d⟩ := hj
  omega

/-- base-128 value of the low 7 bits of each byte, least significant first -/
def dig : List Nat → Nat
  | [] => 0
  | b :: t => b % 128 + 128 * dig t

theorem dig_lt (s : List Nat) : dig s < 128 ^ s.length := by
  induction s with
  | nil => exact Nat.one_pos
  | cons b t ih =>
    rw [dig, List.length_cons, Nat.pow_succ]
    omega

theorem dig_map_mod (s : List Nat) : dig (s.map (· % 128)) = dig s := by
  induction s with
  | nil => rfl
  | cons b t ih => rw [List.map_cons, dig, dig, ih, Nat.mod_mod]

/-- the value whose code has the groups of `s` (least significant first): the first value with
    that many bytes, plus their base-128 value -/
def groupsVal (s : List Nat) : Nat := Spec.vbyteOffset (s.length - 1) + dig s

theorem groupsVal_bounds (s : List Nat) (hs : s ≠ []) :
    Spec.vbyteOffset (s.length - 1) ≤ groupsVal s ∧ groupsVal s < Spec.vbyteOffset s.length := by
  obtain ⟨n, hn⟩ := Nat.exists_eq_succ_of_ne_zero (mt List.length_eq_zero_iff.1 hs)
  have := dig_lt s
  rw [hn] at this
  rw [groupsVal, hn, Nat.succ_sub_one, off_succ']
  omega

theorem groupsVal_singleton (b : Nat) : groupsVal [b] = b % 128 := by
  simp only [groupsVal, dig, List.length_cons, List.length_nil, Nat.zero_add, Nat.sub_self,
    Nat.mul_zero, Nat.add_zero, Spec.vbyteOffset]

/-- peeling the lowest group off: what both encoders do in a round -/
theorem groupsVal_cons (b c : Nat) (t : List Nat) :
    groupsVal (b :: c :: t) = b % 128 + 128 * (groupsVal (c :: t) + 1) := by
  show Spec.vbyteOffset (t.length + 1) + (b % 128 + 128 * dig (c :: t))
    = b % 128 + 128 * (Spec.vbyteOffset t.length + dig (c :: t) + 1)
  rw [off_succ]
  generalize b % 128 = B
  generalize dig (c :: t) = D
  omega

theorem length_le_of_groupsVal_lt {s : List Nat} (h : groupsVal s < 2 ^ 64) : s.length ≤ 10 := by
  apply Nat.le_of_not_lt
  intro hl
  have := off_le (show 10 ≤ s.length - 1 by omega)
  have := off10_gt
  have : Spec.vbyteOffset (s.length - 1) ≤ groupsVal s := Nat.le_add_right _ _
  omega

theorem groupsVal_lt_of_length_le {s : List Nat} (h : s.length ≤ 9) : groupsVal s < 2 ^ 64 := by
  cases s with
  | nil => decide
  | cons b t =>
    have h2 := (groupsVal_bounds (b :: t) (List.cons_ne_nil _ _)).2
    have := off_le h
    have := off9_lt
    omega

/-- terminated byte string: non-empty, every byte except the last has its top bit set
    (`b / 128 ≠ 0`), the last has not -/
def Term : List Nat → Prop
  | [] => False
  | [l] => l / 128 = 0
  | b :: c :: cs => b / 128 ≠ 0 ∧ Term (c :: cs)

/-- mathematical (unbounded, non-wrapping) value of a big-endian VByte string:
    `value = b₀ & 0x7F`, then `value = (value + 1) * 128 + (b & 0x7F)` for every further byte -/
def vbyteValBe : List Nat → Nat
  | [] => 0
  | b :: bs => bs.foldl (fun v x => (v + 1) * 128 + x % 128) (b % 128)

/-- mathematical (unbounded, non-wrapping) value of a little-endian VByte string:
    the low 7 bits, plus 128 × (value of the rest, plus one when the continuation bit is set) -/
def vbyteValLe : List Nat → Nat
  | [] => 0
  | b :: bs => b % 128 + 128 * (vbyteValLe bs + (if b / 128 = 0 then 0 else 1))

theorem term_cons {b : Nat} {t : List Nat} (hb : b / 128 ≠ 0) (ht : Term t) : Term (b :: t) := by
  cases t with
  | nil => exact ht.elim
  | cons c cs => exact ⟨hb, ht⟩

theorem valLe_eq (s : List Nat) : Term s → vbyteValLe s = groupsVal s := by
  induction s with
  | nil => exact fun h => h.elim
  | cons b t ih =>
    intro h
    cases t with
    | nil => rw [groupsVal_singleton, vbyteValLe, if_pos (show b / 128 = 0 from h)]; rfl
    | cons c cs => rw [groupsVal_cons, vbyteValLe, if_neg h.1, ih h.2]

theorem valBe_snoc {xs : List Nat} (hx : xs ≠ []) (l : Nat) :
    vbyteValBe (xs ++ [l]) = (vbyteValBe xs + 1) * 128 + l % 128 := by
  cases xs with
  | nil => exact absurd rfl hx
  | cons x xs => simp only [List.cons_append, vbyteValBe, List.foldl_append, List.foldl_cons, List.foldl_nil]

theorem valBe_reverse (t : List Nat) : vbyteValBe t.reverse = groupsVal t := by
  induction t with
  | nil => rfl
  | cons b t ih =>
    cases t with
    | nil => exact (groupsVal_singleton b).symm
    | cons c t =>
      rw [List.reverse_cons, valBe_snoc (mt List.reverse_eq_nil_iff.1 (List.cons_ne_nil _ _)), ih,
        groupsVal_cons, Nat.add_comm, Nat.mul_comm]

theorem valBe_eq (s : List Nat) : vbyteValBe s = groupsVal s.reverse := by
  rw [← valBe_reverse, List.reverse_reverse]

def mark : List Nat → List Nat
  | [] => []
  | [g] => [g]
  | g :: h :: t => (g + 128) :: mark (h :: t)

theorem mark_map_mod (l : List Nat) : (mark l).map (· % 128) = l.map (· % 128) := by
  induction l with
  | nil => rfl
  | cons g t ih =>
    cases t with
    | nil => rfl
    | cons h t => rw [mark, List.map_cons, ih, Nat.add_mod_right]; rfl

theorem groupsVal_congr {s t : List Nat} (h : s.map (· % 128) = t.map (· % 128)) :
    groupsVal s = groupsVal t := by
  have hl : s.length = t.length := by rw [← List.length_map (f := (· % 128)), h, List.length_map]
  rw [groupsVal, groupsVal, ← dig_map_mod s, ← dig_map_mod t, h, hl]

theorem mark_of_term (s : List Nat) : Term s → (∀ b ∈ s, b < 256) → mark (s.map (· % 128)) = s := by
  induction s with
  | nil => exact fun h _ => h.elim
  | cons b t ih =>
    intro h hb
    have hb256 := hb b List.mem_cons_self
    cases t with
    | nil =>
      have h : b / 128 = 0 := h
      show [b % 128] = [b]
      rw [Nat.mod_eq_of_lt (by omega)]
    | cons c cs =>
      have h1 := h.1
      show (b % 128 + 128) :: mark ((c :: cs).map (· % 128)) = _
      rw [ih h.2 (fun x hx => hb x (List.mem_cons_of_mem _ hx)), show b % 128 + 128 = b by omega]

theorem term_mark (s : List Nat) (hs : s ≠ []) : Term (mark (s.map (· % 128))) := by
  induction s with
  | nil => exact absurd rfl hs
  | cons b t ih =>
    have hb : b % 128 < 128 := Nat.mod_lt _ (by decide)
    cases t with
    | nil => exact Nat.div_eq_of_lt hb
    | cons c cs => exact term_cons (b := b % 128 + 128) (by omega) (ih (List.cons_ne_nil _ _))

theorem mark_lt (s : List Nat) : ∀ x ∈ mark (s.map (· % 128)), x < 256 := by
  induction s with
  | nil => exact fun x hx => absurd hx List.not_mem_nil
  | cons b t ih =>
    have hb : b % 128 < 128 := Nat.mod_lt _ (by decide)
    intro x hx
    cases t with
    | nil => rw [List.mem_singleton.1 hx]; exact Nat.lt_trans hb (by decide)
    | cons c cs =>
      rcases List.mem_cons.1 hx with rfl | hx
      · exact Nat.add_lt_add_right hb 128
      · exact ih x hx

theorem mark_snoc (a : List Nat) (g : Nat) : mark (a ++ [g]) = a.map (· + 128) ++ [g] := by
  induction a with
  | nil => rfl
  | cons x a ih =>
    cases a with
    | nil => rfl
    | cons y a =>
      rw [List.cons_append] at ih
      rw [List.cons_append, List.cons_append, mark, ih]; rfl

theorem mark_mod_map (s : List Nat) : (mark (s.map (· % 128))).map (· % 128) = s.map (· % 128) := by
  rw [mark_map_mod, List.map_map]
  exact List.map_congr_left fun b _ => Nat.mod_mod _ _

theorem valLe_mark {s : List Nat} (hs : s ≠ []) : vbyteValLe (mark (s.map (· % 128))) = groupsVal s := by
  rw [valLe_eq _ (term_mark s hs)]
  exact groupsVal_congr (mark_mod_map s)

theorem valBe_mark (s : List Nat) : vbyteValBe (mark (s.map (· % 128))) = groupsVal s.reverse := by
  rw [valBe_eq]
  apply groupsVal_congr
  rw [List.map_reverse, mark_mod_map, List.map_reverse]

/-- `mark` by position, the form in which `Spec.vbyteBytes` sets the continuation bits
    (`spec_eq_mark`) -/
theorem mark_eq_range (l : List Nat) :
    (List.range l.length).map (fun i => l.getD i 0 + if i + 1 < l.length then 128 else 0) = mark l := by
  induction l with
  | nil => rfl
  | cons g t ih =>
    cases t with
    | nil => rfl
    | cons h t =>
    rw [List.length_cons, List.range_succ_eq_map, List.map_cons, List.map_map, mark, ← ih]
    simp only [List.length_cons, List.getD_cons_zero, Nat.zero_add, Nat.lt_add_left_iff_pos,
      Nat.zero_lt_succ, if_true, List.cons.injEq, true_and]
    apply List.map_congr_left
    intro i _
    simp only [Function.comp, List.getD_cons_succ, Nat.succ_eq_add_one, Nat.add_lt_add_iff_right]

def groups (k r : Nat) : List Nat := (List.range k).map fun i => r / 128 ^ i % 128

theorem groups_succ (k r : Nat) : groups (k + 1) r = r % 128 :: groups k (r / 128) := by
  rw [groups, List.range_succ_eq_map, List.map_cons, List.map_map, Nat.pow_zero, Nat.div_one]
  congr 1
  apply List.map_congr_left
  intro i _
  simp only [Function.comp, Nat.pow_succ', Nat.div_div_eq_div_mul]

theorem length_groups (k r : Nat) : (groups k r).length = k := by simp [groups]

theorem groups_map_mod (k r : Nat) : (groups k r).map (· % 128) = groups k r := by
  rw [groups, List.map_map]
  exact List.map_congr_left fun i _ => Nat.mod_mod _ _

theorem dig_groups (k : Nat) : ∀ r, dig (groups k r) = r % 128 ^ k := by
  induction k with
  | zero => intro r; rw [Nat.pow_zero, Nat.mod_one]; rfl
  | succ k ih => intro r; rw [groups_succ, dig, ih, Nat.mod_mod, Nat.pow_succ', Nat.mod_mul]

/-- the groups of the published code of `v`, least significant first -/
def specGroups (v : Nat) : List Nat :=
  groups (Spec.vbyteLen v) (v - Spec.vbyteOffset (Spec.vbyteLen v - 1))

theorem spec_eq_mark (big : Bool) (v : Nat) :
    Spec.vbyteBytes big v =
      mark ((if big then (specGroups v).reverse else specGroups v).map (· % 128)) := by
  have hm : (if big then (specGroups v).reverse else specGroups v).map (· % 128)
      = if big then (specGroups v).reverse else specGroups v := by
    cases big
    · exact groups_map_mod _ _
    · exact (List.map_reverse ..).trans (congrArg List.reverse (groups_map_mod _ _))
  have hl : (if big then (specGroups v).reverse else specGroups v).length = Spec.vbyteLen v := by
    cases big <;> simp [specGroups, length_groups]
  rw [hm, ← mark_eq_range, hl]; rfl

theorem spec_le_eq_mark (v : Nat) :
    Spec.vbyteBytes false v = mark ((specGroups v).map (· % 128)) := spec_eq_mark false v

theorem spec_be_eq_mark (v : Nat) :
    Spec.vbyteBytes true v = mark ((specGroups v).reverse.map (· % 128)) := spec_eq_mark true v

theorem groupsVal_specGroups {v : Nat} (hv : v < 2 ^ 64) : groupsVal (specGroups v) = v := by
  obtain ⟨j, hl, _, h1, h2⟩ := vbyteLen_block hv
  rw [off_succ'] at h2
  rw [groupsVal, specGroups, length_groups, dig_groups, hl, Nat.add_sub_cancel,
    Nat.mod_eq_of_lt (by omega)]
  omega

theorem specGroups_ne_nil {v : Nat} (hv : v < 2 ^ 64) : specGroups v ≠ [] := by
  intro h
  have := congrArg List.length h
  rw [specGroups, length_groups, List.length_nil] at this
  have := (vbyteLen_bounds v hv).1
  omega

theorem spec_term (big : Bool) {v : Nat} (hv : v < 2 ^ 64) : Term (Spec.vbyteBytes big v) := by
  rw [spec_eq_mark]
  refine term_mark _ ?_
  cases big
  · exact specGroups_ne_nil hv
  · exact fun h => specGroups_ne_nil hv (List.reverse_eq_nil_iff.1 h)

theorem spec_lt (big : Bool) (v : Nat) : ∀ b ∈ Spec.vbyteBytes big v, b < 256 := by
  rw [spec_eq_mark]; exact mark_lt _

theorem valLe_spec {v : Nat} (hv : v < 2 ^ 64) : vbyteValLe (Spec.vbyteBytes false v) = v := by
  rw [spec_le_eq_mark]
  exact (valLe_mark (specGroups_ne_nil hv)).trans (groupsVal_specGroups hv)

theorem valBe_spec {v : Nat} (hv : v < 2 ^ 64) : vbyteValBe (Spec.vbyteBytes true v) = v := by
  rw [spec_be_eq_mark, valBe_mark, List.reverse_reverse]
  exact groupsVal_specGroups hv

theorem specGroups_length_le {v : Nat} (hv : v < 2 ^ 64) : (specGroups v).length ≤ 10 := by
  rw [specGroups, length_groups]; exact (vbyteLen_bounds v hv).2.1

end Dsi.CodesB
