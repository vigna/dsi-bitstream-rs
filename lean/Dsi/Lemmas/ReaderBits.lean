/-
  Bit-level toolkit for the reader refinement proofs: streams as zero-extended bit functions,
  characterisation of `fieldLE`/`natLE`/`takeZ`/`bitsVal` by `Nat.testBit`, bit vectors read in
  stream order (`sbit`), words of a `flatMap`ped stream, the backend (`MemR.readWord_*`,
  `MemR.setWordPos_*`), the reference reader, `clz`/`ctz`.
-/
import Dsi.Lemmas.ProgSim
import Dsi.Lemmas.CodesABits
namespace Dsi

def bitZ (l : List Bool) (i : Nat) : Bool := l.getD i false

@[simp] theorem bitZ_nil (i : Nat) : bitZ [] i = false := by simp [bitZ]
@[simp] theorem bitZ_cons_zero (b : Bool) (l : List Bool) : bitZ (b :: l) 0 = b := by simp [bitZ]
@[simp] theorem bitZ_cons_succ (b : Bool) (l : List Bool) (i : Nat) :
    bitZ (b :: l) (i + 1) = bitZ l i := by simp [bitZ]

theorem bitZ_of_ge {l : List Bool} {i : Nat} (h : l.length ≤ i) : bitZ l i = false := by
  simp [bitZ, List.getD, List.getElem?_eq_none h]

theorem bitZ_drop (l : List Bool) (p i : Nat) : bitZ (l.drop p) i = bitZ l (p + i) := by
  simp [bitZ, List.getD, List.getElem?_drop]

theorem bitZ_append_left {l₁ l₂ : List Bool} {i : Nat} (h : i < l₁.length) :
    bitZ (l₁ ++ l₂) i = bitZ l₁ i := by
  simp [bitZ, List.getD, List.getElem?_append_left h]

theorem bitZ_append_right {l₁ l₂ : List Bool} {i : Nat} (h : l₁.length ≤ i) :
    bitZ (l₁ ++ l₂) i = bitZ l₂ (i - l₁.length) := by
  simp [bitZ, List.getD, List.getElem?_append_right h]

theorem list_eq_of_bitZ {l₁ l₂ : List Bool} (hl : l₁.length = l₂.length)
    (h : ∀ i, i < l₁.length → bitZ l₁ i = bitZ l₂ i) : l₁ = l₂ := by
  apply List.ext_getElem hl
  intro i h1 h2
  have := h i h1
  simpa [bitZ, List.getD, List.getElem?_eq_getElem h1, List.getElem?_eq_getElem h2] using this

theorem bitZ_takeZ (n : Nat) (l : List Bool) (i : Nat) :
    bitZ (takeZ n l) i = (decide (i < n) && bitZ l i) := by
  induction n generalizing l i with
  | zero => simp [takeZ]
  | succ n ih =>
    cases l with
    | nil => cases i <;> simp [takeZ, ih]
    | cons b bs => cases i <;> simp [takeZ, ih]

theorem bitZ_fieldLE (v n i : Nat) : bitZ (fieldLE v n) i = (decide (i < n) && v.testBit i) := by
  induction n generalizing v i with
  | zero => simp [fieldLE]
  | succ n ih =>
    cases i with
    | zero => simp [fieldLE, Nat.testBit_zero]; rcases Nat.mod_two_eq_zero_or_one v with h | h <;> simp [h]
    | succ i => simp [fieldLE, ih, Nat.testBit_succ]

theorem testBit_natLE_rr (l : List Bool) (i : Nat) : (natLE l).testBit i = bitZ l i := by
  induction l generalizing i with
  | nil => simp [natLE]
  | cons b bs ih =>
    cases i with
    | zero => cases b <;> simp [natLE, Nat.testBit_zero, Nat.add_mod]
    | succ i =>
      rw [bitZ_cons_succ, ← ih, natLE, Nat.testBit_succ]
      congr 1
      cases b <;> simp <;> omega

theorem bitZ_reverse {l : List Bool} {i : Nat} (h : i < l.length) :
    bitZ l.reverse i = bitZ l (l.length - 1 - i) := by
  simp [bitZ, List.getD, List.getElem?_reverse h]

/-- value bit `i` of an `n`-bit field is bit `fieldIdx e n i` of the field in stream order -/
def fieldIdx (e : Endian) (n i : Nat) : Nat :=
  match e with
  | .be => n - 1 - i
  | .le => i

theorem fieldIdx_lt (e : Endian) {n i : Nat} (h : i < n) : fieldIdx e n i < n := by
  cases e
  · exact Nat.lt_of_le_of_lt (Nat.sub_le _ _) (Nat.sub_lt (Nat.zero_lt_of_lt h) Nat.one_pos)
  · exact h

theorem testBit_bitsVal (e : Endian) (l : List Bool) (n i : Nat) :
    (bitsVal e (takeZ n l)).testBit i = (decide (i < n) && bitZ l (fieldIdx e n i)) := by
  cases e
  · simp only [bitsVal, testBit_natLE_rr, fieldIdx]
    by_cases h : i < n
    · have hf : n - 1 - i < n := fieldIdx_lt .be h
      rw [bitZ_reverse (by rw [takeZ_length]; exact h), takeZ_length, bitZ_takeZ,
        decide_eq_true hf, decide_eq_true h]
    · rw [bitZ_of_ge (by rw [List.length_reverse, takeZ_length]; exact Nat.le_of_not_lt h),
        decide_eq_false h, Bool.false_and]
  · simp only [bitsVal, testBit_natLE_rr, fieldIdx, bitZ_takeZ]

theorem guard_congr {p q : Prop} [Decidable p] [Decidable q] {a b : Bool} (hpq : p ↔ q)
    (hab : q → a = b) : (decide p && a) = (decide q && b) := by
  by_cases hq : q
  · rw [decide_eq_true (hpq.2 hq), decide_eq_true hq, hab hq]
  · rw [decide_eq_false fun hp => hq (hpq.1 hp), decide_eq_false hq, Bool.false_and, Bool.false_and]

section sbit
variable {w : Nat}

/-- bit `i` of `x` in the order a reader meets the bits of a word: from the most significant one
    (BE), from the least significant one (LE) -/
def sbit (e : Endian) (x : BitVec w) (i : Nat) : Bool :=
  match e with
  | .be => x.getMsbD i
  | .le => x.getLsbD i

/-- `x` without its first `n` bits -/
def dropB (e : Endian) (x : BitVec w) (n : Nat) : BitVec w :=
  match e with
  | .be => x <<< n
  | .le => x >>> n

/-- the first `n` bits of `x`, as a number -/
def takeB (e : Endian) (x : BitVec w) (n : Nat) : BitVec w :=
  match e with
  | .be => x >>> (w - n)
  | .le => (x <<< (w - n)) >>> (w - n)

theorem sbit_dropB (e : Endian) (x : BitVec w) (n i : Nat) :
    sbit e (dropB e x n) i = sbit e x (n + i) := by
  cases e
  · show (x <<< n).getMsbD i = x.getMsbD (n + i)
    rw [BitVec.getMsbD_shiftLeft, Nat.add_comm]
  · exact BitVec.getLsbD_ushiftRight x n i

theorem sbit_of_ge (e : Endian) (x : BitVec w) {i : Nat} (h : w ≤ i) : sbit e x i = false := by
  cases e
  · exact BitVec.getMsbD_of_ge x i h
  · exact BitVec.getLsbD_of_ge x i h

theorem sbit_or (e : Endian) (x y : BitVec w) (i : Nat) :
    sbit e (x ||| y) i = (sbit e x i || sbit e y i) := by
  cases e
  · exact BitVec.getMsbD_or
  · exact BitVec.getLsbD_or

theorem sbit_zero (e : Endian) (i : Nat) : sbit e (0 : BitVec w) i = false := by
  cases e
  · exact BitVec.getMsbD_zero
  · exact BitVec.getLsbD_zero

theorem dropB_dropB (e : Endian) (x : BitVec w) (a b : Nat) :
    dropB e (dropB e x a) b = dropB e x (a + b) := by
  cases e
  · exact (BitVec.shiftLeft_add x a b).symm
  · exact (BitVec.shiftRight_add x a b).symm

/-- `a` is the `c`-bit field whose bits, in stream order, are `f 0, f 1, …` -/
def IsField (e : Endian) (a : BitVec w) (c : Nat) (f : Nat → Bool) : Prop :=
  ∀ i, a.getLsbD i = (decide (i < c) && f (fieldIdx e c i))

theorem IsField.toNat {e : Endian} {a : BitVec w} {c : Nat} {l : List Bool}
    (h : IsField e a c (bitZ l)) : a.toNat = bitsVal e (takeZ c l) :=
  Nat.eq_of_testBit_eq fun i => ((BitVec.testBit_toNat a).trans (h i)).trans (testBit_bitsVal e l c i).symm

theorem IsField.toNat_lt {e : Endian} {a : BitVec w} {c : Nat} {f : Nat → Bool}
    (h : IsField e a c f) : a.toNat < 2 ^ c :=
  Nat.lt_pow_two_of_testBit _ fun i hi => by
    rw [BitVec.testBit_toNat, h i, decide_eq_false (Nat.not_lt.2 hi), Bool.false_and]

theorem IsField.congr {e : Endian} {a : BitVec w} {c : Nat} {f g : Nat → Bool}
    (h : IsField e a c f) (hfg : ∀ j, j < c → f j = g j) : IsField e a c g := fun i =>
  (h i).trans (guard_congr Iff.rfl fun hi => hfg _ (fieldIdx_lt e hi))

theorem IsField.setWidth {e : Endian} {a : BitVec w} {c : Nat} {f : Nat → Bool}
    (h : IsField e a c f) {m : Nat} (hc : c ≤ m) : IsField e (a.setWidth m) c f := by
  intro i
  rw [BitVec.getLsbD_setWidth, h i, ← Bool.and_assoc, ← Bool.decide_and]
  exact guard_congr ⟨fun h => h.2, fun h => ⟨Nat.lt_of_lt_of_le h hc, h⟩⟩ fun _ => rfl

theorem isField_takeB (e : Endian) (x : BitVec w) {n : Nat} (hn : n ≤ w) :
    IsField e (takeB e x n) n (sbit e x) := by
  intro i
  cases e
  · show (x >>> (w - n)).getLsbD i = (decide (i < n) && x.getMsbD (n - 1 - i))
    rw [BitVec.getLsbD_ushiftRight, BitVec.getLsbD_eq_getMsbD]
    exact guard_congr (by omega) fun hi => by congr 1; omega
  · show ((x <<< (w - n)) >>> (w - n)).getLsbD i = (decide (i < n) && x.getLsbD i)
    rw [BitVec.getLsbD_ushiftRight, BitVec.getLsbD_shiftLeft, Bool.and_assoc]
    exact guard_congr (by omega) fun hi => by
      rw [decide_eq_false (by omega : ¬ w - n + i < w - n), Nat.add_sub_cancel_left]; rfl

end sbit

theorem length_wordBits {W} (e : Endian) (w : BitVec W) : (wordBits e w).length = W := by
  cases e <;> simp [wordBits, fieldBits]

theorem length_flatMap_wordBits {W} (e : Endian) (data : List (BitVec W)) :
    (data.flatMap (wordBits e)).length = data.length * W := by
  induction data with
  | nil => simp
  | cons w ws ih => simp [List.flatMap_cons, ih, length_wordBits, Nat.succ_mul, Nat.add_comm]

theorem bitZ_wordBits {W} (e : Endian) (w : BitVec W) (i : Nat) (h : i < W) :
    bitZ (wordBits e w) i = sbit e w i := by
  cases e
  · simp only [wordBits, fieldBits, sbit]
    rw [bitZ_reverse (by simpa using h), fieldLE_length, bitZ_fieldLE, BitVec.getMsbD_eq_getLsbD,
      decide_eq_true h, decide_eq_true (by omega : W - 1 - i < W)]
    rfl
  · simp only [wordBits, fieldBits, sbit, bitZ_fieldLE, decide_eq_true h, Bool.true_and]
    rfl

theorem bitZ_flatMap_word {W} (e : Endian) (data : List (BitVec W)) (j i : Nat) (h : i < W) :
    bitZ (data.flatMap (wordBits e)) (j * W + i) = bitZ (wordBits e (data.getD j 0)) i := by
  induction data generalizing j with
  | nil => rw [bitZ_wordBits e _ _ h, List.flatMap_nil, bitZ_nil]; exact (sbit_zero e i).symm
  | cons w ws ih =>
    rw [List.flatMap_cons]
    cases j with
    | zero =>
      rw [bitZ_append_left (by simpa [length_wordBits] using h)]
      simp
    | succ j =>
      have : (j + 1) * W + i = W + (j * W + i) := by rw [Nat.succ_mul]; omega
      rw [this, bitZ_append_right (by simp [length_wordBits])]
      simp [length_wordBits, ih]

theorem sbit_word {W} (e : Endian) (data : List (BitVec W)) (j i : Nat) (h : i < W) :
    sbit e (data.getD j 0) i = bitZ (data.flatMap (wordBits e)) (j * W + i) := by
  rw [bitZ_flatMap_word _ _ _ _ h, bitZ_wordBits _ _ _ h]

theorem MemR.readWord_ok {W} (m : MemR W) (h : m.strict = true → m.pos < m.data.length) :
    m.readWord = .ok (m.data.getD m.pos 0, { m with pos := m.pos + 1 }) := by
  unfold MemR.readWord
  by_cases hp : m.pos < m.data.length
  · simp [List.getElem?_eq_getElem hp, List.getD]
  · have hs : m.strict = false := by
      cases hst : m.strict
      · rfl
      · exact absurd (h hst) hp
    simp [List.getElem?_eq_none (Nat.le_of_not_lt hp), List.getD, hs]

theorem MemR.readWord_err {W} (m : MemR W) (hs : m.strict = true) (h : m.data.length ≤ m.pos) :
    m.readWord = .err .eof := by
  unfold MemR.readWord
  simp [List.getElem?_eq_none h, hs]

theorem MemR.readWord_cases {W} (m : MemR W) :
    (m.strict = true ∧ m.data.length ≤ m.pos ∧ m.readWord = .err .eof) ∨
    ((m.strict = true → m.pos < m.data.length) ∧
      m.readWord = .ok (m.data.getD m.pos 0, { m with pos := m.pos + 1 })) := by
  by_cases hp : m.strict = true ∧ m.data.length ≤ m.pos
  · exact .inl ⟨hp.1, hp.2, m.readWord_err hp.1 hp.2⟩
  · have hp' : m.strict = true → m.pos < m.data.length := fun hs =>
      Nat.lt_of_not_le fun hle => hp ⟨hs, hle⟩
    exact .inr ⟨hp', m.readWord_ok hp'⟩

theorem MemR.setWordPos_ok {W} (m : MemR W) {p : Nat} (h : m.strict = true → p ≤ m.data.length) :
    m.setWordPos p = .ok { m with pos := p } := by
  unfold MemR.setWordPos
  rw [if_neg]
  simpa using h

theorem MemR.setWordPos_err {W} (m : MemR W) {p : Nat} (hs : m.strict = true) (h : m.data.length < p) :
    m.setWordPos p = .err .eof := by
  unfold MemR.setWordPos
  rw [if_pos]
  simpa [hs] using h

theorem RefR.avail_iff (r : RefR) (n : Nat) :
    r.avail n = true ↔ (r.strict = true → r.pos + n ≤ r.stream.length) := by
  cases hs : r.strict <;> simp [RefR.avail, hs]

theorem RefR.avail_false_iff (r : RefR) (n : Nat) :
    r.avail n = false ↔ r.strict = true ∧ r.stream.length < r.pos + n := by
  cases hs : r.strict <;> simp [RefR.avail, hs]

theorem RefR.avail_mono {r : RefR} {c k : Nat} (h : r.avail c = true) (hk : k ≤ c) : r.avail k = true := by
  rw [RefR.avail_iff] at h ⊢
  exact fun hs => Nat.le_trans (Nat.add_le_add_left hk _) (h hs)

theorem RefR.readBits_ok {r r' : RefR} {n v : Nat} (h : RefR.readBits r n = .ok (v, r')) :
    r.avail n = true ∧ r' = { r with pos := r.pos + n } := by
  unfold RefR.readBits at h
  split at h
  · cases h
  · split at h
    · cases h; exact ⟨‹_›, rfl⟩
    · cases h

theorem RefR.peekBits_ok {r r' : RefR} {n v : Nat} (h : RefR.peekBits r n = .ok (v, r')) :
    r.avail n = true ∧ r' = r := by
  unfold RefR.peekBits at h
  split at h
  · cases h
  · split at h
    · cases h; exact ⟨‹_›, rfl⟩
    · cases h

theorem firstOne_lt {l : List Bool} {z : Nat} (h : RefR.firstOne l = some z) : z < l.length := by
  induction l generalizing z with
  | nil => cases h
  | cons b bs ih =>
    cases b with
    | true => simp [RefR.firstOne] at h; subst h; simp
    | false =>
      simp only [RefR.firstOne, Option.map_eq_some_iff] at h
      obtain ⟨z', hz', rfl⟩ := h
      have := ih hz'
      simp; omega

theorem RefR.readUnary_ok {r r' : RefR} {v : Nat} (h : RefR.readUnary r = .ok (v, r')) :
    r.pos + v + 1 ≤ r.stream.length ∧ r' = { r with pos := r.pos + v + 1 } := by
  unfold RefR.readUnary at h
  split at h
  · rename_i z hz
    cases h
    have := firstOne_lt hz
    rw [RefR.rest, List.length_drop] at this
    exact ⟨by omega, rfl⟩
  · split at h <;> cases h

theorem firstOne_eq_some {l : List Bool} {z : Nat}
    (h0 : ∀ i, i < z → bitZ l i = false) (h1 : bitZ l z = true) : RefR.firstOne l = some z := by
  induction l generalizing z with
  | nil => simp at h1
  | cons b bs ih =>
    cases z with
    | zero => simp at h1; subst h1; rfl
    | succ z =>
      have hb : b = false := by simpa using h0 0 (Nat.succ_pos z)
      subst hb
      have := ih (z := z) (fun i hi => by simpa using h0 (i + 1) (Nat.succ_lt_succ hi)) (by simpa using h1)
      simp [RefR.firstOne, this]

theorem firstOne_eq_none {l : List Bool} (h0 : ∀ i, bitZ l i = false) : RefR.firstOne l = none := by
  induction l with
  | nil => rfl
  | cons b bs ih =>
    have hb : b = false := by simpa using h0 0
    subst hb
    have := ih (fun i => by simpa using h0 (i + 1))
    simp [RefR.firstOne, this]

theorem RefR.readUnary_none {r : RefR} (h0 : ∀ i, bitZ r.stream (r.pos + i) = false) :
    RefR.readUnary r = if r.strict then .err .eof else .dpanic := by
  have : RefR.firstOne r.rest = none := firstOne_eq_none (fun i => by rw [RefR.rest, bitZ_drop]; exact h0 i)
  simp [RefR.readUnary, this]

theorem RefR.readUnary_some {r : RefR} {z : Nat} (h0 : ∀ i, i < z → bitZ r.stream (r.pos + i) = false)
    (h1 : bitZ r.stream (r.pos + z) = true) :
    RefR.readUnary r = .ok (z, { r with pos := r.pos + z + 1 }) := by
  have : RefR.firstOne r.rest = some z :=
    firstOne_eq_some (fun i hi => by rw [RefR.rest, bitZ_drop]; exact h0 i hi)
      (by rw [RefR.rest, bitZ_drop]; exact h1)
  simp [RefR.readUnary, this]

/-- with `res` zeros behind the reference position, every bit of the stream from the reference
    position on is zero when the backend has run out of words there -/
theorem RefR.none_ahead {W} {e : Endian} (m : MemR W) (res : Nat) (r : RefR)
    (hstream : r.stream = m.data.flatMap (wordBits e))
    (hpos : r.pos + res = m.pos * W) (hz : ∀ i, i < res → bitZ r.stream (r.pos + i) = false)
    (hp : m.data.length ≤ m.pos) : ∀ i, bitZ r.stream (r.pos + i) = false := by
  intro i
  have hlen : r.stream.length = m.data.length * W := by rw [hstream, length_flatMap_wordBits]
  have := Nat.mul_le_mul_right W hp
  by_cases hi : i < res
  · exact hz i hi
  · exact bitZ_of_ge (by omega)

theorem takeWhile_range_spec (p : Nat → Bool) (n : Nat) :
    ((List.range n).takeWhile p).length ≤ n ∧
    (∀ i, i < ((List.range n).takeWhile p).length → p i = true) ∧
    (((List.range n).takeWhile p).length < n → p ((List.range n).takeWhile p).length = false) := by
  induction n with
  | zero =>
    exact ⟨Nat.le_refl 0, fun i hi => absurd hi (Nat.not_lt_zero i), fun h => absurd h (Nat.lt_irrefl 0)⟩
  | succ n ih =>
    obtain ⟨h1, h2, h3⟩ := ih
    rw [List.range_succ, List.takeWhile_append]
    split
    · rename_i hfull
      rw [List.length_range] at hfull
      rw [hfull] at h2
      rw [List.length_append, List.length_range, List.takeWhile_cons]
      cases hp : p n
      · exact ⟨Nat.le_succ n, h2, fun _ => hp⟩
      · exact ⟨Nat.le_refl _, fun i hi => (Nat.lt_succ_iff_lt_or_eq.1 hi).elim (h2 i) (· ▸ hp),
          fun h => absurd h (Nat.lt_irrefl _)⟩
    · rename_i hne
      rw [List.length_range] at hne
      exact ⟨Nat.le_succ_of_le h1, h2, fun _ => h3 (Nat.lt_of_le_of_ne h1 hne)⟩

/-- the number of zeros a unary read meets first in `x`: `leading_zeros` (BE), `trailing_zeros` (LE) -/
def zerosB {w} (e : Endian) (x : BitVec w) : Nat :=
  match e with
  | .be => BufR.clz x
  | .le => BufR.ctz x

theorem zerosB_le {w} (e : Endian) (x : BitVec w) : zerosB e x ≤ w := by
  cases e <;> exact (takeWhile_range_spec _ w).1

theorem zerosB_below {w} (e : Endian) (x : BitVec w) (i : Nat) (h : i < zerosB e x) :
    sbit e x i = false := by
  cases e
  · simpa [sbit] using (takeWhile_range_spec (fun i => !x.getMsbD i) w).2.1 i h
  · simpa [sbit] using (takeWhile_range_spec (fun i => !x.getLsbD i) w).2.1 i h

theorem zerosB_one {w} (e : Endian) (x : BitVec w) (h : zerosB e x < w) : sbit e x (zerosB e x) = true := by
  cases e
  · simpa [sbit, zerosB, BufR.clz] using (takeWhile_range_spec (fun i => !x.getMsbD i) w).2.2 h
  · simpa [sbit, zerosB, BufR.ctz] using (takeWhile_range_spec (fun i => !x.getLsbD i) w).2.2 h

theorem zerosB_lt_of_ne_zero {w} (e : Endian) (x : BitVec w) (h : x ≠ 0) : zerosB e x < w := by
  apply Nat.lt_of_le_of_ne (zerosB_le e x)
  intro hc
  apply h
  have hz := zerosB_below e x
  rw [hc] at hz
  cases e
  · exact BitVec.eq_of_getMsbD_eq fun i hi => by simpa [sbit] using hz i hi
  · exact BitVec.eq_of_getLsbD_eq fun i hi => by simpa [sbit] using hz i hi

theorem zerosB_zero {w} (e : Endian) : zerosB e (0 : BitVec w) = w :=
  Nat.le_antisymm (zerosB_le e 0) <| Nat.le_of_not_lt fun h => by
    have := zerosB_one e (0 : BitVec w) h
    rw [sbit_zero] at this
    cases this

/-- scanning for the terminating one of a unary code: `res` zeros lie behind the reference position
    and the next `b` bits of the stream are the first `b` bits of `x`.  Either the one is among them
    (`zerosB e x < b`), or the zeros go on up to `res + b`. -/
theorem RefR.readUnary_scan {w} {e : Endian} {r : RefR} {x : BitVec w} {res b : Nat}
    (hz : ∀ i, i < res → bitZ r.stream (r.pos + i) = false)
    (hx : ∀ i, i < b → sbit e x i = bitZ r.stream (r.pos + (res + i))) (hb : b ≤ w) :
    if zerosB e x < b then
      RefR.readUnary r = .ok (res + zerosB e x, { r with pos := r.pos + (res + zerosB e x) + 1 })
    else ∀ i, i < res + b → bitZ r.stream (r.pos + i) = false := by
  have below : ∀ i, i < res + b → i < res + zerosB e x → bitZ r.stream (r.pos + i) = false := by
    intro i hi hi'
    by_cases h : i < res
    · exact hz i h
    · have := hx (i - res) (by omega)
      rw [Nat.add_sub_cancel' (Nat.le_of_not_lt h)] at this
      rw [← this]
      exact zerosB_below e x _ (by omega)
  by_cases hc : zerosB e x < b
  · rw [if_pos hc]
    exact RefR.readUnary_some (fun i hi => below i (by omega) hi)
      (by rw [← hx _ hc]; exact zerosB_one e x (by omega))
  · rw [if_neg hc]
    exact fun i hi => below i hi (by omega)

end Dsi
