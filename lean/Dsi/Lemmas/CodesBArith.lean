/-
  u64 arithmetic facts behind minimal binary and ζ: the wrapped `mbLimit` and `zetaU` agree with
  the published quantities on the whole claimed range.
-/
import Dsi.Codes
import Dsi.Lemmas.CodesABits
namespace Dsi.CodesB
open Dsi

/-- wrapping subtraction from a wrapped `Q ≤ 2^64`: either nothing wrapped, or `Q = 2^64` wrapped
    to `0` and the subtraction wraps back -/
theorem wsub64_wrapped {Q b : Nat} (hQ : Q ≤ 2 ^ 64) (hb : 0 < b) (hbQ : b ≤ Q) :
    wsub64 (Q % 2 ^ 64) b = Q - b := by
  unfold wsub64
  rcases Nat.lt_or_eq_of_le hQ with h | rfl
  · rw [Nat.mod_eq_of_lt h, Nat.add_comm, Nat.add_sub_assoc hbQ, Nat.add_mod_left,
      Nat.mod_eq_of_lt (Nat.lt_of_le_of_lt (Nat.sub_le _ _) h)]
  · rw [Nat.mod_self, Nat.zero_add, Nat.mod_eq_of_lt (Nat.sub_lt (by decide) hb)]

/-- on `1 ≤ u < 2^64` the wrapped limit is the published `2^(⌊log₂ u⌋+1) − u`, `u.log2 = 63`
    included -/
theorem mbLimit_eq {u : Nat} (hu : 1 ≤ u) (h64 : u < 2 ^ 64) :
    mbLimit u = 2 ^ (u.log2 + 1) - u := by
  unfold mbLimit shl64
  rw [Nat.pow_one, ← Nat.pow_succ]
  exact wsub64_wrapped (Nat.pow_le_pow_right (by decide) (log2_lt_64 h64)) hu
    (Nat.le_of_lt Nat.lt_log2_self)

/-- what the minimal-binary programs need to know about `T = mbLimit u` and `l = ⌊log₂ u⌋`,
    free of truncated subtraction -/
theorem mb_arith {u : Nat} (hu : 1 ≤ u) (h64 : u < 2 ^ 64) :
    mbLimit u + u = 2 * 2 ^ u.log2 ∧ mbLimit u ≤ 2 ^ u.log2 ∧ u.log2 ≤ 63 ∧
      2 ^ u.log2 ≤ 2 ^ 63 := by
  have ⟨h1, h2⟩ := log2_bounds (m := u) (by omega)
  have hl := Nat.le_of_lt_succ (log2_lt_64 h64)
  have hlim := mbLimit_eq hu h64
  rw [Nat.pow_succ] at h2 hlim
  exact ⟨by omega, by omega, hl, Nat.pow_le_pow_right (by decide) hl⟩

/-- the upper bound handed to minimal binary by the implementation is the one of
    `Spec.zetaWrapped`: the shift wraps to `0` from `(h+1)k = 64` on, and the subtraction wraps
    back -/
theorem zetaU_eq {h k : Nat} (hhk : h * k < 64) :
    zetaU h k = (if (h + 1) * k ≤ 64 then 2 ^ ((h + 1) * k) else 2 ^ 64) - 2 ^ (h * k) := by
  have hL : 2 ^ (h * k) ≤ 2 ^ 64 := Nat.pow_le_pow_right (by decide) (Nat.le_of_lt hhk)
  unfold zetaU shl64
  rw [← Nat.pow_add, Nat.succ_mul]
  split
  · next hc =>
    exact wsub64_wrapped (Nat.pow_le_pow_right (by decide) hc) (Nat.two_pow_pos _)
      (Nat.pow_le_pow_right (by decide) (Nat.le_add_right _ _))
  · next hc =>
    rw [Nat.mod_eq_zero_of_dvd (Nat.pow_dvd_pow 2 (Nat.le_of_not_le hc)), ← Nat.mod_self (2 ^ 64)]
    exact wsub64_wrapped (Nat.le_refl _) (Nat.two_pow_pos _) hL

theorem zeta_range {m k : Nat} (hm : 1 ≤ m) (hm64 : m < 2 ^ 64) (hk1 : 1 ≤ k) :
    m.log2 / k * k ≤ 63 ∧ 1 ≤ zetaU (m.log2 / k) k ∧ zetaU (m.log2 / k) k < 2 ^ 64 ∧
    2 ^ (m.log2 / k * k) ≤ m ∧ m - 2 ^ (m.log2 / k * k) < zetaU (m.log2 / k) k := by
  have hb1 : m.log2 / k * k ≤ m.log2 := Nat.div_mul_le_self _ _
  have hb2 : m.log2 < m.log2 / k * k + k := by
    have := Nat.lt_mul_div_succ m.log2 hk1
    rwa [Nat.mul_succ, Nat.mul_comm] at this
  generalize m.log2 / k = h at *
  have hhk : h * k < 64 := Nat.lt_of_le_of_lt hb1 (log2_lt_64 hm64)
  have hlow : 2 ^ (h * k) ≤ m :=
    Nat.le_trans (Nat.pow_le_pow_right (by decide) hb1) (Nat.log2_self_le (Nat.ne_of_gt hm))
  have hhi : m < if h * k + k ≤ 64 then 2 ^ (h * k + k) else 2 ^ 64 := by
    split
    · exact (Nat.log2_lt (Nat.ne_of_gt hm)).1 hb2
    · exact hm64
  have hU := zetaU_eq hhk
  rw [Nat.succ_mul] at hU
  have : 1 ≤ zetaU h k ∧ m - 2 ^ (h * k) < zetaU h k := by omega
  exact ⟨Nat.le_of_lt_succ hhk, this.1, Nat.mod_lt _ (by decide), hlow, this.2⟩

end Dsi.CodesB
