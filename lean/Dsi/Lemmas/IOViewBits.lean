/-
  Bit / byte lemmas for the `std::io::Write` / `std::io::Read` views (C12):
  the stream bits of a u64 assembled from bytes are the bits of those bytes in order,
  the remainder word of `ioWrite` never wraps, `beBytes`/`leBytes` invert `beVal`/`leVal`,
  and `chunksExact` decomposes a byte list.
-/
import Dsi.IOView
import Dsi.Lemmas.CodesAFrame
import Dsi.Lemmas.WriterLayout
namespace Dsi.IOViewL
open Dsi

theorem bitsOfBytes_nil (e : Endian) : bitsOfBytes e [] = [] := rfl

theorem bitsOfBytes_cons (e : Endian) (b : Nat) (bs : List Nat) :
    bitsOfBytes e (b :: bs) = fieldBits e b 8 ++ bitsOfBytes e bs := by
  simp [bitsOfBytes]

theorem bitsOfBytes_append (e : Endian) (a b : List Nat) :
    bitsOfBytes e (a ++ b) = bitsOfBytes e a ++ bitsOfBytes e b := by
  simp [bitsOfBytes]

theorem bitsOfBytes_length (e : Endian) (bs : List Nat) :
    (bitsOfBytes e bs).length = 8 * bs.length := by
  induction bs with
  | nil => rfl
  | cons b bs ih =>
    rw [bitsOfBytes_cons, List.length_append, ih, fieldBits_length, List.length_cons, Nat.mul_succ,
      Nat.add_comm]

theorem bytes_tail {b : Nat} {c : List Nat} (h : ∀ x ∈ b :: c, x < 256) : ∀ x ∈ c, x < 256 :=
  fun x hx => h x (List.mem_cons_of_mem _ hx)

theorem bytes_head {b : Nat} {c : List Nat} (h : ∀ x ∈ b :: c, x < 256) : b < 256 :=
  h b (List.mem_cons_self ..)

theorem leVal_cons (b : Nat) (c : List Nat) : leVal (b :: c) = b + 256 * leVal c := rfl

def beAcc (a : Nat) (c : List Nat) : Nat := c.foldl (fun a b => a * 256 + b) a

theorem beAcc_nil (a : Nat) : beAcc a [] = a := rfl
theorem beAcc_cons (a b : Nat) (c : List Nat) : beAcc a (b :: c) = beAcc (a * 256 + b) c := rfl
theorem beVal_eq (c : List Nat) : beVal c = beAcc 0 c := rfl

theorem beVal_reverse (c : List Nat) : beVal c.reverse = leVal c := by
  unfold beVal leVal
  rw [List.foldl_reverse]
  congr 1
  funext b a
  rw [Nat.mul_comm, Nat.add_comm]

theorem leVal_reverse (c : List Nat) : leVal c.reverse = beVal c := by
  rw [← beVal_reverse, List.reverse_reverse]

theorem pow256 (k : Nat) : 2 ^ (8 * k) = 256 ^ k := by
  rw [Nat.pow_mul]

theorem leVal_lt (c : List Nat) (h : ∀ b ∈ c, b < 256) : leVal c < 256 ^ c.length := by
  induction c with
  | nil => simp [leVal]
  | cons b c ih =>
    have hb := bytes_head h
    have := ih (bytes_tail h)
    rw [leVal_cons, List.length_cons, Nat.pow_succ]
    -- `b + 256 * v < 256 + 256 * v ≤ 256 ^ k * 256` for `v + 1 ≤ 256 ^ k`
    exact Nat.lt_of_lt_of_le (Nat.add_lt_add_right hb _)
      (by rw [Nat.add_comm, ← Nat.mul_succ, Nat.mul_comm]; exact Nat.mul_le_mul_right 256 this)

theorem beVal_lt (c : List Nat) (h : ∀ b ∈ c, b < 256) : beVal c < 256 ^ c.length := by
  rw [← leVal_reverse, ← List.length_reverse]
  apply leVal_lt
  intro b hb
  exact h b (List.mem_reverse.1 hb)

theorem fieldLE_leVal (c : List Nat) (h : ∀ b ∈ c, b < 256) :
    fieldLE (leVal c) (8 * c.length) = bitsOfBytes .le c := by
  induction c with
  | nil => rfl
  | cons b c ih =>
    have hb : b / 256 = 0 := Nat.div_eq_of_lt (bytes_head h)
    rw [leVal_cons, bitsOfBytes_cons, ← ih (bytes_tail h), List.length_cons, Nat.mul_succ,
      Nat.add_comm (8 * c.length) 8, fieldLE_cut _ (Nat.le_add_right 8 _), Nat.add_sub_cancel_left,
      show (2 : Nat) ^ 8 = 256 from rfl, Nat.add_mul_div_left _ _ (by decide), hb, Nat.zero_add]
    congr 1
    exact fieldLE_congr (Nat.add_mul_mod_self_left b 256 (leVal c))

/-- a big-endian stream is the little-endian stream of the reversed bytes, reversed -/
theorem bitsOfBytes_be (c : List Nat) : bitsOfBytes .be c = (bitsOfBytes .le c.reverse).reverse := by
  unfold bitsOfBytes
  rw [List.reverse_flatMap, List.reverse_reverse]
  rfl

theorem fieldBits_be_beVal (c : List Nat) (h : ∀ b ∈ c, b < 256) :
    fieldBits .be (beVal c) (8 * c.length) = bitsOfBytes .be c := by
  rw [bitsOfBytes_be, ← fieldLE_leVal c.reverse fun b hb => h b (List.mem_reverse.1 hb),
    leVal_reverse, List.length_reverse]
  rfl

/-- both endiannesses at once: `wordOf e` is `u64::from_{be,le}_bytes` -/
def wordOf (e : Endian) (c : List Nat) : Nat :=
  match e with
  | .be => beVal c
  | .le => leVal c

theorem fieldBits_wordOf (e : Endian) (c : List Nat) (h : ∀ b ∈ c, b < 256) :
    fieldBits e (wordOf e c) (8 * c.length) = bitsOfBytes e c := by
  cases e
  · exact fieldBits_be_beVal c h
  · exact fieldLE_leVal c h

theorem wordOf_lt (e : Endian) (c : List Nat) (h : ∀ b ∈ c, b < 256) :
    wordOf e c < 2 ^ (8 * c.length) := by
  rw [pow256]
  cases e
  · exact beVal_lt c h
  · exact leVal_lt c h

/-! ### the remainder word (`word <<= 8; word |= byte` on a u64) -/

def wrapAcc (a : Nat) (c : List Nat) : Nat := c.foldl (fun a b => (a * 256) % 2 ^ 64 + b) a

theorem wrapAcc_cons (a b : Nat) (c : List Nat) :
    wrapAcc a (b :: c) = wrapAcc ((a * 256) % 2 ^ 64 + b) c := rfl

theorem wrapAcc_eq (c : List Nat) (h : ∀ b ∈ c, b < 256) (a n : Nat) (ha : a < 256 ^ n)
    (hn : n + c.length ≤ 8) : wrapAcc a c = beAcc a c := by
  induction c generalizing a n with
  | nil => rfl
  | cons b c ih =>
    have hb := bytes_head h
    -- `a * 256 + b < 256 ^ (n + 1) ≤ 256 ^ 8 = 2 ^ 64`: the shift does not wrap
    have hs : a * 256 + b < 256 ^ (n + 1) := by rw [Nat.pow_succ]; omega
    have hp : 256 ^ (n + 1) ≤ 2 ^ 64 :=
      Nat.pow_le_pow_right (show 0 < 256 by decide) (Nat.le_trans (Nat.succ_le_succ (Nat.le_add_right n c.length))
        (by rwa [List.length_cons, ← Nat.add_assoc, Nat.add_right_comm] at hn))
    rw [wrapAcc_cons, beAcc_cons, Nat.mod_eq_of_lt
      (Nat.lt_of_le_of_lt (Nat.le_add_right _ b) (Nat.lt_of_lt_of_le hs hp))]
    exact ih (bytes_tail h) _ (n + 1) hs (by rw [List.length_cons] at hn; omega)

theorem wrap_be (rem : List Nat) (h : ∀ b ∈ rem, b < 256) (hl : rem.length ≤ 8) :
    rem.foldl (fun a b => (a * 256) % 2 ^ 64 + b) 0 = beVal rem :=
  wrapAcc_eq rem h 0 0 (by decide) (by omega)

theorem wrap_le (rem : List Nat) (h : ∀ b ∈ rem, b < 256) (hl : rem.length ≤ 8) :
    rem.reverse.foldl (fun a b => (a * 256) % 2 ^ 64 + b) 0 = leVal rem := by
  rw [wrap_be rem.reverse (fun b hb => h b (List.mem_reverse.1 hb)) (by simpa using hl),
    beVal_reverse]

theorem remWord_eq (e : Endian) (rem : List Nat) (h : ∀ b ∈ rem, b < 256) (hl : rem.length ≤ 8) :
    (match e with
      | .be => rem.foldl (fun a b => (a * 256) % 2 ^ 64 + b) 0
      | .le => rem.reverse.foldl (fun a b => (a * 256) % 2 ^ 64 + b) 0) = wordOf e rem := by
  cases e
  · exact wrap_be rem h hl
  · exact wrap_le rem h hl

theorem leBytes_leVal (c : List Nat) (h : ∀ b ∈ c, b < 256) : leBytes (leVal c) c.length = c := by
  induction c with
  | nil => rfl
  | cons b c ih =>
    have hb := bytes_head h
    rw [leVal_cons, List.length_cons, leBytes, Nat.add_mul_mod_self_left, Nat.mod_eq_of_lt hb,
      Nat.add_mul_div_left _ _ (by decide), Nat.div_eq_of_lt hb, Nat.zero_add, ih (bytes_tail h)]

theorem beBytes_beVal (c : List Nat) (h : ∀ b ∈ c, b < 256) : beBytes (beVal c) c.length = c := by
  unfold beBytes
  rw [← leVal_reverse, ← List.length_reverse,
    leBytes_leVal c.reverse (fun b hb => h b (List.mem_reverse.1 hb)), List.reverse_reverse]

theorem leBytes_leVal_mod (c : List Nat) (h : ∀ b ∈ c, b < 256) (k : Nat) (hk : c.length = k) :
    leBytes (leVal c % 2 ^ (8 * k)) k = c := by
  subst hk
  rw [Nat.mod_eq_of_lt (by rw [pow256]; exact leVal_lt c h), leBytes_leVal c h]

theorem beBytes_beVal_mod (c : List Nat) (h : ∀ b ∈ c, b < 256) (k : Nat) (hk : c.length = k) :
    beBytes (beVal c % 2 ^ (8 * k)) k = c := by
  subst hk
  rw [Nat.mod_eq_of_lt (by rw [pow256]; exact beVal_lt c h), beBytes_beVal c h]

theorem chunksExact_spec (fuel : Nat) : ∀ (l : List Nat), l.length ≤ fuel →
    l = (chunksExact 8 l fuel).1.flatten ++ (chunksExact 8 l fuel).2 ∧
    (∀ c ∈ (chunksExact 8 l fuel).1, c.length = 8) ∧ (chunksExact 8 l fuel).2.length < 8 := by
  induction fuel with
  | zero =>
    intro l hl
    obtain rfl : l = [] := List.eq_nil_of_length_eq_zero (Nat.le_zero.1 hl)
    simp [chunksExact]
  | succ fuel ih =>
    intro l hl
    by_cases h8 : l.length < 8
    · simp [chunksExact, h8]
    · have hd : (l.drop 8).length ≤ fuel := by
        rw [List.length_drop]
        exact Nat.sub_le_of_le_add (Nat.le_trans hl (Nat.succ_le_succ (Nat.le_add_right fuel 7)))
      obtain ⟨i1, i2, i3⟩ := ih (l.drop 8) hd
      have hu : chunksExact 8 l (fuel + 1)
          = (l.take 8 :: (chunksExact 8 (l.drop 8) fuel).1, (chunksExact 8 (l.drop 8) fuel).2) := by
        simp [chunksExact, h8]
      rw [hu]
      refine ⟨?_, ?_, i3⟩
      · simp only [List.flatten_cons, List.append_assoc]
        rw [← i1, List.take_append_drop]
      · intro c hc
        rcases List.mem_cons.1 hc with hc | hc
        · subst hc; rw [List.length_take]; exact Nat.min_eq_left (Nat.not_lt.1 h8)
        · exact i2 c hc

theorem flatten_length8 (cs : List (List Nat)) (h : ∀ c ∈ cs, c.length = 8) :
    cs.flatten.length = 8 * cs.length := by
  induction cs with
  | nil => rfl
  | cons c cs ih =>
    obtain ⟨h1, h'⟩ := List.forall_mem_cons.1 h
    rw [List.flatten_cons, List.length_append, List.length_cons, h1, ih h', Nat.mul_succ, Nat.add_comm]

end Dsi.IOViewL
