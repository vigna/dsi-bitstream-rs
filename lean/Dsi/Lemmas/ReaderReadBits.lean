/-
  `read_bits` of the buffered reader against the reference reader.  Both endiannesses serve a read
  from the buffer when they can; otherwise they empty it into an accumulator, add whole words while
  more than a word is wanted, and finish inside the next word.  They differ in how the accumulator
  grows (BE shifts the accumulator up, LE shifts the new bits up), so the word loops and the value
  are treated per endianness; the state is handled by the lemmas of `RelS`.
-/
import Dsi.Lemmas.ReaderOps
namespace Dsi

section field
variable {w : Nat} {f : Nat → Bool} {c k : Nat}

theorem isField_self (e : Endian) (x : BitVec w) : IsField e x w (sbit e x) := by
  intro i
  cases e
  · exact BitVec.getLsbD_eq_getMsbD x i
  · by_cases hi : i < w
    · rw [decide_eq_true hi]; rfl
    · rw [decide_eq_false hi, BitVec.getLsbD_of_ge x i (Nat.le_of_not_lt hi)]; rfl

/-- LE: the next `k` bits go above the `c` accumulated ones -/
theorem IsField.or_shl {a x : BitVec w} (ha : IsField .le a c f)
    (hx : IsField .le x k fun i => f (c + i)) (hck : c + k ≤ w) :
    IsField .le (a ||| (x <<< c)) (c + k) f := by
  intro i
  rw [BitVec.getLsbD_or, BitVec.getLsbD_shiftLeft, ha i, hx (i - c)]
  show (_ || _ && _ && (_ && f (c + (i - c)))) = (_ && f i)
  by_cases hi : i < c
  · rw [decide_eq_true hi, decide_eq_true (by omega : i < c + k), Bool.not_true, Bool.and_false,
      Bool.false_and, Bool.or_false]
    rfl
  · rw [decide_eq_false hi, Nat.add_sub_cancel' (Nat.le_of_not_lt hi), Bool.false_and, Bool.false_or,
      Bool.not_false, Bool.and_true]
    by_cases hi' : i < c + k
    · rw [decide_eq_true hi', decide_eq_true (by omega : i < w), decide_eq_true (by omega : i - c < k)]
      rfl
    · rw [decide_eq_false hi', decide_eq_false (by omega : ¬ i - c < k), Bool.false_and, Bool.and_false]

/-- BE: the `c` accumulated bits move up by `k`, the next `k` bits go below -/
theorem IsField.shl_or {a x : BitVec w} (ha : IsField .be a c f)
    (hx : IsField .be x k fun i => f (c + i)) (hck : c + k ≤ w) :
    IsField .be ((a <<< k) ||| x) (c + k) f := by
  intro i
  rw [BitVec.getLsbD_or, BitVec.getLsbD_shiftLeft, ha (i - k), hx i]
  show (_ && _ && (_ && f (c - 1 - (i - k))) || _ && f (c + (k - 1 - i))) = (_ && f (c + k - 1 - i))
  by_cases hi : i < k
  · rw [decide_eq_true hi, decide_eq_true (by omega : i < c + k), Bool.not_true, Bool.and_false,
      Bool.false_and, Bool.false_or, Nat.add_sub_assoc (by omega : 1 ≤ k), Nat.add_sub_assoc (by omega)]
  · rw [decide_eq_false hi, Bool.false_and, Bool.or_false, Bool.not_false, Bool.and_true]
    by_cases hi' : i < c + k
    · rw [decide_eq_true hi', decide_eq_true (by omega : i < w), decide_eq_true (by omega : i - k < c),
        (by omega : c - 1 - (i - k) = c + k - 1 - i), Bool.true_and]
    · rw [decide_eq_false hi', decide_eq_false (by omega : ¬ i - k < c), Bool.false_and, Bool.false_and,
        Bool.and_false]

end field

/-- `(1 << n) - 1` is the mask of the `n` low bits -/
theorem getLsbD_mask {w n : Nat} (h : n < w) (i : Nat) :
    (((1 : BitVec w) <<< n) - 1).getLsbD i = decide (i < n) := by
  have h1 : 2 ^ n < 2 ^ w := Nat.pow_lt_pow_right (by decide) h
  have h0 : 0 < 2 ^ n := Nat.two_pow_pos n
  have hone : (1 : BitVec w).toNat = 1 := BitVec.toNat_one (by omega)
  have : (((1 : BitVec w) <<< n) - 1).toNat = 2 ^ n - 1 := by
    rw [BitVec.toNat_sub, BitVec.toNat_shiftLeft]
    simp only [Nat.shiftLeft_eq, hone, Nat.one_mul, Nat.mod_eq_of_lt h1]
    have : 2 ^ w - 1 + 2 ^ n = 2 ^ w + (2 ^ n - 1) := by omega
    rw [this, Nat.add_mod_left, Nat.mod_eq_of_lt (by omega)]
  rw [BitVec.getLsbD, this, Nat.testBit_two_pow_sub_one]

namespace BufR
variable {W : Nat}

/-- the first `k` bits of the next word of a backend that is `c` bits ahead of the reference, as a
    field of the reference stream -/
theorem RelS.word_field {e : Endian} {s : BufR W} {r : RefR} (h : RelS e s r) {m : MemR W}
    (hd : m.data = s.back.data) {c : Nat} (hpos : r.pos + c = m.pos * W) {x : BitVec 64} {k : Nat}
    (hx : IsField e x k (sbit e (m.data.getD m.pos 0))) (hk : k ≤ W) :
    IsField e x k fun i => bitZ r.rest (c + i) :=
  hx.congr fun i hi => by
    rw [RefR.rest, bitZ_drop, h.hstream, ← hd, ← Nat.add_assoc, hpos,
      sbit_word e _ _ _ (Nat.lt_of_lt_of_le hi hk)]

/-- the whole-word loop of LE `read_bits` keeps any invariant `Q` of (accumulator, bits in it,
    backend) that one round keeps; `E` is what running into the end of a strict backend means -/
theorem readWordsLE_rule {n : Nat} (Q : BitVec 64 → Nat → MemR W → Prop) (E : Prop)
    (hstep : ∀ res b (m : MemR W), Q res b m → n > W + b → (m.strict = true → m.pos < m.data.length) →
      Q (res ||| ((m.data.getD m.pos 0).setWidth 64 <<< b)) (b + W) { m with pos := m.pos + 1 })
    (herr : ∀ res b (m : MemR W), Q res b m → n > W + b → m.strict = true → m.data.length ≤ m.pos → E)
    (fuel : Nat) (m : MemR W) (res : BitVec 64) (b : Nat) (h : Q res b m) :
    match readWordsLE fuel m res b n with
    | .ok (res', b', m') => Q res' b' m' ∧ (n ≤ b + fuel * W + W → n ≤ W + b')
    | .err x => x = .eof ∧ E
    | _ => False := by
  induction fuel generalizing m res b with
  | zero => exact ⟨h, fun hn => by omega⟩
  | succ fuel ih =>
    unfold readWordsLE
    by_cases hc : n > W + b
    · rw [if_pos hc]
      rcases m.readWord_cases with ⟨hs, hp, hw⟩ | ⟨hp, hw⟩
      · rw [hw]
        exact ⟨rfl, herr res b m h hc hs hp⟩
      · rw [hw]
        dsimp only
        have := ih _ _ _ (hstep res b m h hc hp)
        rw [Nat.succ_mul]
        generalize readWordsLE fuel _ _ _ n = x at this
        rcases x with ⟨res', b', m'⟩ | _ | _ | _
        · exact ⟨this.1, fun hn => this.2 (by omega)⟩
        all_goals exact this
    · rw [if_neg hc]
      exact ⟨h, fun _ => by omega⟩

theorem RelS.readBitsLE_sim {s : BufR W} {r : RefR} (h : RelS .le s r) (n : Nat) :
    ResRel (SimPost (RelS .le)) (readBitsLE s n) (RefR.readBits r n) := by
  have hW := h.pos_W
  have hb := h.bib_lt
  unfold readBitsLE RefR.readBits
  by_cases hn : n > 64
  · rw [if_pos hn, if_pos hn]; trivial
  rw [if_neg hn, if_neg hn]
  by_cases hnb : n ≤ s.bib
  · rw [if_pos hnb, if_pos (h.avail_of_le hnb)]
    refine ⟨h.field_value hnb (IsField.setWidth (fun i => ?_) (by omega)), h.advance hnb⟩
    rw [BitVec.getLsbD_and, getLsbD_mask (by omega)]
    exact Bool.and_comm _ _
  · rw [if_neg hnb]
    dsimp only
    have hpos := h.hpos
    -- the accumulator holds the `b` bits read so far, and the backend is `b` bits ahead
    have hpost := readWordsLE_rule (n := n)
      (fun res b m => m.data = s.back.data ∧ m.strict = s.back.strict ∧ r.pos + b = m.pos * W ∧
        b < n ∧ IsField .le res b (bitZ r.rest))
      (r.avail n = false)
      (fun res b m ⟨a1, a2, a3, a4, a5⟩ hc _ =>
        ⟨a1, a2, by show r.pos + (b + W) = (m.pos + 1) * W; rw [Nat.succ_mul, ← a3, Nat.add_assoc],
          by omega,
          a5.or_shl (h.word_field a1 a3 ((isField_self .le _).setWidth (by omega)) (Nat.le_refl W))
            (by omega)⟩)
      (fun res b m ⟨a1, a2, a3, _, _⟩ hc hs hp => h.not_avail a1 a2 hs hp (by omega))
      64 s.back (s.buffer.setWidth 64) s.bib
      ⟨rfl, rfl, hpos, by omega,
        IsField.setWidth (fun i => by rw [RefR.rest, bitZ_drop]; exact h.hbits i) (by omega)⟩
    generalize readWordsLE 64 s.back (s.buffer.setWidth 64) s.bib n = x at hpost
    rcases x with ⟨res, b, m'⟩ | _ | _ | _
    · obtain ⟨⟨a1, a2, a3, a4, a5⟩, a6⟩ := hpost
      have hk := a6 (by have := Nat.le_mul_of_pos_right 64 hW; omega)
      refine h.last_word hW m' a1 a2 (n := n) (k := n - b) (by omega) (by omega) (by omega)
        fun hrel => ⟨?_, hrel⟩
      have := a5.or_shl (k := n - b) (x := ((m'.data.getD m'.pos 0).setWidth 64 <<< (64 - (n - b)))
          >>> (64 - (n - b)))
        (h.word_field a1 a3 ((isField_takeB .le _ (by omega)).congr fun i hi => by
            show (BitVec.setWidth 64 _).getLsbD i = _
            rw [BitVec.getLsbD_setWidth, decide_eq_true (by omega : i < 64)]; rfl)
          (by omega))
        (by omega)
      rw [Nat.add_sub_cancel' (Nat.le_of_lt a4)] at this
      exact h.he ▸ this.toNat
    · obtain ⟨rfl, hav⟩ := hpost
      rw [hav]; rfl
    · exact hpost.elim
    · exact hpost.elim

/-- the whole-word loop of BE `read_bits` keeps any invariant `Q` of (accumulator, bits still
    wanted, backend) that one round keeps -/
theorem readWordsBE_rule (Q : BitVec 64 → Nat → MemR W → Prop) (E : Prop)
    (hstep : ∀ res n (m : MemR W), Q res n m → n > W → (m.strict = true → m.pos < m.data.length) →
      Q ((res <<< W) ||| (m.data.getD m.pos 0).setWidth 64) (n - W) { m with pos := m.pos + 1 })
    (herr : ∀ res n (m : MemR W), Q res n m → n > W → m.strict = true → m.data.length ≤ m.pos → E)
    (fuel : Nat) (m : MemR W) (res : BitVec 64) (n : Nat) (h : Q res n m) :
    match readWordsBE fuel m res n with
    | .ok (res', n', m') => Q res' n' m' ∧ (n ≤ fuel * W + W → n' ≤ W)
    | .err x => x = .eof ∧ E
    | _ => False := by
  induction fuel generalizing m res n with
  | zero => exact ⟨h, fun hn => by omega⟩
  | succ fuel ih =>
    unfold readWordsBE
    by_cases hc : n > W
    · rw [if_pos hc]
      rcases m.readWord_cases with ⟨hs, hp, hw⟩ | ⟨hp, hw⟩
      · rw [hw]
        exact ⟨rfl, herr res n m h hc hs hp⟩
      · rw [hw]
        dsimp only
        have := ih _ _ _ (hstep res n m h hc hp)
        rw [Nat.succ_mul]
        generalize readWordsBE fuel _ _ _ = x at this
        rcases x with ⟨res', n', m'⟩ | _ | _ | _
        · exact ⟨this.1, fun hn => this.2 (by omega)⟩
        all_goals exact this
    · rw [if_neg hc]
      exact ⟨h, fun _ => by omega⟩

theorem isField_word_top (w : BitVec W) (hW : W ≤ 64) {k : Nat} (hk : k ≤ W) :
    IsField .be (w.setWidth 64 >>> (W - k)) k (sbit .be w) := by
  intro i
  show (w.setWidth 64 >>> (W - k)).getLsbD i = (decide (i < k) && w.getMsbD (k - 1 - i))
  rw [BitVec.getLsbD_ushiftRight, BitVec.getLsbD_setWidth, BitVec.getLsbD_eq_getMsbD, ← Bool.and_assoc,
    ← Bool.decide_and]
  exact guard_congr (by omega) fun hi => by congr 1; omega

/-- `W ≤ 64`: the word loop and the last step put whole words into the 64-bit accumulator -/
theorem RelS.readBitsBE_sim (hW64 : W ≤ 64) {s : BufR W} {r : RefR} (h : RelS .be s r) (n : Nat) :
    ResRel (SimPost (RelS .be)) (readBitsBE s n) (RefR.readBits r n) := by
  have hW := h.pos_W
  have hb := h.bib_lt
  unfold readBitsBE RefR.readBits
  by_cases hn : n > 64
  · rw [if_pos hn, if_pos hn]; trivial
  rw [if_neg hn, if_neg hn]
  -- `x >> (2W - k - 1) >> 1` is the way the Rust writes `x >> (2W - k)` when `k` may be `0`
  have htop : ∀ k, k < 2 * W → k ≤ 64 →
      IsField .be (((s.buffer >>> (2 * W - 1 - k)) >>> 1).setWidth 64) k (sbit .be s.buffer) :=
    fun k hk hk' => by
      rw [← BitVec.shiftRight_add, (by omega : 2 * W - 1 - k + 1 = 2 * W - k)]
      exact (isField_takeB .be s.buffer (Nat.le_of_lt hk)).setWidth hk'
  by_cases hnb : n ≤ s.bib
  · rw [if_pos hnb, if_pos (h.avail_of_le hnb), Nat.sub_right_comm]
    exact ⟨h.field_value hnb (htop n (by omega) (by omega)), h.advance hnb⟩
  · rw [if_neg hnb]
    dsimp only
    have hpos := h.hpos
    -- `n'` bits are still wanted: the accumulator holds the `c` others, and the backend is that
    -- many bits ahead
    have hpost := readWordsBE_rule
      (fun res n' m => m.data = s.back.data ∧ m.strict = s.back.strict ∧ 0 < n' ∧
        ∃ c, c + n' = n ∧ r.pos + c = m.pos * W ∧ IsField .be res c (bitZ r.rest))
      (r.avail n = false)
      (fun res n' m ⟨a1, a2, _, c, a4, a5, a6⟩ hc _ =>
        ⟨a1, a2, Nat.sub_pos_of_lt hc, c + W, by omega,
          by show r.pos + (c + W) = (m.pos + 1) * W; rw [Nat.succ_mul, ← a5, Nat.add_assoc],
          a6.shl_or (h.word_field a1 a5 ((isField_self .be _).setWidth hW64) (Nat.le_refl W))
            (by omega)⟩)
      (fun res n' m ⟨a1, a2, _, c, a4, a5, _⟩ hc hs hp => h.not_avail a1 a2 hs hp (by omega))
      64 s.back _ (n - s.bib)
      ⟨rfl, rfl, by omega, s.bib, by omega, hpos,
        (htop s.bib hb (by omega)).congr fun i hi => by
          rw [RefR.rest, bitZ_drop, h.hbits, decide_eq_true hi]; rfl⟩
    generalize readWordsBE 64 s.back _ (n - s.bib) = x at hpost
    rcases x with ⟨res, n', m'⟩ | _ | _ | _
    · obtain ⟨⟨a1, a2, a3, c, a4, a5, a6⟩, a7⟩ := hpost
      have hk := a7 (by have := Nat.le_mul_of_pos_right 64 hW; omega)
      refine h.last_word hW m' a1 a2 (n := n) (k := n') (by omega) a3 hk fun hrel => ?_
      rw [← BitVec.shiftLeft_add, ← BitVec.shiftLeft_add, Nat.sub_add_cancel a3,
        (by omega : 2 * W - (W - n') - 1 + 1 = W + n'), BitVec.shiftLeft_add]
      have := a6.shl_or (h.word_field a1 a5 (isField_word_top (m'.data.getD m'.pos 0) hW64 hk) hk)
        (by omega)
      rw [a4] at this
      exact ⟨h.he ▸ this.toNat, hrel⟩
    · obtain ⟨rfl, hav⟩ := hpost
      rw [hav]; rfl
    · exact hpost.elim
    · exact hpost.elim

theorem RelS.readBits_sim {e : Endian} (hW64 : e = .be → W ≤ 64) {s : BufR W} {r : RefR}
    (h : RelS e s r) (n : Nat) :
    ResRel (SimPost (RelS e)) ((impl e).readBits s n) (RefR.readBits r n) := by
  cases e
  · exact h.readBitsBE_sim (hW64 rfl) n
  · exact h.readBitsLE_sim n

end BufR
end Dsi
