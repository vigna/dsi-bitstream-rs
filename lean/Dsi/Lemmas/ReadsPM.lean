/-
  `Reads` for reader programs that look ahead: the statement holds on the reference readers whose
  look-ahead capacity covers what the program asks for.
-/
import Dsi.Lemmas.Frame
namespace Dsi

/-- `Reads` for programs that look ahead (table readers): only on readers whose look-ahead
    capacity `peekMax` is at least `K` and, as in `Reads`, at least 1 (so that `Reads.toPM` holds
    for every `K`) -/
def ReadsPM {α : Type} (K : Nat) (p : RProg α) (e : Endian) (bits : List Bool) (a : α) : Prop :=
  ∀ pre post strict pm, K ≤ pm → 1 ≤ pm →
    p.run RefR.impl (RefR.at e pre bits post strict pm) = .ok (a, RefR.after e pre bits post strict pm)

theorem Reads.toPM {α : Type} {p : RProg α} {e : Endian} {bits : List Bool} {a : α}
    (h : Reads p e bits a) (K : Nat) : ReadsPM K p e bits a :=
  fun pre post strict pm _ hpm => h pre post strict pm hpm

theorem ReadsPM.mono {α : Type} {p : RProg α} {e : Endian} {bits : List Bool} {a : α} {K K' : Nat}
    (h : ReadsPM K p e bits a) (hK : K ≤ K') : ReadsPM K' p e bits a :=
  fun pre post strict pm hk hpm => h pre post strict pm (Nat.le_trans hK hk) hpm

theorem ReadsPM.of_run_eq {p q : RProg Nat} {e : Endian} {bits : List Bool} {v : Nat} {K : Nat}
    (hq : Reads q e bits v)
    (h : ∀ r : RefR, r.e = e → K ≤ r.peekMax → p.run RefR.impl r = q.run RefR.impl r) :
    ReadsPM K p e bits v := by
  intro pre post strict pm hk hpm
  rw [h _ rfl hk]
  exact hq pre post strict pm hpm

end Dsi
