/-
  Unbuffered `BitReader`: `read_bits`, `peek_bits`, the skip after a peek, `set_bit_pos` against the
  reference reader, under the plain relation `BitR.Rel` (which does not constrain the position;
  `readBits_sim` asks that the reference position has not left a strict stream).
-/
import Dsi.Lemmas.BitReaderCore
namespace Dsi
namespace BitRd

theorem rel_length {e : Endian} {s : BitR} {r : RefR} (h : BitR.Rel e s r) :
    r.stream.length = s.data.data.length * 64 := by
  -- conjuncts of `BitR.Rel`: `.2.2.2.1` is the stream, `.2.2.2.2` is `r.pos = s.bitIndex`
  rw [h.2.2.2.1, length_flatMap_wordBits]

theorem rel_move {e : Endian} {s : BitR} {r : RefR} (h : BitR.Rel e s r) {s' : BitR} {r' : RefR}
    (hd : s'.data.data = s.data.data) (hs : s'.data.strict = s.data.strict)
    (he : r'.e = r.e) (hst : r'.stream = r.stream) (hstr : r'.strict = r.strict)
    (hpm : r'.peekMax = r.peekMax) (hp : r'.pos = s'.bitIndex) : BitR.Rel e s' r' := by
  obtain ⟨h1, h2, h3, h4, _⟩ := h
  exact ⟨by rw [he]; exact h1, by rw [hs, hstr]; exact h2, by rw [hpm]; exact h3,
    by rw [hd, hst]; exact h4, hp⟩

theorem words_le_iff {bi n len : Nat} (h1 : 1 ≤ n) (hn : n ≤ 64) :
    bi / 64 + (if bi % 64 + n ≤ 64 then 1 else 2) ≤ len ↔ bi + n ≤ len * 64 := by
  have := Nat.div_add_mod' bi 64
  have := Nat.mod_lt bi (by decide : 0 < 64)
  split <;> omega

theorem extract_rel {e : Endian} {s : BitR} {r : RefR} (h : BitR.Rel e s r) {n : Nat}
    (h1 : 1 ≤ n) (hn : n ≤ 64) :
    if r.avail n = true then
      ∃ v d, BitR.extract e s n = .ok (v, d) ∧ d.data = s.data.data ∧ d.strict = s.data.strict ∧
        v.toNat = bitsVal r.e (takeZ n r.rest)
    else BitR.extract e s n = .err .eof := by
  have hlen := rel_length h
  obtain ⟨he, hstr, hpm, hstream, hpos⟩ := h
  rw [extract_eq]
  by_cases hav : r.avail n = true
  · rw [if_pos hav, if_neg]
    · exact ⟨_, _, rfl, rfl, rfl, by rw [exval_toNat e _ _ _ hn, he, RefR.rest, hstream, hpos]⟩
    · rintro ⟨hs, hlt⟩
      have := (RefR.avail_iff _ _).1 hav (hstr.trans hs)
      have := (words_le_iff (bi := s.bitIndex) (len := s.data.data.length) h1 hn).2 (by omega)
      omega
  · rw [if_neg hav, if_pos]
    obtain ⟨hs, hlt⟩ := (RefR.avail_false_iff _ _).1 (Bool.eq_false_iff.2 hav)
    exact ⟨hstr ▸ hs, Nat.lt_of_not_le fun hle => by
      have := (words_le_iff (bi := s.bitIndex) h1 hn).1 hle
      omega⟩

theorem readBits_sim_pos {e : Endian} {s : BitR} {r : RefR} (h : BitR.Rel e s r) {n : Nat}
    (h1 : 1 ≤ n) (hn : n ≤ 64) :
    ResRel (SimPost (BitR.Rel e)) (BitR.readBits e s n) (RefR.readBits r n) := by
  have hx := extract_rel h h1 hn
  unfold BitR.readBits RefR.readBits
  rw [if_neg (by omega), if_neg (by omega), if_neg (by omega)]
  by_cases hav : r.avail n = true
  · rw [if_pos hav] at hx
    obtain ⟨v, d, hx, hd1, hd2, hv⟩ := hx
    rw [hx, if_pos hav]
    exact ⟨hv, rel_move h hd1 hd2 rfl rfl rfl rfl (by show r.pos + n = s.bitIndex + n; rw [h.2.2.2.2])⟩
  · rw [if_neg hav] at hx
    rw [hx, if_neg hav]
    rfl

/-- `read_bits(n)`, `n ≤ 64`, where the reference position has not left a strict stream:
    `read_bits(0)` returns `0` without touching the backend, and so does the reference then -/
theorem readBits_sim {e : Endian} {s : BitR} {r : RefR} (h : BitR.Rel e s r) (hav : r.avail 0 = true)
    {n : Nat} (hn : n ≤ 64) :
    ResRel (SimPost (BitR.Rel e)) (BitR.readBits e s n) (RefR.readBits r n) := by
  by_cases h0 : n = 0
  · subst h0
    unfold BitR.readBits RefR.readBits
    rw [if_pos rfl, if_neg (by omega), if_pos hav]
    exact ⟨by cases r.e <;> rfl, h⟩
  · exact readBits_sim_pos h (Nat.pos_of_ne_zero h0) hn

theorem peekBits_sim {e : Endian} {s : BitR} {r : RefR} (h : BitR.Rel e s r) {n : Nat}
    (h1 : 1 ≤ n) (hn : n ≤ 32) :
    ResRel (fun a b => a.1 = b.1 ∧ BitR.Rel e a.2 b.2) (BitR.peekBits e s n) (RefR.peekBits r n) := by
  have hx := extract_rel h h1 (by omega : n ≤ 64)
  rw [BitR.peekBits, RefR.peekBits, h.2.2.1, if_neg (by omega), if_neg (by omega),
    if_neg (show ¬(n = 0 ∨ n > 32) by omega)]
  by_cases hav : r.avail n = true
  · rw [if_pos hav] at hx
    obtain ⟨v, d, hx, hd1, hd2, hv⟩ := hx
    rw [hx, if_pos hav]
    refine ⟨?_, rel_move h hd1 hd2 rfl rfl rfl rfl h.2.2.2.2⟩
    -- the value fits `n ≤ 32` bits, so the truncation to `u32` is the identity
    show (v.setWidth 32).toNat = _
    rw [BitVec.toNat_setWidth, Nat.mod_eq_of_lt (Nat.lt_of_lt_of_le (extract_lt (by omega) hx)
      (Nat.pow_le_pow_right (by decide) hn)), hv]
  · rw [if_neg hav] at hx
    rw [hx, if_neg hav]
    rfl

theorem skipAfterPeek_rel {e : Endian} {s : BitR} {r : RefR} (h : BitR.Rel e s r) (k : Nat) :
    BitR.Rel e (BitR.skipAfterPeek s k) (RefR.skipAfterPeek r k) :=
  rel_move h rfl rfl rfl rfl rfl rfl (by show r.pos + k = s.bitIndex + k; rw [h.2.2.2.2])

theorem setBitPos_rel {e : Endian} {s : BitR} {r : RefR} (h : BitR.Rel e s r) (p : Nat) :
    BitR.Rel e (BitR.setBitPos s p) (r.seek p) :=
  rel_move h rfl rfl rfl rfl rfl rfl rfl

end BitRd
end Dsi
