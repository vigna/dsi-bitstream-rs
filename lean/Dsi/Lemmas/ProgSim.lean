/-
  Three inductions over `RProg` / `WProg`, behind every refinement and transparency theorem:
  the run of a `bind` (`run_bind`); programs run on two implementations whose operations correspond
  run to corresponding outcomes (`run_simIx`, `run_sim`); what every operation does to the state on
  success, every successful run does (`run_steps`).
-/
import Dsi.Lemmas.SimFrame
import Dsi.Lemmas.Res
namespace Dsi

namespace ResRel
variable {α β γ δ : Type} {R : α → β → Prop}

theorem mono {Q : α → β → Prop} {x : Res α} {y : Res β}
    (h : ResRel R x y) (hRQ : ∀ a b, R a b → Q a b) : ResRel Q x y := by
  cases x <;> cases y <;> first | exact hRQ _ _ h | exact h.elim | exact h

theorem mono_ok {Q : α → β → Prop} {x : Res α} {y : Res β} (h : ResRel R x y)
    (hRQ : ∀ a b, x = .ok a → y = .ok b → R a b → Q a b) : ResRel Q x y := by
  cases x <;> cases y <;> first | exact hRQ _ _ rfl rfl h | exact h.elim | exact h

theorem bind {Q : γ → δ → Prop} {x : Res α} {y : Res β} (h : ResRel R x y)
    {f : α → Res γ} {g : β → Res δ} (hfg : ∀ a b, R a b → ResRel Q (f a) (g b)) :
    ResRel Q (x.bind f) (y.bind g) := by
  cases x <;> cases y <;> first | exact hfg _ _ h | exact h.elim | exact h

theorem map {Q : γ → δ → Prop} {x : Res α} {y : Res β} (h : ResRel R x y) (f : α → γ) (g : β → δ)
    (hfg : ∀ a b, R a b → Q (f a) (g b)) : ResRel Q (x.map f) (y.map g) := by
  cases x <;> cases y <;> first | exact hfg _ _ h | exact h.elim | exact h

theorem join {S : γ → β → Prop} {x : Res α} {y : Res γ} {z : Res β} (hx : ResRel R x z)
    (hy : ResRel S y z) : ResRel (fun a c => ∃ b, R a b ∧ S c b) x y := by
  cases x <;> cases y <;> cases z <;>
    first | exact ⟨_, hx, hy⟩ | exact hx.elim | exact hy.elim | exact hx.trans hy.symm | trivial

theorem of_ok_right {x : Res α} {b : β} (h : ResRel R x (.ok b)) : ∃ a, x = .ok a ∧ R a b := by
  cases x <;> first | exact ⟨_, rfl, h⟩ | exact h.elim

theorem of_ok_left {a : α} {y : Res β} (h : ResRel R (.ok a) y) : ∃ b, y = .ok b ∧ R a b := by
  cases y <;> first | exact ⟨_, rfl, h⟩ | exact h.elim

theorem of_err_right {x : Res α} {e : Err} (h : ResRel R x (.err e : Res β)) : x = .err e := by
  cases x <;> first | exact congrArg _ h | exact h.elim

theorem eq_of_eq {x y : Res α} (h : ResRel (· = ·) x y) : x = y := by
  cases x <;> cases y <;> first | exact congrArg _ h | rfl | exact h.elim

theorem refl {x : Res α} {R : α → α → Prop} (h : ∀ a, x = .ok a → R a a) : ResRel R x x := by
  cases x <;> first | exact h _ rfl | rfl | trivial

end ResRel

section run
variable {σ α : Type}

theorem RProg.run_readBits (I : RImpl σ) (n : Nat) (k : Nat → RProg α) (s : σ) :
    (RProg.readBits n k).run I s = (I.readBits s n).bind fun x => (k x.1).run I x.2 := by
  simp only [RProg.run]; cases I.readBits s n <;> rfl

theorem RProg.run_readUnary (I : RImpl σ) (k : Nat → RProg α) (s : σ) :
    (RProg.readUnary k).run I s = (I.readUnary s).bind fun x => (k x.1).run I x.2 := by
  simp only [RProg.run]; cases I.readUnary s <;> rfl

theorem RProg.run_skip (I : RImpl σ) (n : Nat) (k : RProg α) (s : σ) :
    (RProg.skip n k).run I s = (I.skipBits s n).bind fun s' => k.run I s' := by
  simp only [RProg.run]; cases I.skipBits s n <;> rfl

theorem WProg.run_writeBits (I : WImpl σ) (v n : Nat) (k : Nat → WProg α) (s : σ) :
    (WProg.writeBits v n k).run I s = (I.writeBits s v n).bind fun x => (k x.1).run I x.2 := by
  simp only [WProg.run]; cases I.writeBits s v n <;> rfl

theorem WProg.run_writeUnary (I : WImpl σ) (x : Nat) (k : Nat → WProg α) (s : σ) :
    (WProg.writeUnary x k).run I s = (I.writeUnary s x).bind fun x => (k x.1).run I x.2 := by
  simp only [WProg.run]; cases I.writeUnary s x <;> rfl

theorem WProg.run_flush (I : WImpl σ) (k : Nat → WProg α) (s : σ) :
    (WProg.flush k).run I s = (I.flush s).bind fun x => (k x.1).run I x.2 := by
  simp only [WProg.run]; cases I.flush s <;> rfl

theorem RProg.run_bind {β} (I : RImpl σ) (p : RProg α) (f : α → RProg β) (s : σ) :
    (p.bind f).run I s = (p.run I s).bind (fun x => (f x.1).run I x.2) := by
  induction p generalizing s with
  | ret a => rfl
  | fail e => rfl
  | panic => rfl
  | dpanic => rfl
  | readBits n k ih => simp only [RProg.bind, RProg.run]; split <;> simp [Res.bind, ih]
  | readUnary k ih => simp only [RProg.bind, RProg.run]; split <;> simp [Res.bind, ih]
  | peek n k ih => simp only [RProg.bind, RProg.run]; split <;> simp [Res.bind, ih]
  | skipAfterPeek n k ih => simp only [RProg.bind, RProg.run, ih]
  | skip n k ih => simp only [RProg.bind, RProg.run]; split <;> simp [Res.bind, ih]

theorem WProg.run_bind {β} (I : WImpl σ) (p : WProg α) (f : α → WProg β) (s : σ) :
    (p.bind f).run I s = (p.run I s).bind (fun x => (f x.1).run I x.2) := by
  induction p generalizing s with
  | ret a => rfl
  | panic => rfl
  | dpanic => rfl
  | writeBits v n k ih => simp only [WProg.bind, WProg.run]; split <;> simp [Res.bind, ih]
  | writeUnary x k ih => simp only [WProg.bind, WProg.run]; split <;> simp [Res.bind, ih]
  | flush k ih => simp only [WProg.bind, WProg.run]; split <;> simp [Res.bind, ih]

end run

section sim
variable {σ τ α : Type}

abbrev SimPost (R : σ → τ → Prop) : α × σ → α × τ → Prop := fun a b => a.1 = b.1 ∧ R a.2 b.2

/-- every operation of the writer `I`, started in a state related to one of `J`, ends like `J`'s -/
structure WImpl.Sim (I : WImpl σ) (J : WImpl τ) (R : σ → τ → Prop) : Prop where
  writeBits : ∀ {s t}, R s t → ∀ v n, ResRel (SimPost R) (I.writeBits s v n) (J.writeBits t v n)
  writeUnary : ∀ {s t}, R s t → ∀ x, ResRel (SimPost R) (I.writeUnary s x) (J.writeUnary t x)
  flush : ∀ {s t}, R s t → ResRel (SimPost R) (I.flush s) (J.flush t)

theorem WProg.run_sim {I : WImpl σ} {J : WImpl τ} {R : σ → τ → Prop} (h : WImpl.Sim I J R)
    (p : WProg α) : ∀ {s t}, R s t → ResRel (SimPost R) (p.run I s) (p.run J t) := by
  induction p with
  | ret a => exact fun hr => ⟨rfl, hr⟩
  | panic => exact fun _ => trivial
  | dpanic => exact fun _ => trivial
  | writeBits v n k ih =>
    intro s t hr
    rw [run_writeBits, run_writeBits]
    exact (h.writeBits hr v n).bind fun a b hab => hab.1 ▸ ih a.1 hab.2
  | writeUnary x k ih =>
    intro s t hr
    rw [run_writeUnary, run_writeUnary]
    exact (h.writeUnary hr x).bind fun a b hab => hab.1 ▸ ih a.1 hab.2
  | flush k ih =>
    intro s t hr
    rw [run_flush, run_flush]
    exact (h.flush hr).bind fun a b hab => hab.1 ▸ ih a.1 hab.2

/-! Readers: what relates the two states may depend on the program still to run (bounds on its
    arguments, a credit of peeked bits that the next `skipAfterPeek` may spend). -/

/-- `S p s t`: `p` may run from the related states `s`, `t`.  Every operation of `I`, started in
    such states, ends like `J`'s, in states from which the rest of the program may run; a failed
    look-ahead leaves both where they were. -/
structure RImpl.SimIx (I : RImpl σ) (J : RImpl τ) (S : RProg α → σ → τ → Prop) : Prop where
  readBits : ∀ {n k s t}, S (.readBits n k) s t →
    ResRel (fun a b => a.1 = b.1 ∧ S (k a.1) a.2 b.2) (I.readBits s n) (J.readBits t n)
  readUnary : ∀ {k s t}, S (.readUnary k) s t →
    ResRel (fun a b => a.1 = b.1 ∧ S (k a.1) a.2 b.2) (I.readUnary s) (J.readUnary t)
  peekBits : ∀ {n k s t}, S (.peek n k) s t →
    ResRel (fun a b => a.1 = b.1 ∧ S (k (.ok a.1)) a.2 b.2) (I.peekBits s n) (J.peekBits t n) ∧
    ∀ x, J.peekBits t n = .err x → S (k (.error x)) s t
  skipAfterPeek : ∀ {n k s t}, S (.skipAfterPeek n k) s t →
    S k (I.skipAfterPeek s n) (J.skipAfterPeek t n)
  skipBits : ∀ {n k s t}, S (.skip n k) s t → ResRel (S k) (I.skipBits s n) (J.skipBits t n)

theorem RProg.run_simIx {I : RImpl σ} {J : RImpl τ} {S : RProg α → σ → τ → Prop}
    (h : RImpl.SimIx I J S) {Q : σ → τ → Prop} (hret : ∀ {a s t}, S (.ret a) s t → Q s t)
    (p : RProg α) : ∀ {s t}, S p s t → ResRel (SimPost Q) (p.run I s) (p.run J t) := by
  induction p with
  | ret a => exact fun hs => ⟨rfl, hret hs⟩
  | fail e => exact fun _ => rfl
  | panic => exact fun _ => trivial
  | dpanic => exact fun _ => trivial
  | readBits n k ih =>
    intro s t hs
    rw [run_readBits, run_readBits]
    exact (h.readBits hs).bind fun a b hab => hab.1 ▸ ih a.1 hab.2
  | readUnary k ih =>
    intro s t hs
    rw [run_readUnary, run_readUnary]
    exact (h.readUnary hs).bind fun a b hab => hab.1 ▸ ih a.1 hab.2
  | peek n k ih =>
    intro s t hs
    obtain ⟨hp, he⟩ := h.peekBits hs
    simp only [run]
    generalize I.peekBits s n = x at hp
    generalize J.peekBits t n = y at hp he
    -- of the 16 pairs of outcomes `hp` refutes the 12 off the diagonal; ok/ok, err/err (the one
    -- that uses `he`), panic/panic, dpanic/dpanic remain
    rcases x with ⟨v, s'⟩ | _ | _ | _ <;> rcases y with ⟨w, t'⟩ | _ | _ | _ <;>
      first | exact hp.elim | skip
    · obtain ⟨rfl, hs'⟩ := hp; exact ih _ hs'
    · cases hp; exact ih _ (he _ rfl)
    · trivial
    · trivial
  | skipAfterPeek n k ih => exact fun hs => ih (h.skipAfterPeek hs)
  | skip n k ih =>
    intro s t hs
    rw [run_skip, run_skip]
    exact (h.skipBits hs).bind fun a b hab => ih hab

def RProg.Peeks (P : Nat → Prop) : RProg α → Prop
  | .ret _ => True
  | .fail _ => True
  | .panic => True
  | .dpanic => True
  | .readBits _ k => ∀ v, (k v).Peeks P
  | .readUnary k => ∀ v, (k v).Peeks P
  | .peek n k => P n ∧ ∀ v, (k v).Peeks P
  | .skipAfterPeek _ k => k.Peeks P
  | .skip _ k => k.Peeks P

theorem RProg.Peeks.any (p : RProg α) : p.Peeks fun _ => True := by
  induction p with
  | peek n k ih => exact ⟨trivial, ih⟩
  | readBits n k ih => exact ih
  | readUnary k ih => exact ih
  | skipAfterPeek n k ih => exact ih
  | skip n k ih => exact ih
  | _ => trivial

/-- every operation of the reader `I`, started in a state related to one of `J`, ends like `J`'s
    (look-aheads: for the widths in `P`) -/
structure RImpl.Sim (I : RImpl σ) (J : RImpl τ) (R : σ → τ → Prop) (P : Nat → Prop := fun _ => True) :
    Prop where
  readBits : ∀ {s t}, R s t → ∀ n, ResRel (SimPost R) (I.readBits s n) (J.readBits t n)
  peekBits : ∀ {s t}, R s t → ∀ n, P n → ResRel (SimPost R) (I.peekBits s n) (J.peekBits t n)
  skipAfterPeek : ∀ {s t}, R s t → ∀ n, R (I.skipAfterPeek s n) (J.skipAfterPeek t n)
  skipBits : ∀ {s t}, R s t → ∀ n, ResRel R (I.skipBits s n) (J.skipBits t n)
  readUnary : ∀ {s t}, R s t → ResRel (SimPost R) (I.readUnary s) (J.readUnary t)

theorem RProg.run_sim {I : RImpl σ} {J : RImpl τ} {R : σ → τ → Prop} {P : Nat → Prop}
    (h : RImpl.Sim I J R P) (p : RProg α) (hP : p.Peeks P) {s : σ} {t : τ} (hr : R s t) :
    ResRel (SimPost R) (p.run I s) (p.run J t) := by
  refine RProg.run_simIx (S := fun q s t => q.Peeks P ∧ R s t) ?_ (fun hs => hs.2) p ⟨hP, hr⟩
  exact {
    readBits := fun hs => (h.readBits hs.2 _).mono fun _ _ hab => ⟨hab.1, hs.1 _, hab.2⟩
    readUnary := fun hs => (h.readUnary hs.2).mono fun _ _ hab => ⟨hab.1, hs.1 _, hab.2⟩
    peekBits := fun hs => ⟨(h.peekBits hs.2 _ hs.1.1).mono fun _ _ hab => ⟨hab.1, hs.1.2 _, hab.2⟩,
      fun _ _ => ⟨hs.1.2 _, hs.2⟩⟩
    skipAfterPeek := fun hs => ⟨hs.1, h.skipAfterPeek hs.2 _⟩
    skipBits := fun hs => (h.skipBits hs.2 _).mono fun _ _ hab => ⟨hs.1, hab⟩ }

end sim

section steps
variable {σ α : Type}

/-- every successful operation of `I` is a step of the preorder `T` (look-aheads: widths in `P`).
    With `T s s' := Inv s → Inv s'` this is "the operations keep the invariant `Inv`". -/
structure RImpl.Steps (I : RImpl σ) (T : σ → σ → Prop) (P : Nat → Prop := fun _ => True) : Prop where
  refl : ∀ s, T s s
  trans : ∀ {a b c}, T a b → T b c → T a c
  readBits : ∀ {s n v s'}, I.readBits s n = .ok (v, s') → T s s'
  peekBits : ∀ {s n v s'}, P n → I.peekBits s n = .ok (v, s') → T s s'
  skipAfterPeek : ∀ s n, T s (I.skipAfterPeek s n)
  skipBits : ∀ {s n s'}, I.skipBits s n = .ok s' → T s s'
  readUnary : ∀ {s v s'}, I.readUnary s = .ok (v, s') → T s s'

theorem RProg.run_steps {I : RImpl σ} {T : σ → σ → Prop} {P : Nat → Prop} (h : RImpl.Steps I T P)
    (p : RProg α) : p.Peeks P → ∀ {s a s'}, p.run I s = .ok (a, s') → T s s' := by
  induction p with
  | ret a => intro _ s b s' hr; cases hr; exact h.refl s
  | fail e => intro _ s b s' hr; cases hr
  | panic => intro _ s b s' hr; cases hr
  | dpanic => intro _ s b s' hr; cases hr
  | readBits n k ih =>
    intro hP s b s' hr
    rw [run_readBits] at hr
    cases ho : I.readBits s n <;> rw [ho] at hr <;> first | cases hr | skip
    exact h.trans (h.readBits ho) (ih _ (hP _) hr)
  | readUnary k ih =>
    intro hP s b s' hr
    rw [run_readUnary] at hr
    cases ho : I.readUnary s <;> rw [ho] at hr <;> first | cases hr | skip
    exact h.trans (h.readUnary ho) (ih _ (hP _) hr)
  | peek n k ih =>
    intro hP s b s' hr
    simp only [run] at hr
    cases ho : I.peekBits s n <;> rw [ho] at hr <;> first | cases hr | skip
    · exact h.trans (h.peekBits hP.1 ho) (ih _ (hP.2 _) hr)
    · exact ih _ (hP.2 _) hr
  | skipAfterPeek n k ih => exact fun hP _ _ _ hr => h.trans (h.skipAfterPeek _ n) (ih hP hr)
  | skip n k ih =>
    intro hP s b s' hr
    rw [run_skip] at hr
    cases ho : I.skipBits s n <;> rw [ho] at hr <;> first | cases hr | skip
    exact h.trans (h.skipBits ho) (ih hP hr)

structure WImpl.Steps (I : WImpl σ) (T : σ → σ → Prop) : Prop where
  refl : ∀ s, T s s
  trans : ∀ {a b c}, T a b → T b c → T a c
  writeBits : ∀ {s v n r s'}, I.writeBits s v n = .ok (r, s') → T s s'
  writeUnary : ∀ {s x r s'}, I.writeUnary s x = .ok (r, s') → T s s'
  flush : ∀ {s r s'}, I.flush s = .ok (r, s') → T s s'

theorem WProg.run_steps {I : WImpl σ} {T : σ → σ → Prop} (h : WImpl.Steps I T) (p : WProg α) :
    ∀ {s a s'}, p.run I s = .ok (a, s') → T s s' := by
  induction p with
  | ret a => intro s b s' hr; cases hr; exact h.refl s
  | panic => intro s b s' hr; cases hr
  | dpanic => intro s b s' hr; cases hr
  | writeBits v n k ih =>
    intro s b s' hr
    rw [run_writeBits] at hr
    cases ho : I.writeBits s v n <;> rw [ho] at hr <;> first | cases hr | skip
    exact h.trans (h.writeBits ho) (ih _ hr)
  | writeUnary x k ih =>
    intro s b s' hr
    rw [run_writeUnary] at hr
    cases ho : I.writeUnary s x <;> rw [ho] at hr <;> first | cases hr | skip
    exact h.trans (h.writeUnary ho) (ih _ hr)
  | flush k ih =>
    intro s b s' hr
    rw [run_flush] at hr
    cases ho : I.flush s <;> rw [ho] at hr <;> first | cases hr | skip
    exact h.trans (h.flush ho) (ih _ hr)

end steps
end Dsi
