/-
  Bulk copy, simulation frame: what the copy loops need from a reader / writer implementation
  (`RSim`, `WSim`), sequencing of simulation steps against `refCopy`, and the generic chunked
  loop between any two simulating implementations.
-/
import Dsi.Lemmas.CopyRef
import Dsi.Props.Writer
import Dsi.Props.Reader
namespace Dsi
namespace CopyL

def RSim {ρ} (ri : RImpl ρ) (P : ρ → RefR → Prop) : Prop :=
  ∀ s r n, P s r →
    ResRel (fun a b => a.1 = b.1 ∧ P a.2 b.2) (ri.readBits s n) (RefR.readBits r n)

def WSim {ω} (wi : WImpl ω) (Q : ω → RefW → Prop) : Prop :=
  ∀ t w v n, Q t w →
    ResRel (fun a b => Q a.2 b.2) (wi.writeBits t v n) (RefW.writeBits w v n)

theorem rsim_bufR {W : Nat} {e : Endian} (hW64 : e = .be → W ≤ 64) :
    RSim (BufR.impl e : RImpl (BufR W)) (BufR.Rel e) := by
  intro s r n h
  exact (readBits_sim hW64 h n).mono (fun ⟨_, _⟩ ⟨_, _⟩ h => h)

theorem wsim_bufW {W : Nat} (e : Endian) :
    WSim (BufW.impl e : WImpl (BufW W)) (BufW.RelC e) := by
  intro t w v n h
  exact (writeBits_sim h v n).mono (fun ⟨_, _⟩ ⟨_, _⟩ h => h.2.1)

abbrev PQ {ρ ω} (P : ρ → RefR → Prop) (Q : ω → RefW → Prop) : ρ × ω → RefR × RefW → Prop :=
  fun a b => P a.1 b.1 ∧ Q a.2 b.2

end CopyL

namespace ResRel
variable {α β γ δ : Type} {R : α → β → Prop} {Q : γ → δ → Prop}

/-- `bind` whose continuations know which successes they continue -/
theorem bind' {x : Res α} {y : Res β} (h : ResRel R x y) {f : α → Res γ} {g : β → Res δ}
    (hfg : ∀ a b, x = .ok a → y = .ok b → R a b → ResRel Q (f a) (g b)) :
    ResRel Q (x.bind f) (y.bind g) :=
  (h.mono_ok fun _ _ hx hy hab => And.intro hx (And.intro hy hab)).bind
    fun a b hab => hfg a b hab.1 hab.2.1 hab.2.2

theorem bind_ok_right {Q : α → δ → Prop} {x : Res α} {y : Res β} (h : ResRel R x y) (g : β → δ)
    (hg : ∀ a b, R a b → Q a (g b)) : ResRel Q x (y.bind fun b => .ok (g b)) := by
  cases x <;> cases y <;> first | exact h | exact hg _ _ h

/-- stages of a copy in sequence: `a` bits, then `b` bits from where the first stage ended -/
theorem seqCopy {S₁ : α → RefR × RefW → Prop} {S₂ : γ → RefR × RefW → Prop} {x : Res α}
    {f : α → Res γ} {r : RefR} {w : RefW} {a b : Nat} (h1 : ResRel S₁ x (refCopy r w a))
    (h2 : ∀ p q, x = .ok p → refCopy r w a = .ok q → S₁ p q →
      ResRel S₂ (f p) (refCopy q.1 q.2 b)) :
    ResRel S₂ (x.bind f) (refCopy r w (a + b)) := by
  rw [refCopy_add]; exact h1.bind' h2

end ResRel

namespace CopyL

theorem copyStep_sim {ρ ω} {ri : RImpl ρ} {wi : WImpl ω} {P : ρ → RefR → Prop}
    {Q : ω → RefW → Prop} (hr : RSim ri P) (hw : WSim wi Q) {s : ρ} {r : RefR} {t : ω} {w : RefW}
    (hP : P s r) (hQ : Q t w) (k : Nat) :
    ResRel (PQ P Q) (copyStep ri wi s t k) (copyStep RefR.impl RefW.impl r w k) := by
  rw [copyStep_bind, copyStep_bind]
  exact (hr s r k hP).bind fun a b hab =>
    hab.1 ▸ (hw t w a.1 k hQ).bind fun c d hcd => ⟨hab.2, hcd⟩

theorem copyGeneric_sim_gen {ρ ω} {ri : RImpl ρ} {wi : WImpl ω} {P : ρ → RefR → Prop}
    {Q : ω → RefW → Prop} (hr : RSim ri P) (hw : WSim wi Q) (fuel : Nat) :
    ∀ {s : ρ} {r : RefR} {t : ω} {w : RefW} (n : Nat), P s r → Q t w →
    ResRel (PQ P Q) (copyGeneric ri wi fuel s t n) (copyGeneric RefR.impl RefW.impl fuel r w n) := by
  induction fuel with
  | zero =>
    intro s r t w n hP hQ
    unfold copyGeneric
    split
    · exact ⟨hP, hQ⟩
    · trivial
  | succ fuel ih =>
    intro s r t w n hP hQ
    rw [copyGeneric_succ, copyGeneric_succ]
    split
    · exact ⟨hP, hQ⟩
    · exact (copyStep_sim hr hw hP hQ _).bind fun a b hab => ih _ hab.1 hab.2

theorem copyGeneric_stage {ρ ω} {ri : RImpl ρ} {wi : WImpl ω} {P : ρ → RefR → Prop}
    {Q : ω → RefW → Prop} (hr : RSim ri P) (hw : WSim wi Q) {s : ρ} {r : RefR} {t : ω} {w : RefW}
    (hP : P s r) (hQ : Q t w) (he : w.e = r.e) (hfit : w.fits w.bits = true) {fuel n : Nat}
    (hav : r.avail n = true) (hfuel : n ≤ 64 * fuel) :
    ResRel (PQ P Q) (copyGeneric ri wi fuel s t n) (refCopy r w n) := by
  rw [← copyGeneric_ref_gen fuel r w n he (avail_mono r (Nat.zero_le n) hav) hfit hfuel]
  exact copyGeneric_sim_gen hr hw fuel n hP hQ

end CopyL
end Dsi
