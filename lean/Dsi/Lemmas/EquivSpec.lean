/-
  Helpers for `Dsi.Props.Equiv`: the minimal binary code with a power-of-two bound is a plain
  field, empty fields, and the generic "two programs with the same `Writes` / `Reads` statement"
  glue.
-/
import Dsi.Props.CodesA
import Dsi.Props.CodesB
namespace Dsi.EqvL
open Dsi

theorem fieldBits_zero (e : Endian) (v : Nat) : fieldBits e v 0 = [] := by
  cases e <;> rfl

theorem two_pow_succ_sub (j : Nat) : 2 ^ (j + 1) - 2 ^ j = 2 ^ j := by
  rw [Nat.pow_succ]; omega

theorem minbin_pow2 (e : Endian) (x j : Nat) (hx : x < 2 ^ j) :
    Spec.minimalBinary e x (2 ^ j) = fieldBits e x j := by
  unfold Spec.minimalBinary
  simp only [Nat.log2_two_pow, two_pow_succ_sub, if_pos hx]

/-- the bound handed to the minimal binary code by ζ₁ -/
theorem zeta1_bound (h : Nat) : 2 ^ ((h + 1) * 1) - 2 ^ (h * 1) = 2 ^ h := by
  rw [Nat.mul_one, Nat.mul_one, two_pow_succ_sub]

theorem sub_pow_log2_lt {m : Nat} (h : m ≠ 0) : m - 2 ^ m.log2 < 2 ^ m.log2 := by
  have ⟨h1, h2⟩ := log2_bounds h
  rw [Nat.pow_succ] at h2
  omega

theorem writes_run_eq {p q : WProg Nat} {e : Endian} {checks : Bool} {bits : List Bool}
    (hp : Writes p e checks bits) (hq : Writes q e checks bits) (w : RefW) (he : w.e = e)
    (hcap : w.cap = none) (hc : w.checks = checks) :
    p.run RefW.impl w = q.run RefW.impl w := by
  rw [hp w he hcap hc, hq w he hcap hc]

theorem reads_run_eq {p q : RProg Nat} {e : Endian} {bits : List Bool} {v : Nat}
    (hp : Reads p e bits v) (hq : Reads q e bits v) (pre post : List Bool) (strict : Bool)
    (pm : Nat) (hpm : 1 ≤ pm) :
    p.run RefR.impl (RefR.at e pre bits post strict pm)
      = q.run RefR.impl (RefR.at e pre bits post strict pm) := by
  rw [hp pre post strict pm hpm, hq pre post strict pm hpm]

theorem writes_of_run_eq {p q : WProg Nat} {e : Endian} {checks : Bool} {bits : List Bool}
    (hq : Writes q e checks bits)
    (h : ∀ w : RefW, w.e = e → w.checks = checks → p.run RefW.impl w = q.run RefW.impl w) :
    Writes p e checks bits := by
  intro w he hcap hc
  rw [h w he hc]
  exact hq w he hcap hc

theorem reads_of_run_eq {p q : RProg Nat} {e : Endian} {bits : List Bool} {v : Nat}
    (hq : Reads q e bits v)
    (h : ∀ r : RefR, r.e = e → p.run RefR.impl r = q.run RefR.impl r) :
    Reads p e bits v := by
  intro pre post strict pm hpm
  rw [h _ rfl]
  exact hq pre post strict pm hpm

end Dsi.EqvL
