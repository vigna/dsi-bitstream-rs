/-
  End-to-end: gluing the refinement theorems.  `flush` on a concrete writer representing a growable
  reference writer (`BufW.RelC`) delivers the written bits plus padding (`flush_image`).  A concrete
  reader related to a reference reader standing in front of `bits` runs any program that
  `ReadsPM K` those bits (`K` at most the look-ahead of the reader) with the same result and ends
  related to the reference reader standing after them (`buf_step_pm`, `bitr_step_pm`).
-/
import Dsi.Lemmas.EndToEndBytes
import Dsi.Lemmas.EndToEndProgs
import Dsi.Lemmas.CodesAFrame
import Dsi.Lemmas.ReadsPM
namespace Dsi
namespace E2E

theorem ResRel.ok_right {α β : Type} {R : α → β → Prop} {x : Res α} {b : β}
    (h : ResRel R x (.ok b)) : ∃ a, x = .ok a ∧ R a b := h.of_ok_right

def SameCfg (w w' : RefW) : Prop := w'.e = w.e ∧ w'.W = w.W ∧ w'.checks = w.checks ∧ w'.cap = w.cap

theorem refw_put_same {w w' : RefW} {bs : List Bool} {k a : Nat} (h : w.put bs k = .ok (a, w')) :
    SameCfg w w' := by
  simp only [RefW.put] at h
  split at h
  · cases h; exact ⟨rfl, rfl, rfl, rfl⟩
  · cases h

theorem refw_steps : WImpl.Steps RefW.impl SameCfg where
  refl := fun _ => ⟨rfl, rfl, rfl, rfl⟩
  trans := fun h1 h2 =>
    ⟨h2.1.trans h1.1, h2.2.1.trans h1.2.1, h2.2.2.1.trans h1.2.2.1, h2.2.2.2.trans h1.2.2.2⟩
  writeBits := fun {s v n _ _} hr => by
    change RefW.writeBits s v n = _ at hr
    unfold RefW.writeBits at hr
    split at hr
    · cases hr
    · split at hr
      · cases hr
      · exact refw_put_same hr
  writeUnary := fun {s x _ _} hr => by
    change RefW.writeUnary s x = _ at hr
    unfold RefW.writeUnary at hr
    split at hr
    · cases hr
    · exact refw_put_same hr
  flush := fun hr => refw_put_same hr

theorem outBytes_length {W : Nat} (e : Endian) (s : BufW W) :
    (s.outBytes e).length = s.out.length * (W / 8) := by
  simp only [BufW.outBytes, List.length_flatMap, wordBytes_length, List.map_const',
    List.sum_replicate_nat]

theorem outBytes_lt {W : Nat} (e : Endian) (h8 : 8 ∣ W) (s : BufW W) : ∀ b ∈ s.outBytes e, b < 256 := by
  rw [outBytes_eq_layout e h8]
  exact e2e_layout_lt e _

theorem bits_of_outBytes {W : Nat} (e : Endian) (h8 : 8 ∣ W) (s : BufW W) :
    bitsOfBytes e (s.outBytes e) = s.out.flatMap (wordBits e) := by
  rw [outBytes_eq_layout e h8, e2e_bits_of_layout, length_flatMap_wordBits]
  obtain ⟨m, rfl⟩ := h8
  have : s.out.length * (8 * m) % 8 = 0 := by
    rw [Nat.mul_left_comm]; exact Nat.mul_mod_right _ _
  rw [this]
  simp

/-- padding added by `flush` on a writer of word size `W` holding `n` bits -/
def wpad (W n : Nat) : List Bool := List.replicate ((W - n % W) % W) false

theorem flush_image {W : Nat} (e : Endian) (h8 : 8 ∣ W) {s : BufW W} {r : RefW}
    (hrel : BufW.RelC e s r) (hcap : r.cap = none) :
    ∃ (k : Nat) (s' : BufW W), (BufW.impl e).flush s = .ok (k, s') ∧
      bitsOfBytes e (s'.outBytes e) = r.bits ++ wpad W r.bits.length := by
  have hsim := flush_sim hrel
  rw [RefW.flush, RefW.put_growable r hcap, RefW.pending, hrel.1.2.2.1] at hsim
  obtain ⟨⟨k, s'⟩, hflush, _, hrel2, _⟩ := hsim.of_ok_right
  have hbits : r.bits ++ wpad W r.bits.length = s'.abs e := hrel2.1.2.2.2.2.2
  refine ⟨k, s', hflush, ?_⟩
  rw [bits_of_outBytes e h8, hbits, BufW.abs, BufW.valid_eq,
    (BufW.flush_ok e hflush).2 hrel.1.1.2, BufW.validAt_full, List.append_nil]

/-- padding to a whole number of reader words, in bits -/
def rpad (Wr nbytes : Nat) : List Bool :=
  List.replicate (8 * ((Wr / 8 - nbytes % (Wr / 8)) % (Wr / 8))) false

theorem reader_stream (e : Endian) {Wr : Nat} (hW : 0 < Wr) (h8 : 8 ∣ Wr) (bytes : List Nat)
    (hb : ∀ b ∈ bytes, b < 256) :
    (wordsOfBytes e Wr bytes).flatMap (wordBits e) = bitsOfBytes e bytes ++ rpad Wr bytes.length := by
  have hB : 0 < Wr / 8 := Nat.div_pos (Nat.le_of_dvd hW h8) (by decide)
  rw [e2e_words_of_bytes_padded e h8 hW bytes hb, padTo_eq hB, bitsOfBytes_append, bitsOfBytes_zeros]
  rfl

theorem after_eq_at (e : Endian) (pre b1 b2 post : List Bool) (st : Bool) (pm : Nat) :
    RefR.after e pre b1 (b2 ++ post) st pm = RefR.at e (pre ++ b1) b2 post st pm := by
  simp [RefR.at, RefR.after, List.append_assoc]

def ref0 (e : Endian) (stream : List Bool) (strict : Bool) (pm : Nat) : RefR :=
  { e := e, stream := stream, pos := 0, strict := strict, peekMax := pm }

theorem ref0_skip (e : Endian) (strict : Bool) (pm : Nat) (pre bits post : List Bool) :
    (ref0 e (pre ++ bits ++ post) strict pm).avail pre.length = true ∧
    RefR.skipBits (ref0 e (pre ++ bits ++ post) strict pm) pre.length
      = .ok (RefR.at e pre bits post strict pm) := by
  have hav : (ref0 e (pre ++ bits ++ post) strict pm).avail pre.length = true := by
    simp only [RefR.avail, ref0, List.length_append, Nat.zero_add]
    cases strict <;> simp <;> omega
  refine ⟨hav, ?_⟩
  unfold RefR.skipBits
  rw [if_pos hav]
  simp [ref0, RefR.at]

theorem buf_start (e : Endian) {W : Nat} (hW : 0 < W) (data : List (BitVec W)) (strict : Bool)
    (pre bits post : List Bool) (hst : data.flatMap (wordBits e) = pre ++ bits ++ post) :
    ∃ s1, (BufR.impl e).skipBits (BufR.new ⟨data, 0, strict⟩) pre.length = .ok s1 ∧
      BufR.Rel e s1 (RefR.at e pre bits post strict W) := by
  have h0 : BufR.Rel e (BufR.new ⟨data, 0, strict⟩) (ref0 e (data.flatMap (wordBits e)) strict W) :=
    new_rel e hW data strict
  have hsim := skipBits_sim h0 pre.length
  rw [hst, (ref0_skip e strict W pre bits post).2] at hsim
  exact hsim.of_ok_right

theorem buf_step_pm {β : Type} {e : Endian} {W : Nat} (hW64 : e = .be → W ≤ 64) {s : BufR W}
    {pre bits post : List Bool} {strict : Bool}
    (h : BufR.Rel e s (RefR.at e pre bits post strict W)) {rp : RProg β} {v : β} {K : Nat}
    (hr : ReadsPM K rp e bits v) (hK : K ≤ W) (hpb : PeekBounded W 0 rp) :
    ∃ s', rp.run (BufR.impl e) s = .ok (v, s') ∧
      BufR.Rel e s' (RefR.after e pre bits post strict W) ∧
      s'.bitPos = pre.length + bits.length := by
  have hsim := rprog_sim hW64 rp hpb h
  rw [hr pre post strict W hK (Rel.pos_W h)] at hsim
  obtain ⟨⟨v', s'⟩, h1, rfl, hrel⟩ := hsim.of_ok_right
  exact ⟨s', h1, hrel, bitPos_eq hrel⟩

theorem bitr_start (e : Endian) (data : List (BitVec 64)) (strict : Bool)
    (pre bits post : List Bool) (hst : data.flatMap (wordBits e) = pre ++ bits ++ post) :
    ∃ s1, (BitR.impl e).skipBits { data := ⟨data, 0, strict⟩ } pre.length = .ok s1 ∧
      BitR.Rel' e s1 (RefR.at e pre bits post strict 32) := by
  have h0 : BitR.Rel' e { data := ⟨data, 0, strict⟩ } (ref0 e (data.flatMap (wordBits e)) strict 32) :=
    bitr_new_rel e data 0 strict
  rw [hst] at h0
  have hsim := bitr_skipBits h0 (ref0_skip e strict 32 pre bits post).1
  rw [(ref0_skip e strict 32 pre bits post).2] at hsim
  exact hsim.of_ok_right

theorem bitr_step_pm {β : Type} {e : Endian} {s : BitR} {pre bits post : List Bool} {strict : Bool}
    (h : BitR.Rel' e s (RefR.at e pre bits post strict 32)) {rp : RProg β} {v : β} {K : Nat}
    (hr : ReadsPM K rp e bits v) (hK : K ≤ 32) (hok : BitR.ProgOK 0 rp)
    (hskip : BitR.NoSkip rp ∨ strict = false) :
    ∃ s', rp.run (BitR.impl e) s = .ok (v, s') ∧
      BitR.Rel' e s' (RefR.after e pre bits post strict 32) ∧
      s'.bitPos = pre.length + bits.length := by
  have hne : BitR.NoEofSkip rp (RefR.at e pre bits post strict 32) :=
    hskip.elim (fun h1 => noEofSkip_of_noSkip rp h1 _) (fun h1 => noEofSkip_of_nonstrict rp _ h1)
  have hsim := bitr_rprog_sim rp hok h hne
  rw [hr pre post strict 32 hK (by decide)] at hsim
  obtain ⟨⟨v', s'⟩, h1, rfl, hrel⟩ := hsim.of_ok_right
  exact ⟨s', h1, hrel, bitr_bitPos hrel.1⟩

theorem run_rbits_ok {σ : Type} (I : RImpl σ) (n : Nat) (s s' : σ) (v : Nat)
    (h : (RProg.rbits n).run I s = .ok (v, s')) : I.readBits s n = .ok (v, s') := by
  rw [RProg.rbits, RProg.run_readBits] at h
  cases hx : I.readBits s n <;> rw [hx] at h <;> cases h
  rfl

theorem reads_rbits (e : Endian) {n : Nat} (hn : n ≤ 64) (v : Nat) :
    Reads (RProg.rbits n) e (fieldBits e v n) (v % 2 ^ n) :=
  (Reads.readBits (k := RProg.ret) (rest := []) hn (Reads.ret e _)).congr (List.append_nil _) rfl

end E2E
end Dsi
