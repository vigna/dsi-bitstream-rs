/-
  C05 — encoding and length tables: replaying a flush-free writer run on an arbitrary reference
  writer state (growable or fixed capacity), soundness of the checkers, `writeTable_eq`,
  `lenTable_eq`.
-/
import Dsi.Lemmas.TablesSound
namespace Dsi

def FlushFree {α} : WProg α → Prop
  | .ret _ => True
  | .panic => True
  | .dpanic => True
  | .writeBits _ _ k => ∀ r, FlushFree (k r)
  | .writeUnary _ k => ∀ r, FlushFree (k r)
  | .flush _ => False

@[simp] theorem FlushFree.ret_iff {α} (a : α) : FlushFree (WProg.ret a) ↔ True := Iff.rfl
@[simp] theorem FlushFree.panic_iff {α} : FlushFree (WProg.panic : WProg α) ↔ True := Iff.rfl
@[simp] theorem FlushFree.dpanic_iff {α} : FlushFree (WProg.dpanic : WProg α) ↔ True := Iff.rfl
@[simp] theorem FlushFree.writeBits_iff {α} (v n : Nat) (k : Nat → WProg α) :
    FlushFree (WProg.writeBits v n k) ↔ ∀ r, FlushFree (k r) := Iff.rfl
@[simp] theorem FlushFree.writeUnary_iff {α} (x : Nat) (k : Nat → WProg α) :
    FlushFree (WProg.writeUnary x k) ↔ ∀ r, FlushFree (k r) := Iff.rfl
theorem FlushFree.ite {α} {c : Prop} [Decidable c] {p q : WProg α} (hp : FlushFree p)
    (hq : FlushFree q) : FlushFree (if c then p else q) := by
  split <;> assumption

theorem FlushFree.bind {α β} {p : WProg α} {f : α → WProg β} (hp : FlushFree p)
    (hf : ∀ a, FlushFree (f a)) : FlushFree (p.bind f) := by
  induction p with
  | ret a => exact hf a
  | panic => trivial
  | dpanic => trivial
  | writeBits v n k ih => intro r; exact ih r (hp r)
  | writeUnary x k ih => intro r; exact ih r (hp r)
  | flush k _ => exact hp.elim

namespace Tables

theorem fits_mono (s : RefW) {a b : List Bool} (hab : a.length ≤ b.length)
    (h : s.fits b = true) : s.fits a = true := by
  unfold RefW.fits at h ⊢
  cases hc : s.cap with
  | none => rfl
  | some c =>
    simp only [hc, decide_eq_true_eq] at h ⊢
    exact Nat.le_trans (Nat.div_le_div_right hab) h

theorem put_eq (w : RefW) (bs : List Bool) (r : Nat) :
    w.put bs r = if w.fits (w.bits ++ bs) = true then .ok (r, { w with bits := w.bits ++ bs })
      else .err .eof := rfl

/-- A successful flush-free run on a growable writer (bits `sb`), replayed on a writer with the
    same endianness and `checks` flag, any word size and capacity, and bits `pre ++ sb`:
    the same bits `ext` are appended; the run succeeds with the same result if the final bits fit,
    and is `eof` if they do not (provided something was written). -/
theorem wrun_embed_aux {α} (p : WProg α) (hp : FlushFree p) (e : Endian) (W W' : Nat) (c : Bool)
    (cap : Option Nat) (pre : List Bool) :
    ∀ (sb : List Bool) (a : α) (s' : RefW),
      p.run RefW.impl ⟨e, W, c, none, sb⟩ = .ok (a, s') →
      ∃ ext, s' = ⟨e, W, c, none, sb ++ ext⟩ ∧
        (RefW.fits ⟨e, W', c, cap, []⟩ (pre ++ sb ++ ext) = true →
          p.run RefW.impl ⟨e, W', c, cap, pre ++ sb⟩ = .ok (a, ⟨e, W', c, cap, pre ++ sb ++ ext⟩)) ∧
        (RefW.fits ⟨e, W', c, cap, []⟩ (pre ++ sb ++ ext) = false → ext ≠ [] →
          p.run RefW.impl ⟨e, W', c, cap, pre ++ sb⟩ = .err .eof) := by
  have hfits : ∀ (bits x : List Bool), RefW.fits ⟨e, W', c, cap, bits⟩ x
      = RefW.fits ⟨e, W', c, cap, []⟩ x := fun _ _ => rfl
  -- one `put` step, shared by `writeBits` and `writeUnary`
  have step : ∀ (k : Nat → WProg α) (sb fld : List Bool) (n : Nat) (a : α) (s' : RefW),
      (∀ (sb : List Bool) (a : α) (s' : RefW),
        (k n).run RefW.impl ⟨e, W, c, none, sb⟩ = .ok (a, s') →
        ∃ ext, s' = ⟨e, W, c, none, sb ++ ext⟩ ∧
          (RefW.fits ⟨e, W', c, cap, []⟩ (pre ++ sb ++ ext) = true →
            (k n).run RefW.impl ⟨e, W', c, cap, pre ++ sb⟩ = .ok (a, ⟨e, W', c, cap, pre ++ sb ++ ext⟩)) ∧
          (RefW.fits ⟨e, W', c, cap, []⟩ (pre ++ sb ++ ext) = false → ext ≠ [] →
            (k n).run RefW.impl ⟨e, W', c, cap, pre ++ sb⟩ = .err .eof)) →
      (k n).run RefW.impl ⟨e, W, c, none, sb ++ fld⟩ = .ok (a, s') →
      ∃ ext, s' = ⟨e, W, c, none, sb ++ ext⟩ ∧
        (RefW.fits ⟨e, W', c, cap, []⟩ (pre ++ sb ++ ext) = true →
          (RefW.put ⟨e, W', c, cap, pre ++ sb⟩ fld n).bind (fun x => (k x.1).run RefW.impl x.2)
            = .ok (a, ⟨e, W', c, cap, pre ++ sb ++ ext⟩)) ∧
        (RefW.fits ⟨e, W', c, cap, []⟩ (pre ++ sb ++ ext) = false → ext ≠ [] →
          (RefW.put ⟨e, W', c, cap, pre ++ sb⟩ fld n).bind (fun x => (k x.1).run RefW.impl x.2)
            = .err .eof) := by
    intro k sb fld n a s' ih h
    obtain ⟨ext, h1, h2, h3⟩ := ih (sb ++ fld) a s' h
    refine ⟨fld ++ ext, by rw [h1, List.append_assoc], ?_, ?_⟩
    · intro hf
      have hf' : RefW.fits ⟨e, W', c, cap, []⟩ (pre ++ (sb ++ fld) ++ ext) = true := by
        rw [← hf]; congr 1; simp [List.append_assoc]
      have hmid : RefW.fits ⟨e, W', c, cap, []⟩ (pre ++ sb ++ fld) = true :=
        fits_mono _ (by simp only [List.length_append]; omega) hf
      rw [put_eq]
      simp only [hfits, hmid, if_true, Res.bind]
      have := h2 hf'
      simp only [List.append_assoc] at this ⊢
      exact this
    · intro hf hne
      rw [put_eq]
      simp only [hfits]
      by_cases hmid : RefW.fits ⟨e, W', c, cap, []⟩ (pre ++ sb ++ fld) = true
      · simp only [hmid, if_true, Res.bind]
        have hf' : RefW.fits ⟨e, W', c, cap, []⟩ (pre ++ (sb ++ fld) ++ ext) = false := by
          rw [← hf]; congr 1; simp [List.append_assoc]
        have hext : ext ≠ [] := by
          intro hnil
          subst hnil
          simp only [List.append_nil] at hf
          rw [hmid] at hf
          cases hf
        have := h3 hf' hext
        simp only [List.append_assoc] at this ⊢
        exact this
      · simp only [hmid]
        rfl
  induction p with
  | ret a =>
    intro sb a' s' h
    simp only [WProg.run, Res.ok.injEq, Prod.mk.injEq] at h
    refine ⟨[], by simp [← h.2], ?_, ?_⟩
    · intro _; simp [WProg.run, h.1]
    · intro _ hne; exact absurd rfl hne
  | panic => intro sb a s' h; simp [WProg.run] at h
  | dpanic => intro sb a s' h; simp [WProg.run] at h
  | writeBits v n k ih =>
    intro sb a s' h
    simp only [WProg.run_writeBits, RefW.impl_writeBits, RefW.writeBits] at h ⊢
    by_cases hn : n > 64
    · simp [hn, Res.bind] at h
    · rw [if_neg hn] at h
      simp only [if_neg hn]
      by_cases hck : (c && decide (v % 2 ^ 64 ≥ 2 ^ n)) = true
      · simp [hck, Res.bind] at h
      · rw [if_neg hck] at h
        simp only [if_neg hck]
        have hput : RefW.put ⟨e, W, c, none, sb⟩ (fieldBits e v n) n
            = .ok (n, ⟨e, W, c, none, sb ++ fieldBits e v n⟩) := rfl
        rw [hput] at h
        simp only [Res.bind] at h
        exact step k sb (fieldBits e v n) n a s' (ih n (hp n)) h
  | writeUnary x k ih =>
    intro sb a s' h
    simp only [WProg.run_writeUnary, RefW.impl_writeUnary, RefW.writeUnary] at h ⊢
    by_cases hx : x ≥ 2 ^ 64 - 1
    · simp [hx, Res.bind] at h
    · rw [if_neg hx] at h
      simp only [if_neg hx]
      have hput : RefW.put ⟨e, W, c, none, sb⟩ (unaryBits x) (x + 1)
          = .ok (x + 1, ⟨e, W, c, none, sb ++ unaryBits x⟩) := rfl
      rw [hput] at h
      simp only [Res.bind] at h
      exact step k sb (unaryBits x) (x + 1) a s' (ih (x + 1) (hp (x + 1))) h
  | flush k _ => exact hp.elim

end Tables

/-- **Embedding for writers.**  If a flush-free program, run on the empty growable writer, appends
    `bs ≠ []` and returns `a`, then on every reference writer with the same endianness and
    `checks` flag it appends `bs` and returns `a` when the result fits the backend, and fails
    with `eof` otherwise. -/
theorem wrun_embed {α} (p : WProg α) (hp : FlushFree p) (e : Endian) (c : Bool) (a : α)
    (bs : List Bool) (hbs : bs ≠ [])
    (h : p.run RefW.impl (Tables.emptyW e c) = .ok (a, { Tables.emptyW e c with bits := bs }))
    (w : RefW) (he : w.e = e) (hc : w.checks = c) :
    p.run RefW.impl w = if w.fits (w.bits ++ bs) = true then .ok (a, { w with bits := w.bits ++ bs })
      else .err .eof := by
  obtain ⟨we, wW, wc, wcap, wbits⟩ := w
  simp only at he hc
  subst he; subst hc
  obtain ⟨ext, h1, h2, h3⟩ :=
    Tables.wrun_embed_aux p hp we 64 wW wc wcap wbits [] a _ h
  have hext : ext = bs := by
    simp only [Tables.emptyW, List.nil_append, RefW.mk.injEq, true_and] at h1
    exact h1.symm
  subst hext
  simp only [List.append_nil] at h2 h3
  by_cases hf : RefW.fits ⟨we, wW, wc, wcap, wbits⟩ (wbits ++ ext) = true
  · rw [if_pos hf]; exact h2 hf
  · rw [if_neg hf]
    exact h3 (Bool.eq_false_iff.2 hf) hbs

namespace Tables

structure WriteOK (e : Endian) (dflt : Nat → WProg Nat) (t : WTab) : Prop where
  size_lt : t.vals.size < 2 ^ 64
  entries : ∀ n, n < t.vals.size → ∃ bits len, t.vals[n]? = some bits ∧ t.lens[n]? = some len ∧
    chkWriteEntry e dflt n bits len = true

theorem chkWriteChunk_eq_walk (e : Endian) (dflt : Nat → WProg Nat) :
    ∀ i bs ls, chkWriteChunk e dflt i bs ls = walk (chkWriteEntry e dflt) i bs ls
  | _, [], [] => rfl
  | i, b :: bs, l :: ls => by rw [chkWriteChunk, walk, chkWriteChunk_eq_walk e dflt _ bs ls]
  | _, [], _ :: _ => rfl
  | _, _ :: _, [] => rfl

theorem chkWriteChunks_eq_walks (e : Endian) (dflt : Nat → WProg Nat) (wmax : Nat) :
    ∀ i bcs lcs, chkWriteChunks e dflt wmax i bcs lcs
      = walks (chkWriteEntry e dflt) (· == wmax + 1) i bcs lcs
  | _, [], [] => rfl
  | i, bc :: bcs, lc :: lcs => by
    rw [chkWriteChunks, walks, chkWriteChunk_eq_walk, chkWriteChunks_eq_walks e dflt wmax _ bcs lcs]
  | _, [], _ :: _ => rfl
  | _, _ :: _, [] => rfl

theorem writeOK_of_chk {e : Endian} {dflt : Nat → WProg Nat} {wmax : Nat} {vcs lcs : List (List Nat)}
    (h : chkWriteTable e dflt wmax vcs lcs = true) :
    WriteOK e dflt ⟨vcs.flatten.toArray, lcs.flatten.toArray⟩ := by
  simp only [chkWriteTable, chkWriteChunks_eq_walks, Bool.and_eq_true, decide_eq_true_eq] at h
  have ⟨htot, _, hent⟩ := walks_sound vcs lcs 0 h.2
  replace htot : 0 + vcs.flatten.length = wmax + 1 := by simpa using htot
  refine ⟨by simp only [List.size_toArray]; omega, ?_⟩
  intro n hn
  simp only [List.size_toArray] at hn
  obtain ⟨v, l, h1, h2, h3⟩ := hent n hn
  refine ⟨v, l, by simpa using h1, by simpa using h2, ?_⟩
  simpa using h3

theorem chkWriteTable_sizes {e : Endian} {dflt : Nat → WProg Nat} {wmax : Nat}
    {vcs lcs : List (List Nat)} (h : chkWriteTable e dflt wmax vcs lcs = true) :
    vcs.flatten.toArray.size = wmax + 1 ∧ lcs.flatten.toArray.size = wmax + 1 := by
  simp only [chkWriteTable, chkWriteChunks_eq_walks, Bool.and_eq_true, decide_eq_true_eq] at h
  have ⟨htot, hl, _⟩ := walks_sound vcs lcs 0 h.2
  replace htot : 0 + vcs.flatten.length = wmax + 1 := by simpa using htot
  simp only [List.size_toArray]
  omega

theorem chkWriteEntry_run {e : Endian} {dflt : Nat → WProg Nat} {n bits len : Nat}
    (hff : FlushFree (dflt n)) (h : chkWriteEntry e dflt n bits len = true) :
    (dflt n).run RefW.impl (emptyW e false)
      = .ok (len, { emptyW e false with bits := fieldBits e bits len }) ∧
    1 ≤ len ∧ len ≤ 64 ∧ bits < 2 ^ len := by
  unfold chkWriteEntry at h
  split at h
  · rename_i r w heq
    simp only [Bool.and_eq_true, beq_iff_eq, decide_eq_true_eq] at h
    obtain ⟨⟨⟨⟨h1, h2⟩, h3⟩, h4⟩, h5⟩ := h
    refine ⟨?_, h3, h4, h5⟩
    -- source and target writer both `W = 64`, `checks` off, growable, empty (`pre = sb = []`)
    obtain ⟨ext, hw, _, _⟩ := wrun_embed_aux (dflt n) hff e 64 64 false none [] [] r w heq
    rw [heq, h1, hw]
    rw [hw] at h2
    simp only [List.nil_append] at h2
    simp [emptyW, h2]
  · cases h

end Tables

/-- fallbacks with the same outcome give table writers with the same outcome (in the table the
    fallback is not run, outside it is all that runs) -/
theorem writeTable_congr (t : WTab) (n : Nat) (fb fb' : WProg Nat) (w : RefW)
    (h : fb.run RefW.impl w = fb'.run RefW.impl w) :
    (writeTable t n fb).run RefW.impl w = (writeTable t n fb').run RefW.impl w := by
  unfold writeTable
  cases t.vals[n]? with
  | none => exact h
  | some b =>
    cases t.lens[n]? with
    | none => rfl
    | some l => rfl

/-- **Table encoding = bit-by-bit encoding**, generic in the table.  `dflt0` is the program the
    table was checked against (`checks` off); `dflt` is the fallback actually used, under the
    `checks` flag `c`; both are known (from the code theorems, C04) to append the same codeword on
    a growable writer.  Then on *every* reference writer state with flag `c` (growable or fixed
    capacity, any contents) the table-driven writer and the fallback have the same outcome. -/
theorem writeTable_eq {e : Endian} {dflt0 : Nat → WProg Nat} {t : WTab}
    (hok : Tables.WriteOK e dflt0 t) (c : Bool) (dflt : WProg Nat) (n : Nat)
    (hff0 : FlushFree (dflt0 n)) (hff : FlushFree dflt)
    (spec : n < 2 ^ 64 - 1 → ∃ bs, Writes (dflt0 n) e false bs ∧ Writes dflt e c bs)
    (w : RefW) (he : w.e = e) (hc : w.checks = c) :
    (writeTable t n dflt).run RefW.impl w = dflt.run RefW.impl w := by
  by_cases hn : n < t.vals.size
  · obtain ⟨bits, len, hv, hl, hchk⟩ := hok.entries n hn
    obtain ⟨hrun0, h1, h64, hclean⟩ := Tables.chkWriteEntry_run hff0 hchk
    obtain ⟨bs, hw0, hwc⟩ := spec (by have := hok.size_lt; omega)
    -- the codeword is the table entry
    have h0 := hw0 (Tables.emptyW e false) rfl rfl rfl
    rw [hrun0] at h0
    simp only [Tables.emptyW, List.nil_append, Res.ok.injEq, Prod.mk.injEq, RefW.mk.injEq,
      true_and] at h0
    obtain ⟨hlen, hbs⟩ := h0
    have hne : fieldBits e bits len ≠ [] := by
      intro hnil
      have := congrArg List.length hnil
      simp at this; omega
    have hrunc : dflt.run RefW.impl (Tables.emptyW e c)
        = .ok (len, { Tables.emptyW e c with bits := fieldBits e bits len }) := by
      have := hwc (Tables.emptyW e c) rfl rfl rfl
      rw [this, ← hlen, ← hbs]
      simp [Tables.emptyW]
    rw [wrun_embed dflt hff e c len _ hne hrunc w he hc]
    unfold writeTable
    rw [hv, hl]
    simp only [WProg.run, RefW.impl_writeBits, RefW.writeBits]
    rw [if_neg (by omega)]
    have hmod : bits % 2 ^ 64 < 2 ^ len := Nat.lt_of_le_of_lt (Nat.mod_le _ _) hclean
    rw [if_neg (by simp; intro _; exact hmod)]
    rw [Tables.put_eq, he]
    by_cases hf : w.fits (w.bits ++ fieldBits e bits len) = true
    · simp [hf]
    · simp [hf]
  · unfold writeTable
    rw [Array.getElem?_eq_none (Nat.le_of_not_lt hn)]

namespace Tables

theorem chkLenChunk_sound {dflt : Nat → Nat} :
    ∀ (ls : List Nat) (start : Nat), chkLenChunk dflt start ls = true →
      ∀ i l, ls[i]? = some l → l = dflt (start + i) := by
  intro ls
  induction ls with
  | nil => intro start _ i l h; simp at h
  | cons x xs ih =>
    intro start h i l hl
    simp only [chkLenChunk, chkLenEntry, Bool.and_eq_true, beq_iff_eq] at h
    cases i with
    | zero => simp at hl; rw [← hl]; exact h.1
    | succ i =>
      have := ih (start + 1) h.2 i l (by simpa using hl)
      rw [this]; congr 1; omega

theorem chkLenChunks_sound {dflt : Nat → Nat} {wmax : Nat} :
    ∀ (cs : List (List Nat)) (start : Nat), chkLenChunks dflt wmax start cs = true →
      start + cs.flatten.length = wmax + 1 ∧
      ∀ i l, cs.flatten[i]? = some l → l = dflt (start + i) := by
  intro cs
  induction cs with
  | nil =>
    intro start h
    simp only [chkLenChunks, beq_iff_eq] at h
    exact ⟨by simpa using h, fun i l hl => by simp at hl⟩
  | cons c cs ih =>
    intro start h
    simp only [chkLenChunks, Bool.and_eq_true] at h
    have hc := chkLenChunk_sound c start h.1
    have ⟨htot, hrest⟩ := ih (start + c.length) h.2
    refine ⟨by simp only [List.flatten_cons, List.length_append]; omega, ?_⟩
    intro i l hl
    simp only [List.flatten_cons] at hl
    by_cases hic : i < c.length
    · rw [List.getElem?_append_left hic] at hl
      exact hc i l hl
    · have hic' : c.length ≤ i := Nat.le_of_not_lt hic
      rw [List.getElem?_append_right hic'] at hl
      have := hrest (i - c.length) l hl
      rw [this]; congr 1; omega

end Tables

/-- **Length table = length function**, generic in the table: every entry of a checked length
    table is the value of the function at its index. -/
theorem lenTable_eq {dflt : Nat → Nat} {wmax : Nat} {cs : List (List Nat)}
    (h : chkLenTable dflt wmax cs = true) (n l : Nat)
    (hl : cs.flatten.toArray[n]? = some l) : l = dflt n := by
  have ⟨_, hent⟩ := Tables.chkLenChunks_sound cs 0 h
  have := hent n l (by simpa using hl)
  simpa using this

theorem lenTable_size {dflt : Nat → Nat} {wmax : Nat} {cs : List (List Nat)}
    (h : chkLenTable dflt wmax cs = true) : cs.flatten.toArray.size = wmax + 1 := by
  have ⟨htot, _⟩ := Tables.chkLenChunks_sound cs 0 h
  simp only [List.size_toArray]; omega

end Dsi
