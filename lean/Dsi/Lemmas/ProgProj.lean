/-
  Wrappers that keep the state of the wrapped implementation as a part `π s` of their own and
  forward every operation to it: a run through the wrapper, projected by `π`, is the run on the
  wrapped implementation.  This is `run_sim` for the relation "`π s = t`".
-/
import Dsi.Lemmas.ProgSim
namespace Dsi

namespace ResRel
variable {α β : Type}

theorem map_self {R : β → α → Prop} {f : α → β} (x : Res α) (h : ∀ a, R (f a) a) :
    ResRel R (x.map f) x := by
  cases x <;> first | exact h _ | rfl | trivial

theorem map_eq {f : α → β} {x : Res α} {y : Res β} (h : ResRel (fun a b => f a = b) x y) :
    x.map f = y := by
  cases x <;> cases y <;> first | exact congrArg _ h | rfl | exact h.elim

end ResRel

variable {σ τ α : Type} {π : σ → τ}

theorem WProg.run_proj {I : WImpl σ} {J : WImpl τ} (h : WImpl.Sim I J fun s t => π s = t)
    (p : WProg α) (s : σ) : (p.run I s).map (fun x => (x.1, π x.2)) = p.run J (π s) :=
  ((p.run_sim h rfl).mono fun _ _ hab => Prod.ext hab.1 hab.2).map_eq

theorem RProg.run_proj {I : RImpl σ} {J : RImpl τ} (h : RImpl.Sim I J fun s t => π s = t)
    (p : RProg α) (s : σ) : (p.run I s).map (fun x => (x.1, π x.2)) = p.run J (π s) :=
  ((p.run_sim h (RProg.Peeks.any p) rfl).mono fun _ _ hab => Prod.ext hab.1 hab.2).map_eq

end Dsi
