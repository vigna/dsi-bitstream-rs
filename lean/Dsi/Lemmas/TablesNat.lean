/-
  C05 — the reference reader and writer on numbers.  A table entry is checked by running the
  bit-by-bit program on the reference machine (`chkReadEntry`, `chkWriteEntry`); on `List Bool`
  that costs the kernel some ten thousand steps an entry.  Here the same programs run on machines
  whose stream is a `Nat` (reads: shifts and masks of the index; writes: an accumulator), each
  simulating its list counterpart, and the entries of a decoding table that carry the same
  codeword are decoded once.  The checks below imply the ones of `TablesCheck` and are what the
  kernel evaluates.
-/
import Dsi.Lemmas.TablesWrite
import Dsi.Lemmas.WriterBits
namespace Dsi
namespace Tables

/-- growable reference writer without `checks` whose bits are the `n` low bits of `acc` -/
structure NatW where
  acc : Nat
  n : Nat

namespace NatW

def put (e : Endian) (s : NatW) (v k r : Nat) : Res (Nat × NatW) :=
  .ok (r, match e with
    | .be => ⟨s.acc * 2 ^ k + v, s.n + k⟩
    | .le => ⟨s.acc + v * 2 ^ s.n, s.n + k⟩)

def impl (e : Endian) : WImpl NatW where
  writeBits s v k := if k > 64 then .dpanic else s.put e (v % 2 ^ k) k k
  writeUnary s x := if x ≥ 2 ^ 64 - 1 then .dpanic else
    s.put e (match e with | .be => 1 | .le => 2 ^ x) (x + 1) (x + 1)
  flush s := s.put e 0 ((64 - s.n % 64) % 64) (s.n % 64)

def Rel (e : Endian) (s : NatW) (w : RefW) : Prop :=
  w.e = e ∧ w.W = 64 ∧ w.checks = false ∧ w.cap = none ∧
    w.bits = fieldBits e s.acc s.n ∧ s.acc < 2 ^ s.n

theorem put_sim {e : Endian} {s : NatW} {w : RefW} (h : Rel e s w) {v k : Nat} (hv : v < 2 ^ k)
    (r : Nat) : ResRel (SimPost (Rel e)) (s.put e v k r) (w.put (fieldBits e v k) r) := by
  obtain ⟨acc, n⟩ := s
  obtain ⟨he, hW, hc, hcap, hb, hacc⟩ := h
  simp only at hb hacc
  have hk : 0 < 2 ^ k := Nat.two_pow_pos k
  have hn : 0 < 2 ^ n := Nat.two_pow_pos n
  rw [RefW.put_growable w hcap, hb]
  cases e with
  | be =>
    refine ⟨rfl, he, hW, hc, hcap, ?_, ?_⟩
    · show fieldBits .be acc n ++ fieldBits .be v k = fieldBits .be (acc * 2 ^ k + v) (n + k)
      rw [fieldBE_cut (acc * 2 ^ k + v) (Nat.le_add_left k n), Nat.add_sub_cancel,
        Nat.add_comm _ v, Nat.add_mul_div_right v _ hk, Nat.div_eq_of_lt hv, Nat.zero_add,
        ← fieldBits_mod .be (v + acc * 2 ^ k) (Nat.le_refl k), Nat.add_mul_mod_self_right,
        Nat.mod_eq_of_lt hv]
    · -- `acc·2^k + v < (acc+1)·2^k ≤ 2^n·2^k`
      show acc * 2 ^ k + v < 2 ^ (n + k)
      rw [Nat.pow_add]
      exact Nat.lt_of_lt_of_le (by rw [Nat.succ_mul]; omega) (Nat.mul_le_mul_right _ hacc)
  | le =>
    refine ⟨rfl, he, hW, hc, hcap, ?_, ?_⟩
    · show fieldLE acc n ++ fieldLE v k = fieldLE (acc + v * 2 ^ n) (n + k)
      rw [fieldLE_cut (acc + v * 2 ^ n) (Nat.le_add_right n k), Nat.add_sub_cancel_left,
        Nat.add_mul_div_right acc _ hn, Nat.div_eq_of_lt hacc, Nat.zero_add,
        ← fieldLE_mod (acc + v * 2 ^ n), Nat.add_mul_mod_self_right, Nat.mod_eq_of_lt hacc]
    · show acc + v * 2 ^ n < 2 ^ (n + k)
      rw [Nat.pow_add, Nat.mul_comm (2 ^ n)]
      exact Nat.lt_of_lt_of_le (by rw [Nat.succ_mul]; omega) (Nat.mul_le_mul_right _ hv)

theorem sim (e : Endian) : WImpl.Sim (impl e) RefW.impl (Rel e) where
  writeBits {s w} h v k := by
    show ResRel _ (if k > 64 then _ else _) (RefW.writeBits w v k)
    unfold RefW.writeBits
    by_cases hk : k > 64
    · rw [if_pos hk, if_pos hk]; trivial
    · rw [if_neg hk, if_neg hk, h.2.2.1, if_neg (by simp), h.1,
        ← fieldBits_mod e v (Nat.le_refl k)]
      exact put_sim h (Nat.mod_lt _ (Nat.two_pow_pos k)) k
  writeUnary {s w} h x := by
    show ResRel _ (if x ≥ 2 ^ 64 - 1 then _ else _) (RefW.writeUnary w x)
    unfold RefW.writeUnary
    by_cases hx : x ≥ 2 ^ 64 - 1
    · rw [if_pos hx, if_pos hx]; trivial
    · rw [if_neg hx, if_neg hx]
      cases e with
      | be => rw [unaryBits_eq_be]; exact put_sim h (Nat.one_lt_two_pow (Nat.succ_ne_zero x)) _
      | le =>
        rw [unaryBits_eq_le]
        exact put_sim h (Nat.pow_lt_pow_right (by decide) (Nat.lt_succ_self x)) _
  flush {s w} h := by
    show ResRel _ _ (RefW.flush w)
    unfold RefW.flush RefW.pending
    simp only [h.2.1, h.2.2.2.2.1, fieldBits_length, replicate_false_eq e]
    exact put_sim h (Nat.two_pow_pos _) _

end NatW

def chkWriteEntryN (e : Endian) (dflt : Nat → WProg Nat) (v bits len : Nat) : Bool :=
  match (dflt v).run (NatW.impl e) ⟨0, 0⟩ with
  | .ok (r, s) => r == len && s.n == len && s.acc == bits && decide (1 ≤ len) && decide (len ≤ 64)
  | _ => false

theorem chkWriteEntry_of_nat {e : Endian} {dflt : Nat → WProg Nat} {v bits len : Nat}
    (h : chkWriteEntryN e dflt v bits len = true) : chkWriteEntry e dflt v bits len = true := by
  have hsim := (dflt v).run_sim (NatW.sim e)
    (show NatW.Rel e ⟨0, 0⟩ (emptyW e false) from
      ⟨rfl, rfl, rfl, rfl, by cases e <;> rfl, Nat.one_pos⟩)
  unfold chkWriteEntryN at h
  unfold chkWriteEntry
  split at h
  · rename_i r s hrun
    rw [hrun] at hsim
    obtain ⟨⟨r', w⟩, hw, hr, _, _, _, _, hb, hlt⟩ := hsim.of_ok_left
    simp only [Bool.and_eq_true, beq_iff_eq, decide_eq_true_eq] at h
    obtain ⟨⟨⟨⟨h1, h2⟩, h3⟩, h4⟩, h5⟩ := h
    simp only at hr hb hlt
    rw [h2, h3] at hb hlt
    rw [hw]
    simp [← hr, h1, hb, h4, h5, hlt]
  · cases h

/-- strict reference reader over the `len`-bit stream `fieldBits e bits len`, at position `pos` -/
structure NatR where
  e : Endian
  bits : Nat
  len : Nat
  pos : Nat

/-- number of zeros before the first one among the `m` low bits of `w`, from bit 0 up -/
def zerosLE (w : Nat) : Nat → Option Nat
  | 0 => none
  | m + 1 => if w % 2 = 1 then some 0 else (zerosLE (w / 2) m).map (· + 1)

/-- the same from bit `m - 1` down -/
def zerosBE (w : Nat) : Nat → Option Nat
  | 0 => none
  | m + 1 => if w / 2 ^ m % 2 = 1 then some 0 else (zerosBE w m).map (· + 1)

namespace NatR

def advance (s : NatR) (k : Nat) : NatR := { s with pos := s.pos + k }

def value (s : NatR) (k : Nat) : Nat :=
  match s.e with
  | .be => s.bits / 2 ^ (s.len - s.pos - k) % 2 ^ k
  | .le => s.bits / 2 ^ s.pos % 2 ^ k

def zeros (s : NatR) : Option Nat :=
  match s.e with
  | .be => zerosBE s.bits (s.len - s.pos)
  | .le => zerosLE (s.bits / 2 ^ s.pos) (s.len - s.pos)

/-- the programs the tables are checked against are peek-free: no look-ahead is modelled -/
def impl : RImpl NatR where
  readBits s k := if k > 64 then .dpanic else
    if s.pos + k ≤ s.len then .ok (s.value k, s.advance k) else .err .eof
  peekBits _ _ := .dpanic
  skipAfterPeek s k := s.advance k
  skipBits s k := if s.pos + k ≤ s.len then .ok (s.advance k) else .err .eof
  readUnary s := match s.zeros with
    | some z => .ok (z, s.advance (z + 1))
    | none => .err .eof

def Rel (s : NatR) (r : RefR) : Prop :=
  r.e = s.e ∧ r.strict = true ∧ r.stream = fieldBits s.e s.bits s.len ∧ r.pos = s.pos

theorem Rel.advance {s : NatR} {r : RefR} (h : Rel s r) (k : Nat) :
    Rel (s.advance k) { r with pos := r.pos + k } :=
  ⟨h.1, h.2.1, h.2.2.1, congrArg (· + k) h.2.2.2⟩

theorem Rel.avail {s : NatR} {r : RefR} (h : Rel s r) (k : Nat) :
    r.avail k = decide (s.pos + k ≤ s.len) := by
  unfold RefR.avail
  rw [h.2.1, h.2.2.1, h.2.2.2, fieldBits_length]
  rfl

/-- the unread bits: BE the `len - pos` low bits, LE the bits from `pos` up -/
theorem Rel.rest {s : NatR} {r : RefR} (h : Rel s r) (hp : s.pos ≤ s.len) :
    r.rest = match s.e with
      | .be => fieldBits .be s.bits (s.len - s.pos)
      | .le => fieldLE (s.bits / 2 ^ s.pos) (s.len - s.pos) := by
  unfold RefR.rest
  rw [h.2.2.1, h.2.2.2]
  cases s.e with
  | be =>
    simp only
    rw [fieldBE_cut s.bits (Nat.sub_le s.len s.pos), List.drop_left' (by simp; omega)]
  | le =>
    simp only [fieldBits]
    rw [fieldLE_cut s.bits hp, List.drop_left' (by simp)]

theorem firstOne_fieldLE (w m : Nat) : RefR.firstOne (fieldLE w m) = zerosLE w m := by
  induction m generalizing w with
  | zero => rfl
  | succ m ih =>
    rw [fieldLE, zerosLE]
    by_cases hw : w % 2 = 1
    · rw [if_pos hw, hw]; rfl
    · rw [if_neg hw, show (w % 2 == 1) = false by simpa using hw, RefR.firstOne, ih]

theorem firstOne_fieldBE (w m : Nat) : RefR.firstOne (fieldBits .be w m) = zerosBE w m := by
  induction m with
  | zero => rfl
  | succ m ih =>
    rw [fieldBE_cut w (Nat.le_succ m), Nat.succ_sub (Nat.le_refl m), Nat.sub_self]
    rw [show fieldBits .be (w / 2 ^ m) 1 = [w / 2 ^ m % 2 == 1] from rfl, zerosBE]
    by_cases hw : w / 2 ^ m % 2 = 1
    · rw [if_pos hw, hw]; rfl
    · rw [if_neg hw, show (w / 2 ^ m % 2 == 1) = false by simpa using hw]
      exact congrArg _ ih

theorem Rel.firstOne {s : NatR} {r : RefR} (h : Rel s r) (hp : s.pos ≤ s.len) :
    RefR.firstOne r.rest = s.zeros := by
  rw [h.rest hp]
  unfold zeros
  cases s.e
  · exact firstOne_fieldBE _ _
  · exact firstOne_fieldLE _ _

theorem Rel.value {s : NatR} {r : RefR} (h : Rel s r) {k : Nat} (hk : s.pos + k ≤ s.len) :
    bitsVal r.e (takeZ k r.rest) = s.value k := by
  rw [h.rest (by omega), h.1]
  unfold NatR.value
  cases s.e with
  | be =>
    simp only
    rw [fieldBE_cut s.bits (show s.len - s.pos - k ≤ s.len - s.pos from Nat.sub_le _ _),
      show s.len - s.pos - (s.len - s.pos - k) = k by omega,
      takeZ_append_left _ _ k (fieldBits_length _ _ _), bitsVal_fieldBits]
  | le =>
    simp only
    rw [fieldLE_cut _ (show k ≤ s.len - s.pos by omega),
      takeZ_append_left _ _ k (fieldLE_length _ _)]
    exact bitsVal_fieldBits .le _ _

theorem sim : RImpl.Sim impl RefR.impl Rel (fun _ => False) where
  readBits {s r} h k := by
    show ResRel _ (if k > 64 then _ else _) (RefR.readBits r k)
    unfold RefR.readBits
    by_cases hk : k > 64
    · rw [if_pos hk, if_pos hk]; trivial
    · rw [if_neg hk, if_neg hk, h.avail k]
      by_cases ha : s.pos + k ≤ s.len
      · rw [if_pos ha, if_pos (decide_eq_true ha)]
        exact ⟨(h.value ha).symm, h.advance k⟩
      · rw [if_neg ha, if_neg (by simpa using ha)]; rfl
  peekBits _ _ hn := hn.elim
  skipAfterPeek h k := h.advance k
  skipBits {s r} h k := by
    show ResRel _ (if _ then _ else _) (RefR.skipBits r k)
    unfold RefR.skipBits
    rw [h.avail k]
    by_cases ha : s.pos + k ≤ s.len
    · rw [if_pos ha, if_pos (decide_eq_true ha)]; exact h.advance k
    · rw [if_neg ha, if_neg (by simpa using ha)]; rfl
  readUnary {s r} h := by
    show ResRel _ (match s.zeros with | some z => _ | none => _) (RefR.readUnary r)
    unfold RefR.readUnary
    by_cases hp : s.pos ≤ s.len
    · rw [h.firstOne hp]
      cases s.zeros with
      | some z => exact ⟨rfl, h.advance (z + 1)⟩
      | none => rw [h.2.1]; rfl
    · -- beyond the end both see an empty rest
      have hz : s.zeros = none := by
        unfold zeros
        rw [Nat.sub_eq_zero_of_le (by omega)]
        cases s.e <;> rfl
      have hr : r.rest = [] := by
        unfold RefR.rest
        rw [h.2.2.1, h.2.2.2]
        exact List.drop_eq_nil_of_le (by simp; omega)
      rw [hz, hr, h.2.1]; rfl

end NatR

theorem PeekFree.peeks {α} {p : RProg α} (hp : PeekFree p) : p.Peeks fun _ => False := by
  induction p with
  | readBits n k ih => exact fun v => ih v (hp v)
  | readUnary k ih => exact fun v => ih v (hp v)
  | peek n k _ => exact hp.elim
  | skipAfterPeek n k _ => exact hp.elim
  | skip n k ih => exact ih hp
  | _ => trivial

def chkReadEntryN (e : Endian) (dflt : RProg Nat) (rb missing idx val len : Nat) : Bool :=
  match dflt.run NatR.impl ⟨e, idx, rb, 0⟩ with
  | .ok (v, s) => len == missing || (val == v && len == s.pos)
  | .err _ => len == missing
  | _ => false

theorem chkReadEntry_eq_nat {e : Endian} {dflt : RProg Nat} (hpf : PeekFree dflt)
    (rb missing idx val len : Nat) :
    chkReadEntry e dflt rb missing idx val len = chkReadEntryN e dflt rb missing idx val len := by
  have hsim := dflt.run_sim NatR.sim (PeekFree.peeks hpf)
    (show NatR.Rel ⟨e, idx, rb, 0⟩ (idxReader e idx rb) from ⟨rfl, rfl, rfl, rfl⟩)
  unfold chkReadEntry chkReadEntryN
  generalize dflt.run NatR.impl _ = x at hsim
  generalize dflt.run RefR.impl _ = y at hsim
  rcases x with ⟨v, s⟩ | _ | _ | _ <;> rcases y with ⟨w, r⟩ | _ | _ | _ <;>
    first | exact hsim.elim | skip
  · obtain ⟨hv, hr⟩ := hsim
    have hp : r.pos = s.pos := hr.2.2.2
    cases hv
    simp only [hp]
  · rfl
  · rfl
  · rfl

/-! ## one decoding per codeword

  A hit decodes its own first `len` index bits, and a decoder's outcome depends only on the bits it
  consumes (`run_embed`).  So an entry that shows the value and length of another entry whose index
  starts with the same `len` bits needs no decoding of its own: in a BE table the previous entry,
  in an LE table the entry with the top index bit cleared. -/

/-- the first `l` bits, in stream order, of the `rb`-bit index `idx`, as a number -/
def cw (e : Endian) (rb idx l : Nat) : Nat :=
  match e with
  | .be => idx / 2 ^ (rb - l)
  | .le => idx % 2 ^ l

theorem takeZ_index {e : Endian} {rb l : Nat} (hl : l ≤ rb) (idx : Nat) :
    takeZ l (fieldBits e idx rb) = fieldBits e (cw e rb idx l) l := by
  cases e with
  | be =>
    rw [fieldBE_cut idx (Nat.sub_le rb l), show rb - (rb - l) = l by omega]
    exact takeZ_append_left _ _ l (fieldBits_length _ _ _)
  | le =>
    show takeZ l (fieldLE idx rb) = fieldLE (idx % 2 ^ l) l
    rw [fieldLE_cut idx hl, fieldLE_mod]
    exact takeZ_append_left _ _ l (fieldLE_length _ _)

/-- the decoder, given exactly the `l`-bit codeword `c`, returns `v` and consumes all of it -/
def chkHit (e : Endian) (dflt : RProg Nat) (c v l : Nat) : Bool :=
  match dflt.run NatR.impl ⟨e, c, l, 0⟩ with
  | .ok (v', s) => v' == v && s.pos == l
  | _ => false

theorem chkReadEntry_of_hit {e : Endian} {dflt : RProg Nat} (hpf : PeekFree dflt)
    {rb missing idx v l : Nat} (hl : l ≤ rb) (h : chkHit e dflt (cw e rb idx l) v l = true) :
    chkReadEntry e dflt rb missing idx v l = true := by
  have hsim := dflt.run_sim NatR.sim (PeekFree.peeks hpf)
    (show NatR.Rel ⟨e, cw e rb idx l, l, 0⟩ ⟨e, fieldBits e (cw e rb idx l) l, 0, true, 64⟩ from
      ⟨rfl, rfl, rfl, rfl⟩)
  unfold chkHit at h
  split at h
  · rename_i v' s hrun
    rw [hrun] at hsim
    obtain ⟨⟨w, r'⟩, hr, hw, hrel⟩ := hsim.of_ok_left
    simp only [Bool.and_eq_true, beq_iff_eq] at h
    simp only at hw
    have hpos : r'.pos = l := hrel.2.2.2.trans h.2
    have := run_embed dflt hpf e _ 64 w r' hr (idxReader e idx rb) rfl
      (by rw [fieldBits_length]; exact takeZ_index hl idx)
      (by simp [RefR.avail, idxReader, hl])
    unfold chkReadEntry
    rw [this]
    simp [idxReader, hpos, ← hw, h.1]
  · cases h

/-- the decoding an entry gets when nothing is shared: a miss is decoded on the whole index
    (it must not panic), a hit on its own first `l` bits -/
def chkReadEntryS (e : Endian) (dflt : RProg Nat) (rb missing idx v l : Nat) : Bool :=
  if l = missing then chkReadEntryN e dflt rb missing idx v l
  else decide (l ≤ rb) && chkHit e dflt (cw e rb idx l) v l

theorem chkReadEntry_of_S {e : Endian} {dflt : RProg Nat} (hpf : PeekFree dflt)
    {rb missing idx v l : Nat} (h : chkReadEntryS e dflt rb missing idx v l = true) :
    chkReadEntry e dflt rb missing idx v l = true := by
  unfold chkReadEntryS at h
  split at h
  · exact (chkReadEntry_eq_nat hpf rb missing idx v l).trans h
  · rw [Bool.and_eq_true, decide_eq_true_eq] at h
    exact chkReadEntry_of_hit hpf h.1 h.2

theorem chkReadEntryS_congr {e : Endian} {dflt : RProg Nat} {rb missing i j v l : Nat}
    (hm : l ≠ missing) (hc : cw e rb j l = cw e rb i l)
    (h : chkReadEntryS e dflt rb missing j v l = true) :
    chkReadEntryS e dflt rb missing i v l = true := by
  unfold chkReadEntryS at h ⊢
  rw [if_neg hm] at h ⊢
  rwa [hc] at h

def entries (vcs lcs : List (List Nat)) : List (Nat × Nat) := vcs.flatten.zip lcs.flatten

theorem walk_of_zip {f : Nat → Nat → Nat → Bool} :
    ∀ (i : Nat) (vs ls : List Nat), vs.length = ls.length →
      (∀ j v l, (vs.zip ls)[j]? = some (v, l) → f (i + j) v l = true) → walk f i vs ls = true
  | _, [], [], _, _ => rfl
  | i, v :: vs, l :: ls, hlen, h => by
    rw [walk, Bool.and_eq_true]
    refine ⟨h 0 v l rfl, walk_of_zip (i + 1) vs ls (Nat.succ.inj hlen) fun j v' l' hj => ?_⟩
    rw [Nat.add_assoc, Nat.add_comm 1 j]
    exact h (j + 1) v' l' hj
  | _, [], _ :: _, hlen, _ => by cases hlen
  | _, _ :: _, [], hlen, _ => by cases hlen

theorem walks_of_entries {f : Nat → Nat → Nat → Bool} {fin : Nat → Bool} :
    ∀ (i : Nat) (vcs lcs : List (List Nat)), vcs.map List.length = lcs.map List.length →
      fin (i + vcs.flatten.length) = true →
      (∀ j v l, (entries vcs lcs)[j]? = some (v, l) → f (i + j) v l = true) →
      walks f fin i vcs lcs = true
  | i, [], [], _, hfin, _ => hfin
  | i, vc :: vcs, lc :: lcs, hsh, hfin, h => by
    simp only [List.map_cons, List.cons.injEq] at hsh
    have hz : entries (vc :: vcs) (lc :: lcs) = vc.zip lc ++ entries vcs lcs := by
      simp only [entries, List.flatten_cons]
      exact List.zip_append hsh.1
    rw [walks, Bool.and_eq_true]
    refine ⟨walk_of_zip i vc lc hsh.1 fun j v l hj => h j v l ?_,
      walks_of_entries _ vcs lcs hsh.2 ?_ fun j v l hj => ?_⟩
    · rw [hz, List.getElem?_append_left (List.getElem?_eq_some_iff.1 hj).1]; exact hj
    · rwa [List.flatten_cons, List.length_append, ← Nat.add_assoc] at hfin
    · rw [Nat.add_assoc]
      refine h (vc.length + j) v l ?_
      rw [hz, List.getElem?_append_right (by simp [List.length_zip, hsh.1]),
        List.length_zip, ← hsh.1, Nat.min_self, Nat.add_sub_cancel_left]
      exact hj
  | _, [], _ :: _, hsh, _, _ => by cases hsh
  | _, _ :: _, [], hsh, _, _ => by cases hsh

/-- BE: entry `i` may take the verdict of entry `i - 1` -/
def seqBE (dec : Nat → Nat → Nat → Bool) (same : Nat → Nat → Bool) :
    Option (Nat × Nat) → Nat → List (Nat × Nat) → Bool
  | _, _, [] => true
  | none, i, a :: t => dec i a.1 a.2 && seqBE dec same (some a) (i + 1) t
  | some b, i, a :: t =>
    ((b.1 == a.1 && b.2 == a.2 && same i a.2) || dec i a.1 a.2) &&
      seqBE dec same (some a) (i + 1) t

theorem seqBE_sound {dec : Nat → Nat → Nat → Bool} {same : Nat → Nat → Bool}
    (hs : ∀ i v l, same i l = true → dec (i - 1) v l = true → dec i v l = true) :
    ∀ (t : List (Nat × Nat)) (prev : Option (Nat × Nat)) (i : Nat),
      (∀ a, prev = some a → dec (i - 1) a.1 a.2 = true) → seqBE dec same prev i t = true →
      ∀ j v l, t[j]? = some (v, l) → dec (i + j) v l = true
  | [], _, _, _, _, j, _, _, hj => by cases hj
  | a :: t, prev, i, hp, h, j, v, l, hj => by
    have ha : dec i a.1 a.2 = true ∧ seqBE dec same (some a) (i + 1) t = true := by
      cases prev with
      | none => rwa [seqBE, Bool.and_eq_true] at h
      | some b =>
        simp only [seqBE, Bool.and_eq_true, Bool.or_eq_true, beq_iff_eq] at h
        refine ⟨h.1.elim (fun hc => hs i _ _ hc.2 ?_) id, h.2⟩
        rw [← hc.1.1, ← hc.1.2]
        exact hp b rfl
    obtain ⟨ha, h⟩ := ha
    cases j with
    | zero => cases hj; exact ha
    | succ j =>
      rw [Nat.add_comm j 1, ← Nat.add_assoc]
      exact seqBE_sound hs t (some a) (i + 1) (fun b hb => by cases hb; exact ha) h j v l hj

/-- LE: entry `i` with `2^k ≤ i < 2^(k+1)` may take the verdict of entry `i - 2^k`, which is the
    head of `shadow`; at `i = 2^(k+1)` the shadow starts over from the whole table `full` -/
def seqLE (dec : Nat → Nat → Nat → Bool) (same : Nat → Nat → Bool) (full : List (Nat × Nat)) :
    List (Nat × Nat) → Nat → Nat → List (Nat × Nat) → Bool
  | _, _, _, [] => true
  | shadow, k, i, a :: t =>
    match (if i = 2 ^ (k + 1) then (full, k + 1) else (shadow, k)) with
    | (b :: shadow', k') =>
      ((b.1 == a.1 && b.2 == a.2 && same k' a.2) || dec i a.1 a.2) &&
        seqLE dec same full shadow' k' (i + 1) t
    | ([], _) => false

theorem seqLE_sound {dec : Nat → Nat → Nat → Bool} {same : Nat → Nat → Bool}
    {full : List (Nat × Nat)}
    (hs : ∀ k i v l, same k l = true → 2 ^ k ≤ i → i < 2 ^ (k + 1) →
      dec (i - 2 ^ k) v l = true → dec i v l = true) :
    ∀ (t shadow : List (Nat × Nat)) (k i : Nat), 2 ^ k ≤ i → i ≤ 2 ^ (k + 1) →
      shadow = full.drop (i - 2 ^ k) → t = full.drop i →
      (∀ j v l, j < i → full[j]? = some (v, l) → dec j v l = true) →
      seqLE dec same full shadow k i t = true →
      ∀ j v l, full[j]? = some (v, l) → dec j v l = true
  | [], _, _, i, _, _, _, ht, hdone, _, j, v, l, hj => by
    refine hdone j v l ?_ hj
    have := List.drop_eq_nil_iff.1 ht.symm
    exact Nat.lt_of_lt_of_le (List.getElem?_eq_some_iff.1 hj).1 this
  | a :: t, shadow, k, i, hlo, hhi, hsh, ht, hdone, h, j, v, l, hj => by
    -- the shadow after a possible restart, and its position
    obtain ⟨k', hk', hlo', hhi', hsh'⟩ : ∃ k', (if i = 2 ^ (k + 1) then (full, k + 1) else (shadow, k))
        = ((if i = 2 ^ (k + 1) then full else shadow), k') ∧ 2 ^ k' ≤ i ∧ i < 2 ^ (k' + 1) ∧
        (if i = 2 ^ (k + 1) then full else shadow) = full.drop (i - 2 ^ k') := by
      by_cases hi : i = 2 ^ (k + 1)
      · refine ⟨k + 1, by rw [if_pos hi, if_pos hi], Nat.le_of_eq hi.symm, ?_, ?_⟩
        · rw [hi]; exact Nat.pow_lt_pow_right (by decide) (Nat.lt_succ_self _)
        · rw [if_pos hi, hi, Nat.sub_self, List.drop_zero]
      · exact ⟨k, by rw [if_neg hi, if_neg hi], hlo, Nat.lt_of_le_of_ne hhi hi,
          by rw [if_neg hi]; exact hsh⟩
    generalize (if i = 2 ^ (k + 1) then full else shadow) = S at hk' hsh'
    rw [seqLE, hk'] at h
    have hai : full[i]? = some a := by
      rw [← List.head?_drop, ← ht]; rfl
    split at h
    · rename_i b shadow' k'' heq
      obtain ⟨rfl, rfl⟩ := Prod.mk.inj heq
      simp only [Bool.and_eq_true, Bool.or_eq_true, beq_iff_eq] at h
      have hbi : full[i - 2 ^ k']? = some b := by
        rw [← List.head?_drop, ← hsh']; rfl
      have hk0 : 0 < 2 ^ k' := Nat.two_pow_pos k'
      have ha : dec i a.1 a.2 = true := h.1.elim
        (fun hc => hs k' i _ _ hc.2 hlo' hhi'
          (hc.1.1 ▸ hc.1.2 ▸ hdone _ b.1 b.2 (by omega) hbi)) id
      refine seqLE_sound hs t shadow' k' (i + 1) (by omega) hhi' ?_ ?_ ?_ h.2 j v l hj
      · have := congrArg List.tail hsh'
        rw [List.tail_cons, List.tail_drop] at this
        rw [this]; congr 1; omega
      · have := congrArg List.tail ht
        rwa [List.tail_cons, List.tail_drop] at this
      · intro j' v' l' hj' hf
        by_cases hji : j' = i
        · subst hji; rw [hai] at hf; cases hf; exact ha
        · exact hdone j' v' l' (by omega) hf
    · cases h

/-- BE: a hit whose first `l` index bits are those of the previous index -/
def sameBE (rb missing i l : Nat) : Bool :=
  l != missing && (i - 1) / 2 ^ (rb - l) == i / 2 ^ (rb - l)

/-- LE: a hit that ends below index bit `k` -/
def sameLE (missing k l : Nat) : Bool := l != missing && decide (l ≤ k)

/-- the decoding-table check the kernel evaluates: both arrays chunked alike, `2^rb` entries,
    every entry decoded on the number machine or sharing the verdict of an earlier one -/
def chkReadTableS (e : Endian) (dflt : RProg Nat) (rb missing : Nat)
    (vals lens : List (List Nat)) : Bool :=
  decide (1 ≤ rb) && (vals.map List.length == lens.map List.length) &&
    (vals.flatten.length == 2 ^ rb) &&
    match e, entries vals lens with
    | .be, t => seqBE (chkReadEntryS .be dflt rb missing) (sameBE rb missing) none 0 t
    | .le, a :: t => chkReadEntryS .le dflt rb missing 0 a.1 a.2 &&
        seqLE (chkReadEntryS .le dflt rb missing) (sameLE missing) (a :: t) (a :: t) 0 1 t
    | .le, [] => false

theorem chkReadTable_of_shared {e : Endian} {dflt : RProg Nat} (hpf : PeekFree dflt)
    {rb missing : Nat} {vals lens : List (List Nat)}
    (h : chkReadTableS e dflt rb missing vals lens = true) :
    chkReadTable e dflt rb missing vals lens = true := by
  unfold chkReadTableS at h
  simp only [Bool.and_eq_true, beq_iff_eq, decide_eq_true_eq] at h
  obtain ⟨⟨⟨hrb, hshape⟩, hsize⟩, h⟩ := h
  rw [chkReadTable, decide_eq_true hrb, chkReadChunks_eq_walks, Bool.true_and]
  refine walks_of_entries 0 vals lens hshape (by simp [hsize]) fun j v l hj =>
    chkReadEntry_of_S hpf ?_
  rw [Nat.zero_add]
  cases e with
  | be =>
    refine Nat.zero_add j ▸ seqBE_sound (fun i v l hs => ?_) _ none 0 (fun _ hp => by cases hp) h j v l hj
    simp only [sameBE, Bool.and_eq_true, bne_iff_ne, beq_iff_eq] at hs
    exact chkReadEntryS_congr hs.1 hs.2
  | le =>
    generalize entries vals lens = full at h hj
    cases full with
    | nil => cases h
    | cons a t =>
      simp only [Bool.and_eq_true] at h
      refine seqLE_sound (fun k i v l hs hlo _ => ?_) t (a :: t) 0 1 (Nat.le_refl 1)
        (by decide) rfl rfl (fun j' v' l' hj' hf => ?_) h.2 j v l hj
      · -- `2^l` divides `2^k`, so taking `2^k` off keeps the low `l` bits
        simp only [sameLE, Bool.and_eq_true, bne_iff_ne, decide_eq_true_eq] at hs
        refine chkReadEntryS_congr hs.1 ?_
        show (i - 2 ^ k) % 2 ^ l = i % 2 ^ l
        have hk : 2 ^ k = 2 ^ l * 2 ^ (k - l) := by rw [← Nat.pow_add]; congr 1; omega
        rw [hk] at hlo ⊢
        exact Nat.sub_mul_mod hlo
      · obtain rfl : j' = 0 := by omega
        cases hf; exact h.1

theorem chkWriteTable_of_nat {e : Endian} {dflt : Nat → WProg Nat} {wmax : Nat}
    {vals lens : List (List Nat)}
    (h : (decide (wmax + 1 < 2 ^ 64) &&
      walks (chkWriteEntryN e dflt) (· == wmax + 1) 0 vals lens) = true) :
    chkWriteTable e dflt wmax vals lens = true := by
  rw [Bool.and_eq_true] at h
  rw [chkWriteTable, h.1, chkWriteChunks_eq_walks, walks_mono
    (fun _ _ _ => chkWriteEntry_of_nat) 0 vals lens h.2]; rfl

end Tables
end Dsi
