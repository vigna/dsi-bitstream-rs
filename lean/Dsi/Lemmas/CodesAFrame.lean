/-
  Framing: the compositional lemmas for the judgements `Reads` / `Writes` of `Frame` (an L2
  program decodes / encodes a given bit string on the L1 reference reader / writer), and
  `WritesV`, which is `Writes` with an arbitrary result.
-/
import Dsi.Lemmas.CodesABits
import Dsi.Lemmas.ProgSim
import Dsi.Lemmas.Frame
namespace Dsi

def WritesV {α} (p : WProg α) (e : Endian) (checks : Bool) (bits : List Bool) (a : α) : Prop :=
  ∀ w : RefW, w.e = e → w.cap = none → w.checks = checks →
    p.run RefW.impl w = .ok (a, { w with bits := w.bits ++ bits })

theorem writes_iff {p : WProg Nat} {e checks bits} :
    Writes p e checks bits ↔ WritesV p e checks bits bits.length := Iff.rfl

theorem RefR.at_rest (e pre bits post st pm) : (RefR.at e pre bits post st pm).rest = bits ++ post := by
  simp [RefR.at, RefR.rest]

theorem RefR.at_avail (e pre) (a rest post : List Bool) (st pm) :
    (RefR.at e pre (a ++ rest) post st pm).avail a.length = true := by
  simp only [RefR.at, RefR.avail, List.length_append]
  cases st <;> simp
  omega

theorem RefR.at_advance (e pre) (a rest post : List Bool) (st pm) :
    { RefR.at e pre (a ++ rest) post st pm with pos := (RefR.at e pre (a ++ rest) post st pm).pos + a.length }
      = RefR.at e (pre ++ a) rest post st pm := by
  simp [RefR.at, List.append_assoc]

theorem RefR.after_shift (e pre) (a rest post : List Bool) (st pm) :
    RefR.after e (pre ++ a) rest post st pm = RefR.after e pre (a ++ rest) post st pm := by
  simp [RefR.after, List.append_assoc, Nat.add_assoc]

theorem RefR.after_nil (e pre post st pm) : RefR.after e pre [] post st pm = RefR.at e pre [] post st pm := by
  simp [RefR.after, RefR.at]

theorem RefR.readBits_at (e pre) (a rest post : List Bool) (st pm) (n : Nat) (hn : n ≤ 64)
    (ha : a.length = n) :
    RefR.readBits (RefR.at e pre (a ++ rest) post st pm) n
      = .ok (bitsVal e a, RefR.at e (pre ++ a) rest post st pm) := by
  subst ha
  have hav := RefR.at_avail e pre a rest post st pm
  have hadv := RefR.at_advance e pre a rest post st pm
  unfold RefR.readBits
  rw [if_neg (by omega), if_pos hav, hadv, RefR.at_rest, List.append_assoc,
    takeZ_append_left _ _ _ rfl]
  rfl

theorem RefR.peekBits_at (e pre) (a rest post : List Bool) (st pm) (n : Nat) (hn0 : n ≠ 0)
    (hn : n ≤ pm) (ha : a.length = n) :
    RefR.peekBits (RefR.at e pre (a ++ rest) post st pm) n
      = .ok (bitsVal e a, RefR.at e pre (a ++ rest) post st pm) := by
  subst ha
  have hav := RefR.at_avail e pre a rest post st pm
  unfold RefR.peekBits
  have hpm : (RefR.at e pre (a ++ rest) post st pm).peekMax = pm := rfl
  rw [if_neg (by rw [hpm]; omega), if_pos hav, RefR.at_rest, List.append_assoc,
    takeZ_append_left _ _ _ rfl]
  rfl

theorem RefR.skipAfterPeek_at (e pre) (a rest post : List Bool) (st pm) :
    RefR.skipAfterPeek (RefR.at e pre (a ++ rest) post st pm) a.length
      = RefR.at e (pre ++ a) rest post st pm :=
  RefR.at_advance e pre a rest post st pm

theorem RefR.readUnary_at (e pre) (x : Nat) (rest post : List Bool) (st pm) :
    RefR.readUnary (RefR.at e pre (unaryBits x ++ rest) post st pm)
      = .ok (x, RefR.at e (pre ++ unaryBits x) rest post st pm) := by
  have hadv := RefR.at_advance e pre (unaryBits x) rest post st pm
  unfold RefR.readUnary
  rw [RefR.at_rest, List.append_assoc, firstOne_unary]
  simp only [unaryBits_length, ← Nat.add_assoc] at hadv
  simp only [hadv]

@[simp] theorem RefR.impl_readBits : RefR.impl.readBits = RefR.readBits := rfl
@[simp] theorem RefR.impl_peekBits : RefR.impl.peekBits = RefR.peekBits := rfl
@[simp] theorem RefR.impl_skipAfterPeek : RefR.impl.skipAfterPeek = RefR.skipAfterPeek := rfl
@[simp] theorem RefR.impl_skipBits : RefR.impl.skipBits = RefR.skipBits := rfl
@[simp] theorem RefR.impl_readUnary : RefR.impl.readUnary = RefR.readUnary := rfl
@[simp] theorem RefW.impl_writeBits : RefW.impl.writeBits = RefW.writeBits := rfl
@[simp] theorem RefW.impl_writeUnary : RefW.impl.writeUnary = RefW.writeUnary := rfl
@[simp] theorem RefW.impl_flush : RefW.impl.flush = RefW.flush := rfl

theorem Reads.ret {α} (e : Endian) (a : α) : Reads (RProg.ret a) e [] a := by
  intro pre post st pm _
  simp [RProg.run, RefR.after_nil]

theorem Reads.readBits_chunk {α} {e : Endian} {n : Nat} {k : Nat → RProg α} {a rest : List Bool} {c : α}
    (hn : n ≤ 64) (ha : a.length = n) (h : Reads (k (bitsVal e a)) e rest c) :
    Reads (.readBits n k) e (a ++ rest) c := by
  intro pre post st pm hpm
  simp only [RProg.run, RefR.impl_readBits]
  rw [RefR.readBits_at e pre _ rest post st pm n hn ha]
  simp only
  rw [h _ post st pm hpm, RefR.after_shift]

theorem Reads.readBits {α} {e : Endian} {n v : Nat} {k : Nat → RProg α} {rest : List Bool} {c : α}
    (hn : n ≤ 64) (h : Reads (k (v % 2 ^ n)) e rest c) :
    Reads (.readBits n k) e (fieldBits e v n ++ rest) c :=
  Reads.readBits_chunk hn (fieldBits_length e v n) (by rwa [bitsVal_fieldBits])

theorem Reads.readUnary {α} {e : Endian} {x : Nat} {k : Nat → RProg α} {rest : List Bool} {c : α}
    (h : Reads (k x) e rest c) :
    Reads (.readUnary k) e (unaryBits x ++ rest) c := by
  intro pre post st pm hpm
  simp only [RProg.run, RefR.impl_readUnary]
  rw [RefR.readUnary_at]
  simp only
  rw [h _ post st pm hpm, RefR.after_shift]

theorem Reads.peek1 {α} {e : Endian} {b : Bool} {k : Except Err Nat → RProg α} {tl : List Bool} {c : α}
    (h : Reads (k (.ok (if b then 1 else 0))) e (b :: tl) c) :
    Reads (.peek 1 k) e (b :: tl) c := by
  intro pre post st pm hpm
  simp only [RProg.run, RefR.impl_peekBits]
  have := RefR.peekBits_at e pre [b] tl post st pm 1 (by decide) hpm rfl
  simp only [List.singleton_append] at this
  rw [this]
  have hv : bitsVal e [b] = if b then 1 else 0 := by cases e <;> cases b <;> rfl
  simp only [hv]
  exact h pre post st pm hpm

theorem Reads.skipAfterPeek1 {α} {e : Endian} {b : Bool} {k : RProg α} {tl : List Bool} {c : α}
    (h : Reads k e tl c) :
    Reads (.skipAfterPeek 1 k) e (b :: tl) c := by
  intro pre post st pm hpm
  simp only [RProg.run, RefR.impl_skipAfterPeek]
  have := RefR.skipAfterPeek_at e pre [b] tl post st pm
  simp only [List.singleton_append, List.length_singleton] at this
  rw [this, h _ post st pm hpm]
  have := RefR.after_shift e pre [b] tl post st pm
  simpa using this

theorem Reads.bind {α β} {e : Endian} {p : RProg α} {k : α → RProg β} {b1 b2 : List Bool} {a : α} {c : β}
    (h1 : Reads p e b1 a) (h2 : Reads (k a) e b2 c) : Reads (p.bind k) e (b1 ++ b2) c := by
  intro pre post st pm hpm
  have e1 : RefR.at e pre (b1 ++ b2) post st pm = RefR.at e pre b1 (b2 ++ post) st pm := by
    simp [RefR.at, List.append_assoc]
  have e2 : RefR.after e pre b1 (b2 ++ post) st pm = RefR.at e (pre ++ b1) b2 post st pm := by
    simp [RefR.at, RefR.after, List.append_assoc]
  rw [RProg.run_bind, e1, h1 pre (b2 ++ post) st pm hpm]
  simp only [Res.bind]
  rw [e2, h2 _ post st pm hpm, RefR.after_shift]

theorem Reads.congr {α} {e : Endian} {p : RProg α} {b b' : List Bool} {a a' : α}
    (h : Reads p e b a) (hb : b = b') (ha : a = a') : Reads p e b' a' := by
  subst hb; subst ha; exact h

theorem WritesV.ret {α} (e : Endian) (checks : Bool) (a : α) : WritesV (WProg.ret a) e checks [] a := by
  intro w _ _ _
  simp [WProg.run]

theorem RefW.put_growable (w : RefW) (hc : w.cap = none) (bs : List Bool) (r : Nat) :
    w.put bs r = .ok (r, { w with bits := w.bits ++ bs }) := by
  simp [RefW.put, RefW.fits, hc]

theorem RefW.writeBits_clean (w : RefW) (v n : Nat) (hn : n ≤ 64)
    (hv : w.checks = false ∨ v % 2 ^ 64 < 2 ^ n) :
    RefW.writeBits w v n = w.put (fieldBits w.e v n) n := by
  unfold RefW.writeBits
  rw [if_neg (Nat.not_lt.2 hn), if_neg]
  rcases hv with h | h
  · rw [h]; exact Bool.false_ne_true
  · rw [Bool.and_eq_true, decide_eq_true_eq]; exact fun h' => absurd h (Nat.not_lt.2 h'.2)

theorem WritesV.writeBits {α} {e : Endian} {checks : Bool} {v n : Nat} {k : Nat → WProg α}
    {rest : List Bool} {a : α} (hn : n ≤ 64) (hv : checks = false ∨ v % 2 ^ 64 < 2 ^ n)
    (h : WritesV (k n) e checks rest a) :
    WritesV (.writeBits v n k) e checks (fieldBits e v n ++ rest) a := by
  intro w he hc hk
  subst he hk
  rw [WProg.run_writeBits, RefW.impl_writeBits, RefW.writeBits_clean w v n hn hv,
    RefW.put_growable w hc]
  have := h { w with bits := w.bits ++ fieldBits w.e v n } rfl hc rfl
  rw [List.append_assoc] at this
  exact this

theorem WritesV.writeUnary {α} {e : Endian} {checks : Bool} {x : Nat} {k : Nat → WProg α}
    {rest : List Bool} {a : α} (hx : x < 2 ^ 64 - 1)
    (h : WritesV (k (x + 1)) e checks rest a) :
    WritesV (.writeUnary x k) e checks (unaryBits x ++ rest) a := by
  intro w he hc hk
  rw [WProg.run_writeUnary, RefW.impl_writeUnary, RefW.writeUnary, if_neg (Nat.not_le.2 hx),
    RefW.put_growable w hc]
  have := h { w with bits := w.bits ++ unaryBits x } he hc hk
  rw [List.append_assoc] at this
  exact this

theorem WritesV.bind {α β} {e : Endian} {checks : Bool} {p : WProg α} {k : α → WProg β}
    {b1 b2 : List Bool} {a : α} {c : β}
    (h1 : WritesV p e checks b1 a) (h2 : WritesV (k a) e checks b2 c) :
    WritesV (p.bind k) e checks (b1 ++ b2) c := by
  intro w he hc hk
  rw [WProg.run_bind, h1 w he hc hk]
  simp only [Res.bind]
  rw [h2 { w with bits := w.bits ++ b1 } he hc hk]
  simp [List.append_assoc]

theorem WritesV.congr {α} {e : Endian} {checks : Bool} {p : WProg α} {b b' : List Bool} {a a' : α}
    (h : WritesV p e checks b a) (hb : b = b') (ha : a = a') : WritesV p e checks b' a' := by
  subst hb; subst ha; exact h

theorem Writes.toV {p : WProg Nat} {e checks bits} (h : Writes p e checks bits) :
    WritesV p e checks bits bits.length := h

theorem Writes.ofV {p : WProg Nat} {e checks bits} {r : Nat} (h : WritesV p e checks bits r)
    (hr : r = bits.length) : Writes p e checks bits := by
  subst hr; exact h

theorem Writes.wbits {e : Endian} {checks : Bool} {v n : Nat} (hn : n ≤ 64)
    (hv : checks = false ∨ v % 2 ^ 64 < 2 ^ n) :
    Writes (.writeBits v n .ret) e checks (fieldBits e v n) := by
  have := WritesV.writeBits (k := WProg.ret) hn hv (WritesV.ret e checks n)
  exact Writes.ofV (this.congr (List.append_nil _) rfl) (by simp)

theorem Writes.wunary {e : Endian} {checks : Bool} {x : Nat} (hx : x < 2 ^ 64 - 1) :
    Writes (.writeUnary x .ret) e checks (unaryBits x) := by
  have := WritesV.writeUnary (k := WProg.ret) hx (WritesV.ret e checks (x + 1))
  exact Writes.ofV (this.congr (List.append_nil _) rfl) (by simp)

theorem Writes.bind_add {e : Endian} {checks : Bool} {p : WProg Nat} {q : WProg Nat}
    {b1 b2 : List Bool} (h1 : Writes p e checks b1) (h2 : Writes q e checks b2) :
    Writes (p.bind fun a => q.bind fun b => .ret (a + b)) e checks (b1 ++ b2) := by
  have h3 : WritesV (q.bind fun b => WProg.ret (b1.length + b)) e checks (b2 ++ []) (b1.length + b2.length) :=
    WritesV.bind h2.toV (WritesV.ret e checks _)
  have := WritesV.bind (k := fun a => q.bind fun b => .ret (a + b)) h1.toV h3
  exact Writes.ofV (this.congr (by simp) rfl) (by simp)

end Dsi
