/-
  The code readers as generated from src/codes/*.rs, assembled per code like the hand-written `ownRead`, and
  * `genOwnRead_guarded`: the hand-written reader is the generated one with (debug-)panic points
    inserted (`Guarded`);
  * `genOwnRead_peekLe` : the generated reader peeks at most `tablePeek` (= 12) bits.
-/
import Dsi.Lemmas.HeadlineRunR
import Dsi.Props.TableFnsGen
import Dsi.Props.OmegaGen
import Dsi.Props.VByteGen
import Dsi.Props.Equiv
namespace Dsi
namespace Headline
open Gen CodeBodiesGen TableFnsGen
variable {W : Nat}

def genOwnRead (e : Endian) (c : CodeId) : RProg Nat :=
  match c.fam with
  | .unary => .readUnary .ret
  | .gamma => readGammaParam e Params.readGammaTable
  | .delta => readDeltaParam e Params.readDeltaTable Params.readDeltaGammaTable
  | .omega => Gen.read_omega e
  | .vbyteBe => Gen.read_vbyte_be vbFuel
  | .vbyteLe => Gen.read_vbyte_le vbFuel
  | .zeta => readZetaParam e c.p
  | .pi => Gen.read_pi c.p
  | .golomb => Gen.read_golomb c.p
  | .expGolomb => Gen.read_exp_golomb (readGammaParam e Params.readGammaTable) c.p
  | .rice => Gen.read_rice c.p

/-- exp-Golomb over the *generated* γ reader -/
theorem read_exp_golomb_param_guarded (e : Endian) (t : Bool) (k : Nat) :
    Guarded (readExpGolomb (opt t (gammaRTab e)) k) (Gen.read_exp_golomb (readGammaParam e t) k) := by
  unfold readExpGolomb Gen.read_exp_golomb
  split
  · exact Guarded.dpanic _
  · refine Guarded.bind (read_gamma_param_guarded e t) fun g => Guarded.readBits k fun v _ => ?_
    split
    · exact Guarded.dpanic _
    · rename_i h
      have hu : g * 2 ^ k < 2 ^ 64 := by omega
      rw [Nat.shiftLeft_eq, Nat.mod_eq_of_lt hu]
      exact Guarded.refl _

theorem genOwnRead_guarded (e : Endian) (c : CodeId) : Guarded (ownRead e c) (genOwnRead e c) := by
  obtain ⟨fam, p⟩ := c
  cases fam
  case unary => exact Guarded.refl _
  case gamma => exact read_gamma_param_guarded e Params.readGammaTable
  case delta => exact read_delta_param_guarded e Params.readDeltaTable Params.readDeltaGammaTable
  case omega => exact OmegaGen.read_omega_guarded e
  case vbyteBe => exact VByteGen.read_vbyte_be_guarded _
  case vbyteLe => exact VByteGen.read_vbyte_le_guarded _
  case zeta => exact read_zeta_param_guarded e p
  case pi => exact read_pi_guarded p
  case golomb => exact read_golomb_guarded p
  case expGolomb => exact read_exp_golomb_param_guarded e _ p
  case rice => exact read_rice_guarded p

theorem peekLe_default_read_gamma : PeekLe W Gen.default_read_gamma := fun _ _ => trivial

theorem peekLe_read_rice (k : Nat) : PeekLe W (Gen.read_rice k) := fun _ _ => trivial

theorem peekLe_read_pi (k : Nat) : PeekLe W (Gen.read_pi k) :=
  PeekLe.bind (peekLe_read_rice k) fun _ _ => trivial

/-- (the shape of `read_minimal_binary`, with the u64 arithmetic abstracted: unfolding it makes
    the kernel evaluate `2 ^ 64`-sized terms) -/
theorem peekLe_mb_shape (l limit : Nat) (f : Nat → Nat → Nat) :
    PeekLe W (RProg.readBits l fun p =>
      if p < limit then RProg.ret p else RProg.readBits 1 fun r1 => RProg.ret (f p r1)) := by
  intro v
  show PeekLe W (if v < limit then _ else _)
  split
  · exact True.intro
  · exact fun _ => True.intro

theorem peekLe_read_minimal_binary (max : Nat) : PeekLe W (Gen.read_minimal_binary max) :=
  peekLe_mb_shape _ _ _

theorem peekLe_read_golomb (b : Nat) : PeekLe W (Gen.read_golomb b) :=
  fun _ => PeekLe.bind (peekLe_read_minimal_binary b) fun _ => trivial

theorem peekLe_read_exp_golomb {rg : RProg Nat} (h : PeekLe W rg) (k : Nat) :
    PeekLe W (Gen.read_exp_golomb rg k) :=
  PeekLe.bind h fun _ _ => trivial

theorem peekLe_default_read_zeta (k : Nat) : PeekLe W (Gen.default_read_zeta k) :=
  fun _ => PeekLe.bind (peekLe_read_minimal_binary _) fun _ => trivial

theorem peekLe_read_omega_loop (e : Endian) (hW : 1 ≤ W) (fuel : Nat) :
    ∀ n, PeekLe W (Gen.read_omega_loop1 fuel e n) := by
  induction fuel with
  | zero => intro n; trivial
  | succ fuel ih =>
    intro n
    unfold Gen.read_omega_loop1
    refine ⟨hW, fun v => ?_⟩
    cases v with
    | error x => trivial
    | ok bit =>
      dsimp only
      split
      · trivial
      · intro m
        split
        · exact ih _
        · exact ih _

theorem peekLe_read_omega (e : Endian) (hW : 1 ≤ W) : PeekLe W (Gen.read_omega e) :=
  peekLe_read_omega_loop e hW 8 1

theorem peekLe_vbyte_be_while (fuel : Nat) : ∀ (byte value : Nat) (k : Nat → Nat → RProg Nat),
    (∀ a b, PeekLe W (k a b)) → PeekLe W (Gen.read_vbyte_be_while1 fuel byte value k) := by
  induction fuel with
  | zero => intro _ _ _ _; trivial
  | succ fuel ih =>
    intro byte value k hk
    unfold Gen.read_vbyte_be_while1
    split
    · intro b; exact ih _ _ k hk
    · exact hk _ _

theorem peekLe_read_vbyte_be (fuel : Nat) : PeekLe W (Gen.read_vbyte_be fuel) :=
  fun _ => peekLe_vbyte_be_while fuel _ _ _ fun _ _ => trivial

theorem peekLe_vbyte_le_loop (fuel : Nat) : ∀ (result shift : Nat) (k : Nat → Nat → RProg Nat),
    (∀ a b, PeekLe W (k a b)) → PeekLe W (Gen.read_vbyte_le_loop1 fuel result shift k) := by
  induction fuel with
  | zero => intro _ _ _ _; trivial
  | succ fuel ih =>
    intro result shift k hk
    unfold Gen.read_vbyte_le_loop1
    intro b
    dsimp only
    split
    · exact hk _ _
    · exact ih _ _ k hk

theorem peekLe_read_vbyte_le (fuel : Nat) : PeekLe W (Gen.read_vbyte_le fuel) :=
  peekLe_vbyte_le_loop fuel _ _ _ fun _ _ => trivial

/-- the text of `read_table_be/le` peeks `bits` bits -/
theorem peekLe_readTableG {bits : Nat} (hb : bits ≤ W) (missing : Nat) (vals lens : Array Nat) :
    PeekLe W (readTableG bits missing vals lens) := by
  unfold readTableG
  refine ⟨hb, fun v => ?_⟩
  cases v with
  | error x => trivial
  | ok idx =>
    dsimp only
    split
    · trivial
    · split
      · show PeekLe W (match vals[idx]? with | none => RProg.panic | some r1 => RProg.ret _)
        split <;> trivial
      · trivial

theorem peekLe_orElseR {fb : RProg Nat} (h : PeekLe W fb) : ∀ a, PeekLe W (orElseR fb a)
  | some (_, _) => trivial
  | none => h

/-- a table look-up (`tab` has the text of `read_table_be/le`) with the fallback `fb` -/
theorem peekLe_tableOr {bits missing : Nat} {vals lens : Array Nat} {tab : RProg (Option (Nat × Nat))}
    (htab : tab = readTableG bits missing vals lens) (hb : bits ≤ W) {fb : RProg Nat}
    (hfb : PeekLe W fb) : PeekLe W (tab.bind (orElseR fb)) :=
  htab ▸ PeekLe.bind (peekLe_readTableG hb _ _ _) (peekLe_orElseR hfb)

theorem peekLe_readGammaParam (e : Endian) (t : Bool) (hW : t = true → Gamma.READ_BITS ≤ W) :
    PeekLe W (readGammaParam e t) := by
  cases t
  · cases e <;> exact peekLe_default_read_gamma
  · cases e
    · exact peekLe_tableOr gamma_read_table_shape.1 (hW rfl) peekLe_default_read_gamma
    · exact peekLe_tableOr gamma_read_table_shape.2 (hW rfl) peekLe_default_read_gamma

theorem peekLe_readDeltaParam (e : Endian) (td tg : Bool) (hd : td = true → Delta.READ_BITS ≤ W)
    (hg : tg = true → Gamma.READ_BITS ≤ W) : PeekLe W (readDeltaParam e td tg) := by
  have hfb : PeekLe W (Gen.default_read_delta (readGammaParam e) tg) :=
    PeekLe.bind (peekLe_readGammaParam e tg hg) fun _ _ => trivial
  cases td
  · cases e <;> exact hfb
  · cases e
    · exact peekLe_tableOr delta_read_table_shape.1 (hd rfl) hfb
    · exact peekLe_tableOr delta_read_table_shape.2 (hd rfl) hfb

theorem peekLe_readZeta3Param (e : Endian) (t : Bool) (hW : t = true → Zeta.READ_BITS ≤ W) :
    PeekLe W (readZeta3Param e t) := by
  cases t
  · cases e <;> exact peekLe_default_read_zeta 3
  · cases e
    · exact peekLe_tableOr zeta_read_table_shape.1 (hW rfl) (peekLe_default_read_zeta 3)
    · exact peekLe_tableOr zeta_read_table_shape.2 (hW rfl) (peekLe_default_read_zeta 3)

theorem genOwnRead_peekLe (e : Endian) (c : CodeId) (hW : tablePeek ≤ W) :
    PeekLe W (genOwnRead e c) := by
  have hg : Gamma.READ_BITS ≤ W := Nat.le_trans gamma_le_tablePeek hW
  have hd : Delta.READ_BITS ≤ W := Nat.le_trans delta_le_tablePeek hW
  have h1 : 1 ≤ W := Nat.le_trans one_le_tablePeek hW
  obtain ⟨fam, p⟩ := c
  cases fam
  case unary => exact fun _ => trivial
  case gamma => exact peekLe_readGammaParam e _ fun _ => hg
  case delta => exact peekLe_readDeltaParam e _ _ (fun _ => hd) fun _ => hg
  case omega => exact peekLe_read_omega e h1
  case vbyteBe => exact peekLe_read_vbyte_be _
  case vbyteLe => exact peekLe_read_vbyte_le _
  case zeta => cases e <;> exact peekLe_default_read_zeta p
  case pi => exact peekLe_read_pi p
  case golomb => exact peekLe_read_golomb p
  case expGolomb => exact peekLe_read_exp_golomb (peekLe_readGammaParam e _ fun _ => hg) p
  case rice => exact peekLe_read_rice p

end Headline
end Dsi
