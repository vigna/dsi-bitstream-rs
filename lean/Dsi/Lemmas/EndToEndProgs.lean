/-
  End-to-end: the side conditions of the reader simulations (`PeekBounded` for the buffered
  reader; `BitR.ProgOK`, `BitR.NoSkip` for the unbuffered one) are closed under `bind`; they hold
  for raw fields, for ω (which looks one bit ahead), and all three at once for every program
  without look-ahead and `skip` whose reads are of at most 64 bits (`TrL.Simple`), which covers
  the other code readers without a table (`read…Default`, table argument `none`); the table readers
  go through `rside_readTable` in TransportProgs.lean.
-/
import Dsi.Props.Reader
import Dsi.Props.BitReader
import Dsi.Codes
namespace Dsi
namespace E2E

theorem peekBounded_mono {α : Type} {W : Nat} (p : RProg α) :
    ∀ {c c' : Nat}, c ≤ c' → PeekBounded W c p → PeekBounded W c' p := by
  induction p with
  | ret _ | fail _ | panic | dpanic => intro _ _ _ _; trivial
  | peek n k ih =>
    intro c c' h hp
    exact ⟨hp.1, hp.2.1, fun x => ih (.error x) h (hp.2.2 x)⟩
  | skipAfterPeek n k ih =>
    intro c c' h hp
    exact ⟨Nat.le_trans hp.1 h, ih (Nat.sub_le_sub_right h n) hp.2⟩
  | readBits _ _ _ | readUnary _ _ | skip _ _ _ => intro _ _ _ hp; exact hp

theorem peekBounded_bind {α β : Type} {W : Nat} (p : RProg α) (f : α → RProg β)
    (hf : ∀ a, PeekBounded W 0 (f a)) : ∀ {c : Nat}, PeekBounded W c p → PeekBounded W c (p.bind f) := by
  induction p with
  | ret a => intro c _; exact peekBounded_mono (f a) (Nat.zero_le c) (hf a)
  | fail _ | panic | dpanic => intro _ _; trivial
  | readBits _ _ ih | readUnary _ ih => intro c hp v; exact ih v (hp v)
  | peek n k ih =>
    intro c hp
    exact ⟨hp.1, fun v => ih (.ok v) (hp.2.1 v), fun x => ih (.error x) (hp.2.2 x)⟩
  | skipAfterPeek n k ih => intro c hp; exact ⟨hp.1, ih hp.2⟩
  | skip n k ih => intro c hp; exact ih hp

theorem pb_rbits (W n : Nat) : PeekBounded W 0 (RProg.rbits n) := fun _ => trivial

theorem progOK_mono {α : Type} (p : RProg α) :
    ∀ {c c' : Nat}, c ≤ c' → BitR.ProgOK c p → BitR.ProgOK c' p := by
  induction p with
  | ret _ | fail _ | panic | dpanic => intro _ _ _ _; trivial
  | peek n k ih =>
    intro c c' h hp
    exact ⟨hp.1, hp.2.1, hp.2.2.1, fun x => ih (.error x) h (hp.2.2.2 x)⟩
  | skipAfterPeek n k ih =>
    intro c c' h hp
    exact ⟨Nat.le_trans hp.1 h, ih (Nat.sub_le_sub_right h n) hp.2⟩
  | readBits _ _ _ | readUnary _ _ | skip _ _ _ => intro _ _ _ hp; exact hp

theorem progOK_bind {α β : Type} (p : RProg α) (f : α → RProg β)
    (hf : ∀ a, BitR.ProgOK 0 (f a)) : ∀ {c : Nat}, BitR.ProgOK c p → BitR.ProgOK c (p.bind f) := by
  induction p with
  | ret a => intro c _; exact progOK_mono (f a) (Nat.zero_le c) (hf a)
  | fail _ | panic | dpanic => intro _ _; trivial
  | readBits n k ih => intro c hp; exact ⟨hp.1, fun v => ih v (hp.2 v)⟩
  | readUnary k ih => intro c hp v; exact ih v (hp v)
  | peek n k ih =>
    intro c hp
    exact ⟨hp.1, hp.2.1, fun v => ih (.ok v) (hp.2.2.1 v), fun x => ih (.error x) (hp.2.2.2 x)⟩
  | skipAfterPeek n k ih => intro c hp; exact ⟨hp.1, ih hp.2⟩
  | skip n k ih => intro c hp; exact ih hp

theorem ok_rbits {n : Nat} (hn : n ≤ 64) : BitR.ProgOK 0 (RProg.rbits n) := ⟨hn, fun _ => trivial⟩

theorem zetaU_lt (h k : Nat) : zetaU h k < 2 ^ 64 := by
  unfold zetaU wsub64
  exact Nat.mod_lt _ (by decide)

theorem noSkip_bind {α β : Type} (p : RProg α) (f : α → RProg β) (hf : ∀ a, BitR.NoSkip (f a)) :
    BitR.NoSkip p → BitR.NoSkip (p.bind f) := by
  induction p with
  | ret a => intro _; exact hf a
  | fail _ | panic | dpanic => intro _; trivial
  | readBits _ _ ih | readUnary _ ih | peek _ _ ih => intro hp v; exact ih v (hp v)
  | skipAfterPeek n k ih => intro hp; exact ih hp
  | skip n k ih => intro hp; exact hp.elim

theorem ns_rbits (n : Nat) : BitR.NoSkip (RProg.rbits n) := fun _ => trivial

/-- a one-bit look-ahead whose continuations satisfy the three side conditions, with the bit as
    credit after a success -/
theorem side_peek1 {α : Type} {W : Nat} (hW : 1 ≤ W) {k : Except Err Nat → RProg α}
    (hok : ∀ bit, PeekBounded W 1 (k (.ok bit)) ∧ BitR.ProgOK 1 (k (.ok bit)) ∧
      BitR.NoSkip (k (.ok bit)))
    (herr : ∀ x, PeekBounded W 0 (k (.error x)) ∧ BitR.ProgOK 0 (k (.error x)) ∧
      BitR.NoSkip (k (.error x))) :
    PeekBounded W 0 (.peek 1 k) ∧ BitR.ProgOK 0 (.peek 1 k) ∧ BitR.NoSkip (.peek 1 k) :=
  ⟨⟨hW, fun b => (hok b).1, fun x => (herr x).1⟩,
    ⟨Nat.le_refl 1, by decide, fun b => (hok b).2.1, fun x => (herr x).2.1⟩,
    fun v => match v with
      | .ok b => (hok b).2.2
      | .error x => (herr x).2.2⟩

theorem omegaLoop_side (e : Endian) {W : Nat} (hW : 1 ≤ W) (fuel : Nat) :
    ∀ n, PeekBounded W 0 (omegaReadLoop e fuel n) ∧ BitR.ProgOK 0 (omegaReadLoop e fuel n) ∧
      BitR.NoSkip (omegaReadLoop e fuel n) := by
  induction fuel with
  | zero => exact fun _ => ⟨trivial, trivial, trivial⟩
  | succ f ih =>
    intro n
    refine side_peek1 hW (fun bit => ?_) (fun _ => ⟨trivial, trivial, trivial⟩)
    dsimp only
    by_cases hb : bit = 0
    · rw [if_pos hb]; exact ⟨⟨Nat.le_refl 1, trivial⟩, ⟨Nat.le_refl 1, trivial⟩, trivial⟩
    · rw [if_neg hb]
      by_cases hn : n ≥ 64
      · rw [if_pos hn]; exact ⟨trivial, trivial, trivial⟩
      · rw [if_neg hn]
        exact ⟨fun v => (ih _).1, ⟨Nat.succ_le_of_lt (Nat.lt_of_not_le hn), fun v => (ih _).2.1⟩,
          fun v => (ih _).2.2⟩

theorem pb_omega (e : Endian) {W : Nat} (hW : 1 ≤ W) : PeekBounded W 0 (readOmega e) :=
  (omegaLoop_side e hW 8 1).1

theorem ok_omega (e : Endian) : BitR.ProgOK 0 (readOmega e) :=
  (omegaLoop_side e (Nat.le_refl 1) 8 1).2.1

theorem ns_omega (e : Endian) : BitR.NoSkip (readOmega e) :=
  (omegaLoop_side e (Nat.le_refl 1) 8 1).2.2

end E2E

namespace TrL
open E2E

/-- no `peek`, `skipAfterPeek`, `skip`; every `readBits` of at most 64 bits -/
def Simple {α : Type} : RProg α → Prop
  | .ret _ => True
  | .fail _ => True
  | .panic => True
  | .dpanic => True
  | .readBits n k => n ≤ 64 ∧ ∀ v, Simple (k v)
  | .readUnary k => ∀ v, Simple (k v)
  | .peek _ _ => False
  | .skipAfterPeek _ _ => False
  | .skip _ _ => False

theorem Simple.ret {α : Type} (a : α) : Simple (RProg.ret a) := trivial
theorem Simple.dpanic {α : Type} : Simple (RProg.dpanic : RProg α) := trivial
theorem Simple.panic {α : Type} : Simple (RProg.panic : RProg α) := trivial
theorem Simple.readBits {α : Type} {n : Nat} {k : Nat → RProg α} (hn : n ≤ 64)
    (hk : ∀ v, Simple (k v)) : Simple (RProg.readBits n k) := ⟨hn, hk⟩
theorem Simple.readUnary {α : Type} {k : Nat → RProg α} (hk : ∀ v, Simple (k v)) :
    Simple (RProg.readUnary k) := hk

theorem Simple.ite {α : Type} {c : Prop} [Decidable c] {p q : RProg α} (hp : c → Simple p)
    (hq : ¬ c → Simple q) : Simple (if c then p else q) := by
  split
  · exact hp ‹_›
  · exact hq ‹_›

theorem Simple.bind {α β : Type} {p : RProg α} {f : α → RProg β} (hp : Simple p)
    (hf : ∀ a, Simple (f a)) : Simple (p.bind f) := by
  induction p with
  | ret a => exact hf a
  | fail _ | panic | dpanic => trivial
  | readBits n k ih => exact ⟨hp.1, fun v => ih v (hp.2 v)⟩
  | readUnary k ih => intro v; exact ih v (hp v)
  | peek _ _ _ | skipAfterPeek _ _ _ | skip _ _ _ => exact hp.elim

/-- with no look-ahead there is no credit to keep track of, and nothing is skipped -/
theorem Simple.side {α : Type} (W : Nat) (p : RProg α) (hp : Simple p) :
    ∀ c, PeekBounded W c p ∧ BitR.ProgOK c p ∧ BitR.NoSkip p := by
  induction p with
  | ret _ | fail _ | panic | dpanic => exact fun _ => ⟨trivial, trivial, trivial⟩
  | readBits n k ih =>
    exact fun _ => ⟨fun v => (ih v (hp.2 v) 0).1, ⟨hp.1, fun v => (ih v (hp.2 v) 0).2.1⟩,
      fun v => (ih v (hp.2 v) 0).2.2⟩
  | readUnary k ih =>
    exact fun _ => ⟨fun v => (ih v (hp v) 0).1, fun v => (ih v (hp v) 0).2.1,
      fun v => (ih v (hp v) 0).2.2⟩
  | peek _ _ _ | skipAfterPeek _ _ _ | skip _ _ _ => exact hp.elim

theorem Simple.peekBounded {α : Type} (W : Nat) (p : RProg α) (hp : Simple p) (c : Nat) :
    PeekBounded W c p := (hp.side W p c).1

theorem Simple.progOK {α : Type} (p : RProg α) (hp : Simple p) (c : Nat) : BitR.ProgOK c p :=
  (hp.side 0 p c).2.1

theorem Simple.noSkip {α : Type} (p : RProg α) (hp : Simple p) : BitR.NoSkip p :=
  (hp.side 0 p 0).2.2

theorem simple_unary : Simple readUnaryC := fun _ => trivial

theorem simple_tail (len : Nat) :
    Simple (if len ≥ 64 then RProg.dpanic else RProg.readBits len fun v => RProg.ret (v + 2 ^ len - 1)) :=
  Simple.ite (fun _ => trivial) (fun h => ⟨by omega, fun _ => trivial⟩)

theorem simple_gamma : Simple readGammaDefault := fun len => simple_tail len

theorem simple_delta : Simple (readDeltaDefault none) := Simple.bind simple_gamma simple_tail

theorem simple_minbin {max : Nat} (hmax : max < 2 ^ 64) : Simple (readMinimalBinary max) := by
  unfold readMinimalBinary
  refine Simple.ite (fun _ => trivial) (fun h0 => ?_)
  have hl : max.log2 < 64 := (Nat.log2_lt h0).2 hmax
  refine Simple.readBits (by omega) (fun p => ?_)
  refine Simple.ite (fun _ => trivial) (fun _ => ?_)
  refine Simple.readBits (by decide) (fun b => ?_)
  exact Simple.ite (fun _ => trivial) (fun _ => trivial)

theorem simple_zeta (k : Nat) : Simple (readZetaDefault k) := by
  unfold readZetaDefault
  refine Simple.readUnary (fun h => ?_)
  refine Simple.ite (fun _ => trivial) (fun _ => ?_)
  refine Simple.bind (simple_minbin (zetaU_lt h k)) (fun res => ?_)
  exact Simple.ite (fun _ => trivial) (fun _ => trivial)

theorem simple_rice (k : Nat) : Simple (readRice k) := by
  unfold readRice
  refine Simple.ite (fun _ => trivial) (fun hk => ?_)
  refine Simple.readUnary (fun u => ?_)
  refine Simple.readBits (by omega) (fun v => ?_)
  exact Simple.ite (fun _ => trivial) (fun _ => trivial)

theorem simple_pi (k : Nat) : Simple (readPi k) := by
  unfold readPi
  refine Simple.bind (simple_rice k) (fun lam => ?_)
  exact Simple.ite (fun _ => trivial) (fun h => ⟨by omega, fun _ => trivial⟩)

theorem simple_golomb {b : Nat} (hb : b < 2 ^ 64) : Simple (readGolomb b) := by
  unfold readGolomb
  refine Simple.readUnary (fun u => ?_)
  refine Simple.bind (simple_minbin hb) (fun r => ?_)
  exact Simple.ite (fun _ => trivial) (fun _ => trivial)

theorem simple_expGolomb (k : Nat) : Simple (readExpGolomb none k) := by
  unfold readExpGolomb
  refine Simple.ite (fun _ => trivial) (fun hk => ?_)
  refine Simple.bind simple_gamma (fun g => ?_)
  refine Simple.readBits (by omega) (fun v => ?_)
  exact Simple.ite (fun _ => trivial) (fun _ => trivial)

theorem simple_vbyteBeLoop : ∀ (fuel value byte : Nat), Simple (vbyteBeReadLoop fuel value byte)
  | 0, _, _ => trivial
  | fuel + 1, value, byte => by
    unfold vbyteBeReadLoop
    refine Simple.ite (fun _ => trivial) (fun _ => ?_)
    refine Simple.ite (fun _ => trivial) (fun _ => ?_)
    exact Simple.readBits (by decide) (fun b => simple_vbyteBeLoop fuel _ _)

theorem simple_vbyteBe (fuel : Nat) : Simple (readVByteBe fuel) :=
  Simple.readBits (by decide) (fun b => simple_vbyteBeLoop fuel _ _)

theorem simple_vbyteLeLoop : ∀ (fuel result shift : Nat), Simple (vbyteLeReadLoop fuel result shift)
  | 0, _, _ => trivial
  | fuel + 1, result, shift => by
    unfold vbyteLeReadLoop
    refine Simple.ite (fun _ => trivial) (fun _ => ?_)
    refine Simple.readBits (by decide) (fun b => ?_)
    refine Simple.ite (fun _ => trivial) (fun _ => ?_)
    refine Simple.ite (fun _ => trivial) (fun _ => ?_)
    exact Simple.ite (fun _ => trivial) (fun _ => simple_vbyteLeLoop fuel _ _)

theorem simple_vbyteLe (fuel : Nat) : Simple (readVByteLe fuel) := simple_vbyteLeLoop fuel 0 0

end TrL
end Dsi
