/-
  The code writers as generated from src/codes/*.rs
  (Gen/CodeBodies.lean, OmegaBodies.lean, VByteBodies.lean, TableFns.lean), assembled per code of
  the `Codes` enum exactly like the hand-written `ownWrite` (`Dsi/Glue/Dispatch.lean`: the
  parameterless default trait methods, table flags from the generated `Params`), and
  `genOwnWrite_eq`: on the documented domain the generated writer *is* the hand-written one.
-/
import Dsi.Props.TableFnsGen
import Dsi.Props.OmegaGen
import Dsi.Props.VByteGen
import Dsi.Props.Equiv
namespace Dsi
namespace Headline
open Gen CodeBodiesGen TableFnsGen

/-- the generated writer of a code: `write_unary` is a primitive of the `BitWrite` interface, the
    others are the translated bodies; γ, δ, ζ and exp-Golomb go through the generated `*Param` impls
    with the flags of the generated `Params` (as `CodesWrite`'s default methods do) -/
def genOwnWrite (e : Endian) (checks : Bool) (c : CodeId) (v : Nat) : WProg Nat :=
  match c.fam with
  | .unary => .writeUnary v .ret
  | .gamma => writeGammaParam e checks Params.writeGammaTable v
  | .delta => writeDeltaParam e checks Params.writeDeltaTable Params.writeDeltaGammaTable v
  | .omega => Gen.write_omega e checks v
  | .vbyteBe => Gen.write_vbyte_be v
  | .vbyteLe => Gen.write_vbyte_le v
  | .zeta => writeZetaParam e Params.writeZetaTable v c.p
  | .pi => Gen.write_pi checks v c.p
  | .golomb => Gen.write_golomb v c.p
  | .expGolomb => Gen.write_exp_golomb (writeGammaParam e checks Params.writeGammaTable) checks v c.p
  | .rice => Gen.write_rice checks v c.p

/-- exp-Golomb over the *generated* γ writer -/
theorem write_exp_golomb_param_eq (e : Endian) (checks t : Bool) {n k : Nat} (hk : k < 64)
    (hq : n / 2 ^ k < 2 ^ 64 - 1) :
    Gen.write_exp_golomb (writeGammaParam e checks t) checks n k
      = writeExpGolomb checks (opt t (gammaWTab e)) n k := by
  rw [← write_exp_golomb_eq checks (opt t (gammaWTab e)) n hk]
  have hq' : n >>> k < 2 ^ 64 - 1 := by rw [Nat.shiftRight_eq_div_pow]; exact hq
  have hg : writeGammaParam e checks t (n >>> k) = writeGamma checks (opt t (gammaWTab e)) (n >>> k) :=
    write_gamma_param_eq e checks t hq'
  unfold Gen.write_exp_golomb
  rw [hg]

theorem genOwnWrite_eq (e : Endian) (checks : Bool) (c : CodeId) (v : Nat) (hd : c.Dom v) :
    genOwnWrite e checks c v = ownWrite e checks c v := by
  obtain ⟨fam, p⟩ := c
  cases fam
  case unary => rfl
  case gamma => exact write_gamma_param_eq e checks _ hd
  case delta => exact write_delta_param_eq e checks _ _ hd
  case omega => exact OmegaGen.write_omega_eq e checks hd
  case vbyteBe => exact VByteGen.write_vbyte_be_eq hd
  case vbyteLe => exact VByteGen.write_vbyte_le_eq hd
  case zeta =>
    obtain ⟨h1, h2, h3, _⟩ :
      1 ≤ p ∧ p ≤ 63 ∧ v < 2 ^ 64 - 1 ∧ ((v + 1).log2 / p + 1) * p ≤ 64 := hd
    exact write_zeta_param_eq e _ h3 (Nat.ne_of_gt h1) (Nat.lt_succ_of_le h2)
  case pi =>
    obtain ⟨h1, h2⟩ : p ≤ 63 ∧ v < 2 ^ 64 - 1 := hd
    exact write_pi_eq checks h2 (Nat.lt_succ_of_le h1)
  case golomb =>
    obtain ⟨h1, h2, _, _⟩ : 1 ≤ p ∧ p < 2 ^ 64 ∧ v < 2 ^ 64 ∧ v / p < 2 ^ 64 - 1 := hd
    exact write_golomb_eq v (Nat.ne_of_gt h1) h2
  case expGolomb =>
    obtain ⟨h1, h2, h3⟩ : p ≤ 63 ∧ v < 2 ^ 64 ∧ (p = 0 → v < 2 ^ 64 - 1) := hd
    exact write_exp_golomb_param_eq e checks _ (Nat.lt_succ_of_le h1) (quot_lt h2 h3)
  case rice =>
    obtain ⟨h1, _, _⟩ : p ≤ 63 ∧ v < 2 ^ 64 ∧ v / 2 ^ p < 2 ^ 64 - 1 := hd
    exact write_rice_eq checks v (Nat.lt_succ_of_le h1)

end Headline
end Dsi
