/-
  Word-level facts for the writer refinement: what each buffer expression of
  `BufBitWriter` holds, as bit lists.  Every lemma is for an arbitrary width `W` and an
  arbitrary (garbage-carrying) buffer.

  The buffer is read as a shift register in stream order (`validAt_eq_drop`): `shiftIn` moves it
  on and fills with zeros (`shifted_word`), `|||` is bitwise on the lists (`wordBits_or`), so
  or-ing in a word whose only non-zero bits are a `k`-bit field at the stream-last end appends that
  field (`validAt_shiftIn_or`).  What remains per buffer expression is to say which field its
  second operand carries (`placed_be`, `placed_le`; `lowmask_be/le`, `top_be/le` for `write_bits`).
-/
import Dsi.Lemmas.WriterBits
namespace Dsi

namespace BufW
variable {W : Nat}

/-- the pending bits of a buffer with `sp` free positions (`valid`, with the state opened);
    `sp = 0` gives the whole word -/
def validAt (e : Endian) (b : BitVec W) (sp : Nat) : List Bool :=
  match e with
  | .be => fieldBits .be b.toNat (W - sp)
  | .le => fieldBits .le (b.toNat / 2 ^ sp) (W - sp)

theorem valid_eq (e : Endian) (s : BufW W) : s.valid e = validAt e s.buffer s.space := by
  cases e <;> rfl

attribute [simp] length_wordBits

@[simp] theorem validAt_length (e : Endian) (b : BitVec W) (sp : Nat) :
    (validAt e b sp).length = W - sp := by
  cases e <;> simp [validAt]

theorem validAt_zero (e : Endian) (b : BitVec W) : validAt e b 0 = wordBits e b := by
  cases e <;> simp [validAt, wordBits]

theorem validAt_eq_drop (e : Endian) (b : BitVec W) {sp : Nat} (h : sp ≤ W) :
    validAt e b sp = (wordBits e b).drop sp := by
  cases e
  · rw [validAt, wordBits, fieldBE_cut b.toNat (n := W) (b := W - sp) (Nat.sub_le _ _),
      List.drop_left' (by rw [fieldBits_length, Nat.sub_sub_self h])]
  · rw [validAt, wordBits, fieldBits, fieldBits, fieldLE_cut b.toNat h,
      List.drop_left' (fieldLE_length _ _)]

theorem wordBits_or (e : Endian) (a b : BitVec W) :
    wordBits e (a ||| b) = List.zipWith (· || ·) (wordBits e a) (wordBits e b) := by
  apply List.ext_getElem (by simp)
  intro i h1 h2
  cases e
  · simp only [wordBits, List.getElem_zipWith, getElem_fieldBE, BitVec.testBit_toNat,
      BitVec.getLsbD_or]
  · simp only [wordBits, fieldBits, List.getElem_zipWith, getElem_fieldLE, BitVec.testBit_toNat,
      BitVec.getLsbD_or]

theorem shifted_word (e : Endian) (b : BitVec W) {sp : Nat} (h2 : sp ≤ W) :
    wordBits e (shiftIn e b sp) = validAt e b sp ++ List.replicate sp false := by
  rw [validAt_eq_drop e b h2]
  refine list_eq_of_bitZ (by simp; omega) fun i hi => ?_
  rw [length_wordBits] at hi
  rw [bitZ_wordBits e _ i hi, show shiftIn e b sp = dropB e b sp from rfl, sbit_dropB]
  by_cases h : sp + i < W
  · rw [bitZ_append_left (by rw [List.length_drop, length_wordBits]; omega), bitZ_drop,
      bitZ_wordBits e b _ h]
  · rw [bitZ_append_right (by rw [List.length_drop, length_wordBits]; omega),
      sbit_of_ge e b (Nat.le_of_not_lt h)]
    simp only [bitZ, List.getD, List.getElem?_replicate]
    split <;> rfl

theorem zipWith_or_append_zeros (X F : List Bool) :
    List.zipWith (· || ·) (X ++ List.replicate F.length false) (List.replicate X.length false ++ F)
      = X ++ F := by
  rw [List.zipWith_append (by simp)]
  congr 1
  · induction X with
    | nil => rfl
    | cons x X ih => simp [List.replicate_succ, ih]
  · induction F with
    | nil => rfl
    | cons x F ih => simp [List.replicate_succ, ih]

theorem wordBits_shiftIn_or (e : Endian) (b x : BitVec W) {k : Nat} {F : List Bool} (hk : k ≤ W)
    (hx : wordBits e x = List.replicate (W - k) false ++ F) :
    wordBits e (shiftIn e b k ||| x) = validAt e b k ++ F := by
  have hF : F.length = k := by
    have := congrArg List.length hx
    simp only [length_wordBits, List.length_append, List.length_replicate] at this
    omega
  subst hF
  rw [wordBits_or, shifted_word e b hk, hx, ← validAt_length e b F.length]
  exact zipWith_or_append_zeros _ _

theorem validAt_shiftIn_or (e : Endian) (b x : BitVec W) {sp k : Nat} {F : List Bool} (hk : k ≤ sp)
    (hsp : sp ≤ W) (hx : wordBits e x = List.replicate (W - k) false ++ F) :
    validAt e (shiftIn e b k ||| x) (sp - k) = validAt e b sp ++ F := by
  have hkW : k ≤ W := Nat.le_trans hk hsp
  rw [validAt_eq_drop _ _ (Nat.le_trans (Nat.sub_le _ _) hsp), wordBits_shiftIn_or e b x hkW hx,
    validAt_eq_drop e b hkW, validAt_eq_drop e b hsp,
    List.drop_append_of_le_length (by
      rw [List.length_drop, length_wordBits]; exact Nat.sub_le_sub_right hsp k),
    List.drop_drop, Nat.add_sub_cancel' hk]

/-- big endian: the low `k` bits of the word are those of `y`, the rest is zero -/
theorem placed_be (x : BitVec W) (y : Nat) {k : Nat} (hk : k ≤ W)
    (h : ∀ j, j < W → x.getLsbD j = (decide (j < k) && y.testBit j)) :
    wordBits .be x = List.replicate (W - k) false ++ fieldBits .be y k := by
  rw [replicate_false_eq .be]
  apply fieldBE_split (Nat.sub_add_cancel hk).symm
  · intro i hi
    rw [BitVec.testBit_toNat, h i (Nat.lt_of_lt_of_le hi hk), decide_eq_true hi, Bool.true_and]
  · intro i hi
    rw [BitVec.testBit_toNat, h _ (Nat.add_lt_of_lt_sub' hi),
      decide_eq_false (Nat.not_lt.2 (Nat.le_add_right k i)),
      Nat.zero_testBit]
    rfl

/-- little endian: the high `k` bits of the word are the low `k` bits of `y`, the rest is zero -/
theorem placed_le (x : BitVec W) (y : Nat) {k : Nat} (hk : k ≤ W)
    (h : ∀ j, j < W → x.getLsbD j = (decide (W - k ≤ j) && y.testBit (j - (W - k)))) :
    wordBits .le x = List.replicate (W - k) false ++ fieldBits .le y k := by
  rw [replicate_false_eq .le]
  apply fieldLE_split (Nat.sub_add_cancel hk).symm
  · intro i hi
    rw [BitVec.testBit_toNat, h i (Nat.lt_of_lt_of_le hi (Nat.sub_le _ _)),
      decide_eq_false (Nat.not_le.2 hi), Nat.zero_testBit]
    rfl
  · intro i hi
    rw [BitVec.testBit_toNat, h _ (by omega), decide_eq_true (Nat.le_add_right _ i), Bool.true_and,
      Nat.add_sub_cancel_left]

theorem getLsbD_lowmask (x : BitVec W) (n j : Nat) :
    (x &&& ~~~(BitVec.allOnes W <<< n)).getLsbD j = (decide (j < n) && x.getLsbD j) := by
  by_cases hj : j < W
  · by_cases hn : j < n
    · simp [hj, hn]
    · simp [hj, hn]
  · simp [BitVec.getLsbD_of_ge x j (by omega)]

/-- fast path (the field fits the buffer): the low `n` bits of the value -/
theorem lowmask_be (v : BitVec 64) {n : Nat} (hn : n ≤ W) :
    wordBits .be (v.setWidth W &&& ~~~(BitVec.allOnes W <<< n))
      = List.replicate (W - n) false ++ fieldBits .be v.toNat n :=
  placed_be _ _ hn fun j hj => by
    rw [getLsbD_lowmask, BitVec.getLsbD_setWidth, BitVec.testBit_toNat, decide_eq_true hj,
      Bool.true_and]

/-- slow path: the `sp` leading bits of an `n`-bit field, which complete the current word -/
theorem top_be (v : BitVec 64) {sp n : Nat} (h1 : sp ≤ n) (h2 : sp ≤ W) (h3 : n ≤ 64) :
    wordBits .be (((v <<< (64 - n)) >>> (64 - sp)).setWidth W)
      = List.replicate (W - sp) false ++ fieldBits .be (v.toNat / 2 ^ (n - sp)) sp := by
  refine placed_be _ _ h2 fun j hj => ?_
  -- shifting left by `cn = 64 - n` and back by `cs = 64 - sp ≥ cn` keeps the bits from `n - sp` on
  have hcs : 64 - sp + sp = 64 := Nat.sub_add_cancel (Nat.le_trans h1 h3)
  have hcn : 64 - n + n = 64 := Nat.sub_add_cancel h3
  generalize 64 - sp = cs at hcs
  generalize 64 - n = cn at hcn
  rw [BitVec.getLsbD_setWidth, BitVec.getLsbD_ushiftRight, BitVec.getLsbD_shiftLeft,
    Nat.testBit_div_two_pow, BitVec.testBit_toNat, decide_eq_true hj, Bool.true_and,
    decide_eq_false (show ¬ cs + j < cn by omega), Bool.not_false, Bool.and_true,
    show cs + j - cn = j + (n - sp) by omega,
    decide_eq_decide.2 (show cs + j < 64 ↔ j < sp by omega)]

/-- fast path, little endian: the low `n` bits of the value, rotated to the top of the word -/
theorem lowmask_le (v : BitVec 64) {n : Nat} (hn : n < W) :
    wordBits .le ((v.setWidth W &&& ~~~(BitVec.allOnes W <<< n)).rotateRight n)
      = List.replicate (W - n) false ++ fieldBits .le v.toNat n := by
  refine placed_le _ _ (Nat.le_of_lt hn) fun j hj => ?_
  rw [BitVec.getLsbD_rotateRight_of_lt hn, getLsbD_lowmask, getLsbD_lowmask,
    BitVec.getLsbD_setWidth, BitVec.getLsbD_setWidth, BitVec.testBit_toNat]
  by_cases hs : j < W - n
  · have e1 : ¬ n + j < n := Nat.not_lt.2 (Nat.le_add_right n j)
    simp only [hs, e1, Nat.not_le.2 hs, decide_true, decide_false, cond_true, Bool.false_and]
  · have e1 : j - (W - n) < n := by omega
    have e2 : j - (W - n) < W := Nat.lt_of_le_of_lt (Nat.sub_le _ _) hj
    simp only [hs, hj, e1, e2, Nat.le_of_not_lt hs, decide_true, decide_false, cond_false,
      Bool.true_and]

/-- slow path, little endian: the `sp` low bits of the value, which complete the current word -/
theorem top_le (v : BitVec 64) {sp : Nat} (h2 : sp ≤ W) :
    wordBits .le (v.setWidth W <<< (W - sp))
      = List.replicate (W - sp) false ++ fieldBits .le v.toNat sp := by
  refine placed_le _ _ h2 fun j hj => ?_
  have e1 : j - (W - sp) < W := Nat.lt_of_le_of_lt (Nat.sub_le _ _) hj
  rw [BitVec.getLsbD_shiftLeft, BitVec.getLsbD_setWidth, BitVec.testBit_toNat, decide_eq_true hj,
    decide_eq_true e1, Bool.true_and, Bool.true_and]
  by_cases hs : j < W - sp
  · rw [decide_eq_true hs, decide_eq_false (Nat.not_le.2 hs)]; rfl
  · rw [decide_eq_false hs, decide_eq_true (Nat.le_of_not_lt hs)]; rfl

theorem word_setWidth (e : Endian) (x : BitVec 64) :
    wordBits e (x.setWidth W) = fieldBits e x.toNat W := by
  rw [wordBits, BitVec.toNat_setWidth, fieldBits_mod e _ (Nat.le_refl W)]

theorem last_be (v : BitVec 64) {t : Nat} (h : t < W) :
    validAt .be (v.setWidth W) (W - t) = fieldBits .be v.toNat t := by
  rw [validAt, Nat.sub_sub_self (Nat.le_of_lt h), BitVec.toNat_setWidth,
    fieldBits_mod .be _ (Nat.le_of_lt h)]

theorem last_le (v : BitVec 64) (T : Nat) (hW : 0 < W) :
    validAt .le ((v.setWidth W).rotateRight T) (W - T % W) = fieldBits .le v.toNat (T % W) := by
  have ht : T % W < W := Nat.mod_lt _ hW
  rw [validAt, Nat.sub_sub_self (Nat.le_of_lt ht), ← BitVec.rotateRight_mod_eq_rotateRight]
  generalize T % W = t at ht
  apply fieldBits_congr_wr
  intro i hi
  have e1 : ¬ i + (W - t) < W - t := Nat.not_lt.2 (Nat.le_add_left _ _)
  have e2 : i + (W - t) < W := by omega
  have e3 : i + (W - t) - (W - t) = i := Nat.add_sub_cancel ..
  have e4 : i < W := Nat.lt_trans hi ht
  simp only [Nat.testBit_div_two_pow, BitVec.testBit_toNat, BitVec.getLsbD_rotateRight_of_lt ht,
    BitVec.getLsbD_setWidth, e1, e2, e3, e4, decide_true, decide_false, cond_false, Bool.true_and]

theorem shiftIn_shiftIn (e : Endian) (b : BitVec W) (j k : Nat) :
    shiftIn e (shiftIn e b j) k = shiftIn e b (j + k) := dropB_dropB e b j k

theorem one_word (e : Endian) (hW : 0 < W) :
    wordBits e (oneWord e : BitVec W) = unaryBits (W - 1) := by
  have t1 : (1 : BitVec W).toNat = 1 := BitVec.toNat_one hW
  cases e
  · rw [unaryBits_eq_be, wordBits, oneWord, t1, Nat.sub_add_cancel hW]
  · rw [unaryBits_eq_le, wordBits, oneWord, BitVec.toNat_shiftLeft, t1,
      Nat.one_shiftLeft, Nat.mod_eq_of_lt (Nat.pow_lt_pow_right (by decide) (Nat.sub_lt hW Nat.one_pos)),
      Nat.sub_add_cancel hW]

theorem unary_fast (e : Endian) (b : BitVec W) {sp x : Nat} (h1 : x + 1 ≤ sp) (h2 : sp ≤ W) :
    validAt e (shiftIn e (shiftIn e b x) 1 ||| oneWord e) (sp - (x + 1))
      = validAt e b sp ++ unaryBits x := by
  rw [shiftIn_shiftIn]
  refine validAt_shiftIn_or e b _ h1 h2 ?_
  rw [one_word e (Nat.lt_of_lt_of_le (Nat.succ_pos x) (Nat.le_trans h1 h2)), ← unaryBits_add,
    show W - (x + 1) + x = W - 1 by omega]

theorem zero_word (e : Endian) : wordBits e (0 : BitVec W) = List.replicate W false := by
  rw [replicate_false_eq e]; rfl

theorem one_valid (e : Endian) {x : Nat} (h : x + 1 ≤ W) :
    validAt e (oneWord e : BitVec W) (W - (x + 1)) = unaryBits x := by
  rw [validAt_eq_drop e _ (Nat.sub_le _ _), one_word e (Nat.lt_of_lt_of_le (Nat.succ_pos x) h),
    show W - 1 = (W - (x + 1)) + x by omega, unaryBits_add,
    List.drop_left' (List.length_replicate ..)]

end BufW
end Dsi
