/-
  Glue 2, part 3: the change-point list of `get_implied_distribution`
  (`FC.impliedChangePoints`: the iterator's outputs taken while `len ≤ 128`).
-/
import Dsi.Props.C20
namespace Dsi
namespace G2
open FC

theorem step_lt {f : Nat → Nat} (hm : Mono f) {cur x : Nat} (hx : LeastChange f cur x)
    (hr : InReach cur x) : f cur < f x := by
  obtain ⟨j, hj1, hj2⟩ := hr
  have := hm cur x (Nat.le_of_lt hx.1) (by omega)
  have := hx.2.1
  omega

theorem chain_gt {f : Nat → Nat} (hm : Mono f) {cur : Nat} {items : List (Nat × Nat)}
    (h : ChangeChain f cur items) : ∀ p ∈ items, cur < p.1 ∧ f cur < p.2 := by
  induction h with
  | nil cur => intro p hp; cases hp
  | cons hx hr _ ih =>
    intro p hp
    rcases List.mem_cons.1 hp with rfl | hp
    · exact ⟨hx.1, step_lt hm hx hr⟩
    · have := ih p hp
      have := step_lt hm hx hr
      have := hx.1
      omega

theorem chain_snd {f : Nat → Nat} {cur : Nat} {items : List (Nat × Nat)}
    (h : ChangeChain f cur items) : ∀ p ∈ items, p.2 = f p.1 := by
  induction h with
  | nil cur => intro p hp; cases hp
  | cons _ _ _ ih =>
    intro p hp
    rcases List.mem_cons.1 hp with rfl | hp
    · rfl
    · exact ih p hp

theorem chain_pairwise {f : Nat → Nat} (hm : Mono f) {cur : Nat} {items : List (Nat × Nat)}
    (h : ChangeChain f cur items) :
    ((cur, f cur) :: items).Pairwise (fun a b => a.1 < b.1 ∧ a.2 < b.2) := by
  induction h with
  | nil cur => simp
  | cons hx hr hrest ih =>
    refine List.Pairwise.cons ?_ ih
    intro p hp
    exact chain_gt hm (.cons hx hr hrest) p hp

theorem chain_consecutive {f : Nat → Nat} {cur : Nat} {items : List (Nat × Nat)}
    (h : ChangeChain f cur items) :
    ∀ (i : Nat) (a b : Nat × Nat), ((cur, f cur) :: items)[i]? = some a →
      ((cur, f cur) :: items)[i + 1]? = some b →
      LeastChange f a.1 b.1 ∧ InReach a.1 b.1 ∧ f b.1 ≠ f (b.1 - 1) := by
  induction h with
  | nil cur => intro i a b _ hb; cases hb
  | cons hx hr hrest ih =>
    rename_i cur x rest
    intro i a b ha hb
    cases i with
    | zero =>
      simp only [List.getElem?_cons_zero, Option.some.injEq, Nat.zero_add, List.getElem?_cons_succ]
        at ha hb
      subst ha; subst hb
      refine ⟨hx, hr, ?_⟩
      have := hx.2.2 (x - 1) (by have := hx.1; omega) (by have := hx.1; omega)
      rw [this]; exact hx.2.1
    | succ j =>
      simp only [List.getElem?_cons_succ] at ha hb
      exact ih j a b ha hb

/-- values grow by at least one per entry: a chain whose values stay `≤ 128` is short -/
theorem chain_short {f : Nat → Nat} (hm : Mono f) {cur : Nat} {items : List (Nat × Nat)}
    (h : ChangeChain f cur items) (hle : ∀ p ∈ items, p.2 ≤ 128) :
    items = [] ∨ f cur + items.length ≤ 128 := by
  induction h with
  | nil cur => exact .inl rfl
  | cons hx hr hrest ih =>
    rename_i cur x rest
    right
    have h1 := step_lt hm hx hr
    have h2 : f x ≤ 128 := hle (x, f x) (by simp)
    rcases ih (fun p hp => hle p (by simp [hp])) with h | h
    · subst h; simp; omega
    · simp only [List.length_cons]; omega

/-- why the list stops at `cur`: no further change point within reach, or the next one has a
    length above 128 -/
def Stops (f : Nat → Nat) (cur : Nat) : Prop :=
  (¬ ∃ x, LeastChange f cur x ∧ InReach cur x) ∨
  (∃ x, LeastChange f cur x ∧ InReach cur x ∧ 128 < f x)

/-- the loop of `get_implied_distribution` after the first item: it runs out of fuel only on a
    chain of `fuel` items with lengths `≤ 128`; otherwise it returns a chain of consecutive least
    change points with lengths `≤ 128` and stops for one of the two reasons of `Stops` -/
theorem impliedCollect_spec {f : Nat → Nat} (hm : Mono f) :
    ∀ (fuel : Nat) (s : FC) (acc : List (Nat × Nat)), Started f s →
      (impliedCollect f fuel s acc = .err .other ∧
        ∃ items, ChangeChain f s.current items ∧ items.length = fuel ∧ ∀ p ∈ items, p.2 ≤ 128) ∨
      (∃ items, impliedCollect f fuel s acc = .ok (acc.reverse ++ items) ∧
        ChangeChain f s.current items ∧ (∀ p ∈ items, p.2 ≤ 128) ∧ items.length < fuel ∧
        Stops f (lastPoint s.current items)) := by
  intro fuel
  induction fuel with
  | zero =>
    intro s acc _
    exact .inl ⟨rfl, [], .nil _, rfl, fun p hp => by cases hp⟩
  | succ fuel ih =>
    intro s acc hs
    rcases next_started hm hs with ⟨x, hx, hr, hn, hst⟩ | ⟨hno, hn⟩
    · by_cases h128 : f x ≤ 128
      · have hstep : impliedCollect f (fuel + 1) s acc =
            impliedCollect f fuel { current := x, prev := some (f x) } ((x, f x) :: acc) := by
          simp only [impliedCollect, hn, h128, if_true]
        rcases ih { current := x, prev := some (f x) } ((x, f x) :: acc) hst with
          ⟨he, items, hch, hl, hle⟩ | ⟨items, hc, hch, hle, hl, hstop⟩
        · left
          exact ⟨by rw [hstep, he], (x, f x) :: items, .cons hx hr hch, by rw [List.length_cons, hl],
            List.forall_mem_cons.2 ⟨h128, hle⟩⟩
        · right
          refine ⟨(x, f x) :: items, ?_, .cons hx hr hch, List.forall_mem_cons.2 ⟨h128, hle⟩,
            Nat.succ_lt_succ hl, ?_⟩
          · rw [hstep, hc, List.reverse_cons, List.append_assoc, List.singleton_append]
          · rw [lastPoint_cons]; exact hstop
      · right
        refine ⟨[], ?_, .nil _, fun p hp => (by cases hp), Nat.succ_pos _, ?_⟩
        · simp only [impliedCollect, hn, h128, if_false, List.append_nil]
        · exact .inr ⟨x, by simpa [lastPoint] using hx, by simpa [lastPoint] using hr,
            Nat.lt_of_not_le h128⟩
    · right
      refine ⟨[], ?_, .nil _, fun p hp => (by cases hp), Nat.succ_pos _, ?_⟩
      · simp only [impliedCollect, hn, List.append_nil]
      · exact .inl (by simpa [lastPoint] using hno)

structure ImpliedSpec (f : Nat → Nat) (l : List (Nat × Nat)) : Prop where
  empty : 128 < f 0 → l = []
  head : f 0 ≤ 128 → l.head? = some (0, f 0)
  entries : ∀ p ∈ l, p.2 = f p.1 ∧ p.2 ≤ 128
  increasing : l.Pairwise (fun a b => a.1 < b.1 ∧ a.2 < b.2)
  consecutive : ∀ (i : Nat) (a b : Nat × Nat), l[i]? = some a → l[i + 1]? = some b →
    LeastChange f a.1 b.1 ∧ InReach a.1 b.1 ∧ f b.1 ≠ f (b.1 - 1)
  /-- at most 129 entries (lengths `0 … 128`) -/
  short : l.length ≤ 129
  complete : f 0 ≤ 128 → Stops f (lastPoint 0 l)

/-- for every fuel: either the fuel ran out (`err other`, only when `fuel < 130`), or the list
    satisfies the specification -/
theorem impliedChangePoints_spec {f : Nat → Nat} (hm : Mono f) (fuel : Nat) :
    (impliedChangePoints f fuel = .err .other ∧ fuel < 130) ∨
    (∃ l, impliedChangePoints f fuel = .ok l ∧ ImpliedSpec f l) := by
  cases fuel with
  | zero => exact .inl ⟨rfl, by decide⟩
  | succ n =>
    by_cases h0 : f 0 ≤ 128
    · have hstep : impliedChangePoints f (n + 1) =
          impliedCollect f n { current := 0, prev := some (f 0) } [(0, f 0)] := by
        simp only [impliedChangePoints, impliedCollect, next_first, h0, if_true]
      rcases impliedCollect_spec hm n { current := 0, prev := some (f 0) } [(0, f 0)]
          (started_first f) with ⟨he, items, hch, hl, hle⟩ | ⟨items, hc, hch, hle, hl, hstop⟩
      · left
        refine ⟨by rw [hstep, he], ?_⟩
        rcases chain_short hm hch hle with h | h
        · subst h; simp at hl; omega
        · simp only at h; omega
      · right
        refine ⟨(0, f 0) :: items, by rw [hstep, hc]; simp, ?_⟩
        have hpw := chain_pairwise hm hch
        refine ⟨fun h => absurd h0 (Nat.not_le.2 h), fun _ => rfl,
          List.forall_mem_cons.2 ⟨⟨rfl, h0⟩, fun p hp => ⟨chain_snd hch p hp, hle p hp⟩⟩, hpw,
          chain_consecutive hch, ?_, ?_⟩
        · rcases chain_short hm hch hle with h | h
          · subst h; simp
          · simp only at h; simp only [List.length_cons]; omega
        · intro _
          rw [lastPoint_cons]; exact hstop
    · right
      refine ⟨[], ?_, fun _ => rfl, fun h => absurd h h0, fun p hp => (by cases hp), by simp,
        fun i a b ha => (by simp at ha), by simp, fun h => absurd h h0⟩
      simp only [impliedChangePoints, impliedCollect, next_first, h0, if_false, List.reverse_nil]

theorem impliedCollect_takeWhile {f : Nat → Nat} (hm : Mono f) :
    ∀ (fuel : Nat) (s : FC) (acc acc' : List (Nat × Nat)) (l : List (Nat × Nat)), Started f s →
      impliedCollect f fuel s acc = .ok l →
      ∃ items ended, collect f fuel s acc' = .ok (acc'.reverse ++ items, ended) ∧
        l = acc.reverse ++ items.takeWhile (fun p => decide (p.2 ≤ 128)) := by
  intro fuel
  induction fuel with
  | zero => intro s acc acc' l _ h; cases h
  | succ fuel ih =>
    intro s acc acc' l hs h
    rcases next_started hm hs with ⟨x, hx, hr, hn, hst⟩ | ⟨hno, hn⟩
    · by_cases h128 : f x ≤ 128
      · simp only [impliedCollect, hn, h128, if_true] at h
        obtain ⟨items, ended, hc, hl⟩ := ih _ _ ((x, f x) :: acc') l hst h
        refine ⟨(x, f x) :: items, ended, ?_, ?_⟩
        · simp only [collect, hn, hc]; simp
        · rw [hl]; simp [h128]
      · simp only [impliedCollect, hn, h128, if_false, Res.ok.injEq] at h
        obtain ⟨items, ended, hc, _⟩ := collect_spec hm fuel _ ((x, f x) :: acc') hst
        refine ⟨(x, f x) :: items, ended, ?_, ?_⟩
        · simp only [collect, hn, hc]; simp
        · rw [← h]; simp [h128]
    · simp only [impliedCollect, hn, Res.ok.injEq] at h
      exact ⟨[], true, by simp [collect, hn], by simp [← h]⟩

theorem impliedChangePoints_takeWhile {f : Nat → Nat} (hm : Mono f) (fuel : Nat)
    (l : List (Nat × Nat)) (h : impliedChangePoints f fuel = .ok l) :
    ∃ items ended, changePoints f fuel = .ok (items, ended) ∧
      l = items.takeWhile (fun p => decide (p.2 ≤ 128)) := by
  cases fuel with
  | zero => cases h
  | succ n =>
    by_cases h0 : f 0 ≤ 128
    · simp only [impliedChangePoints, impliedCollect, next_first, h0, if_true] at h
      obtain ⟨items, ended, hc, hl⟩ := impliedCollect_takeWhile hm n _ _ [(0, f 0)] l (started_first f) h
      refine ⟨(0, f 0) :: items, ended, ?_, ?_⟩
      · simp only [changePoints, collect, next_first, hc]; simp
      · rw [hl]; simp [h0]
    · simp only [impliedChangePoints, impliedCollect, next_first, h0, if_false, List.reverse_nil,
        Res.ok.injEq] at h
      obtain ⟨items, ended, hc, _⟩ := collect_spec hm n _ [(0, f 0)] (started_first f)
      refine ⟨(0, f 0) :: items, ended, ?_, ?_⟩
      · simp only [changePoints, collect, next_first, hc]; simp
      · rw [← h]; simp [h0]

end G2
end Dsi
