/-
  C05 — the δ tables against the bit-by-bit programs (no γ table inside), evaluated by the kernel
  (decoding and encoding tables on the number machines of `TablesNat`, the length table as
  stated); see `TablesOkGamma`.
-/
import Dsi.Lemmas.TablesNat
import Dsi.Gen.TablesDelta
namespace Dsi
open Gen Tables

theorem delta_read_be_ok :
    chkReadTable .be (readDeltaDefault none) Delta.READ_BITS Delta.MISSING_VALUE_LEN_BE
      Delta.READ_BE_chunks Delta.READ_LEN_BE_chunks = true :=
  chkReadTable_of_shared peekFree_delta (by decide +kernel)

theorem delta_read_le_ok :
    chkReadTable .le (readDeltaDefault none) Delta.READ_BITS Delta.MISSING_VALUE_LEN_LE
      Delta.READ_LE_chunks Delta.READ_LEN_LE_chunks = true :=
  chkReadTable_of_shared peekFree_delta (by decide +kernel)

theorem delta_write_be_ok :
    chkWriteTable .be (writeDeltaDefault false none) Delta.WRITE_MAX
      Delta.WRITE_BE_chunks Delta.WRITE_LEN_BE_chunks = true :=
  chkWriteTable_of_nat (by decide +kernel)

theorem delta_write_le_ok :
    chkWriteTable .le (writeDeltaDefault false none) Delta.WRITE_MAX
      Delta.WRITE_LE_chunks Delta.WRITE_LEN_LE_chunks = true :=
  chkWriteTable_of_nat (by decide +kernel)

theorem delta_len_ok :
    chkLenTable (lenDelta none none) Delta.WRITE_MAX Delta.LEN_chunks = true := by decide +kernel

end Dsi
