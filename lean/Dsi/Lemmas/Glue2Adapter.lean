/-
  Glue 2, part 1(b): the `WordAdapter` over a byte sink / byte source.  Writing the delivered
  words through the adapter produces the memory image (the canonical byte layout of the delivered
  bits); reading `W/8`-byte chunks through the adapter yields the logical words a memory reader
  over the same bytes holds (`wordsOfBytes`).
-/
import Dsi.Lemmas.Glue2Backends
namespace Dsi
namespace G2
variable {W : Nat}

theorem writeWords_transparent (e : Endian) (out : List (BitVec W)) :
    ∀ (s : Sink), s.sched = [] →
      Sink.writeWords s (out.map (BufW.wordBytes e)) =
        .ok { s with bytes := s.bytes ++ out.flatMap (BufW.wordBytes e) } := by
  induction out with
  | nil => intro s _; cases s; simp [Sink.writeWords]
  | cons w ws ih =>
    intro s hs
    simp only [List.map_cons, Sink.writeWords]
    rw [adapter_write_transparent s _ hs]
    simp only
    rw [ih { bytes := s.bytes ++ BufW.wordBytes e w, sched := s.sched } hs]
    simp [List.flatMap_cons, List.append_assoc]

theorem writeWords_lossless (e : Endian) (out : List (BitVec W)) (s s' : Sink)
    (h : Sink.writeWords s (out.map (BufW.wordBytes e)) = .ok s') :
    s'.bytes = s.bytes ++ out.flatMap (BufW.wordBytes e) := by
  rw [(adapter_write_words_lossless s _).1 s' h, List.flatMap_def]

/-- the logical word of a chunk of bytes: `from_be_bytes` / `from_le_bytes` -/
def wordOfChunk (e : Endian) (W : Nat) (c : List Nat) : BitVec W := BitVec.ofNat W (E2E.wordVal e c)

/-- `WordAdapter::read_word`: `read_exact` of `W/8` bytes, then `from_be_bytes`/`from_le_bytes` -/
def adReadWord (e : Endian) (W : Nat) (src : Source) : Res (BitVec W × Source) :=
  (src.readWord (W / 8)).map fun (c, s') => (wordOfChunk e W c, s')

theorem chunksExact_getElem? {B : Nat} (hB : 0 < B) (k : Nat) : ∀ (l : List Nat) (fuel : Nat),
    l.length = k * B → k ≤ fuel → ∀ i, i < k →
    (chunksExact B l fuel).1[i]? = some ((l.drop (i * B)).take B) := by
  induction k with
  | zero => intro l fuel _ _ i hi; exact absurd hi (Nat.not_lt_zero i)
  | succ k ih =>
    intro l fuel hl hk i hi
    cases fuel with
    | zero => exact absurd hk (Nat.not_succ_le_zero k)
    | succ f =>
      rw [Nat.succ_mul] at hl
      have hge : ¬ l.length < B := hl ▸ Nat.not_lt.2 (Nat.le_add_left B _)
      have hd : (l.drop B).length = k * B := by rw [List.length_drop, hl, Nat.add_sub_cancel]
      simp only [chunksExact, Nat.ne_of_gt hB, hge, if_false]
      cases i with
      | zero => rw [List.getElem?_cons_zero, Nat.zero_mul, List.drop_zero]
      | succ j =>
        rw [List.getElem?_cons_succ, ih (l.drop B) f hd (Nat.le_of_succ_le_succ hk) j
          (Nat.lt_of_succ_lt_succ hi), List.drop_drop, Nat.succ_mul, Nat.add_comm]

theorem wordsOfBytes_length (e : Endian) (hB : 0 < W / 8) (bytes : List Nat) :
    (wordsOfBytes e W bytes).length = (padTo (W / 8) bytes).length / (W / 8) := by
  rw [E2E.wordsOfBytes_eq, List.length_map]
  exact (E2E.chunksExact_spec hB _ (padTo (W / 8) bytes) bytes.length (E2E.padTo_length_eq hB bytes)
    (E2E.padTo_chunks_le hB bytes)).2.2

theorem wordsOfBytes_length_whole (e : Endian) (hB : 0 < W / 8) (bytes : List Nat)
    (hmod : bytes.length % (W / 8) = 0) :
    (wordsOfBytes e W bytes).length = bytes.length / (W / 8) := by
  rw [wordsOfBytes_length e hB, E2E.padTo_of_mod bytes hmod]

theorem wordsOfBytes_getElem? (e : Endian) (hB : 0 < W / 8) (bytes : List Nat) (i : Nat)
    (hi : (i + 1) * (W / 8) ≤ bytes.length) :
    (wordsOfBytes e W bytes)[i]? = some (wordOfChunk e W ((bytes.drop (i * (W / 8))).take (W / 8))) := by
  have hlen := E2E.padTo_length_eq hB bytes
  have hle : bytes.length ≤ (padTo (W / 8) bytes).length := by
    rw [E2E.padTo_eq hB, List.length_append]; omega
  have hik : i < (padTo (W / 8) bytes).length / (W / 8) := by
    show i + 1 ≤ _
    exact (Nat.le_div_iff_mul_le hB).2 (Nat.le_trans hi hle)
  rw [E2E.wordsOfBytes_eq, List.getElem?_map,
    chunksExact_getElem? hB _ (padTo (W / 8) bytes) bytes.length hlen (E2E.padTo_chunks_le hB bytes) i hik]
  simp only [Option.map_some, wordOfChunk]
  congr 3
  rw [E2E.padTo_eq hB]
  have h1 : i * (W / 8) ≤ bytes.length := by rw [Nat.succ_mul] at hi; omega
  rw [List.drop_append_of_le_length h1, List.take_append_of_le_length]
  rw [List.length_drop]
  rw [Nat.succ_mul] at hi
  omega

/-- the adapter over the bytes from word `pos` on and the strict memory reader at word `pos`
    over the words of the same byte image -/
def AdRel (e : Endian) (W : Nat) (allBytes : List Nat) (src : Source) (m : MemR W) : Prop :=
  src.sched = [] ∧ m.strict = true ∧ m.data = wordsOfBytes e W allBytes ∧
  src.bytes = allBytes.drop (m.pos * (W / 8)) ∧ m.pos ≤ m.data.length

theorem adReadWord_eof (e : Endian) (src : Source) (hs : src.sched = [])
    (h : src.bytes.length < W / 8) : adReadWord e W src = .err .eof := by
  unfold adReadWord
  rw [(adapter_read_transparent src (W / 8) hs).2.1 h]
  rfl

theorem adReadWord_at (e : Endian) (allBytes : List Nat) (p : Nat)
    (hp : (p + 1) * (W / 8) ≤ allBytes.length) {src : Source} (hs : src.sched = [])
    (hb : src.bytes = allBytes.drop (p * (W / 8))) :
    adReadWord e W src = .ok (wordOfChunk e W ((allBytes.drop (p * (W / 8))).take (W / 8)),
      { src with bytes := allBytes.drop ((p + 1) * (W / 8)) }) := by
  have hlen : W / 8 ≤ src.bytes.length := by
    rw [hb, List.length_drop]
    rw [Nat.succ_mul, Nat.add_comm] at hp
    exact Nat.le_sub_of_add_le hp
  rw [adReadWord, (adapter_read_transparent src (W / 8) hs).1 hlen, hb, List.drop_drop,
    ← Nat.succ_mul]
  rfl

/-- **Fault-free reads through the adapter are the reads of the memory reader.**  On a byte image
    of a whole number of words, `read_word` through the adapter and `read_word` of the strict
    memory reader over `wordsOfBytes` return the same word and stay related, and both report
    `eof` at the end. -/
theorem adReadWord_refines (e : Endian) (hB : 0 < W / 8) (allBytes : List Nat)
    (hmod : allBytes.length % (W / 8) = 0) {src : Source} {m : MemR W}
    (h : AdRel e W allBytes src m) :
    ResRel (fun (w, src') (w', m') => w = w' ∧ AdRel e W allBytes src' m')
      (adReadWord e W src) m.readWord := by
  obtain ⟨hs, hstrict, hdata, hbytes, hpos⟩ := h
  have hlen := wordsOfBytes_length_whole e hB allBytes hmod
  -- the image is exactly `m.data.length` words long
  have hdm : (W / 8) * m.data.length = allBytes.length := by
    have := Nat.div_add_mod allBytes.length (W / 8)
    rwa [hmod, Nat.add_zero, ← hlen, ← hdata] at this
  by_cases hin : m.pos < m.data.length
  · have hi : (m.pos + 1) * (W / 8) ≤ allBytes.length := by
      rw [← hdm, Nat.mul_comm]; exact Nat.mul_le_mul_left _ hin
    rw [memr_read_inside m hin, adReadWord_at e allBytes m.pos hi hs hbytes]
    refine ⟨?_, hs, hstrict, hdata, rfl, hin⟩
    have h1 := wordsOfBytes_getElem? e hB allBytes m.pos hi
    rw [← hdata] at h1
    exact ((List.getElem?_eq_some_iff.1 h1).2).symm
  · have hend : m.data.length ≤ m.pos := Nat.not_lt.1 hin
    rw [(memr_strict_read_eof m hstrict hend).1, adReadWord_eof e src hs (by
      rw [hbytes, List.length_drop, Nat.le_antisymm hpos hend, Nat.mul_comm, hdm, Nat.sub_self]
      exact hB)]
    rfl

theorem adRel_start (e : Endian) (allBytes : List Nat) :
    AdRel e W allBytes { bytes := allBytes } { data := wordsOfBytes e W allBytes, pos := 0, strict := true } :=
  ⟨rfl, rfl, rfl, by simp, Nat.zero_le _⟩

def adReadWords (e : Endian) (W : Nat) : Source → Nat → Res (List (BitVec W) × Source)
  | s, 0 => .ok ([], s)
  | s, k + 1 =>
    match adReadWord e W s with
    | .ok (w, s') =>
      match adReadWords e W s' k with
      | .ok (ws, s'') => .ok (w :: ws, s'')
      | .err x => .err x
      | .panic => .panic
      | .dpanic => .dpanic
    | .err x => .err x
    | .panic => .panic
    | .dpanic => .dpanic

/-- **The adapter's word stream.**  Whatever the length of the byte image (a trailing partial
    word allowed): with a fault-free source positioned at word `i`, the adapter returns the
    successive `W/8`-byte chunks as the words `i, i+1, …` of the memory reader's view
    (`wordsOfBytes`) while complete words remain. -/
theorem adReadWords_complete (e : Endian) (hB : 0 < W / 8) (allBytes : List Nat) (k : Nat) :
    ∀ i, (i + k) * (W / 8) ≤ allBytes.length →
      adReadWords e W { bytes := allBytes.drop (i * (W / 8)) } k =
        .ok (((wordsOfBytes e W allBytes).drop i).take k,
             { bytes := allBytes.drop ((i + k) * (W / 8)) }) := by
  induction k with
  | zero => intro i _; simp [adReadWords]
  | succ k ih =>
    intro i hi
    rw [← Nat.add_assoc, Nat.add_right_comm] at hi
    have hi1 : (i + 1) * (W / 8) ≤ allBytes.length :=
      Nat.le_trans (Nat.mul_le_mul_right _ (Nat.le_add_right _ k)) hi
    have hw := wordsOfBytes_getElem? e hB allBytes i hi1
    obtain ⟨hlt, hget⟩ := List.getElem?_eq_some_iff.1 hw
    rw [adReadWords, adReadWord_at e allBytes i hi1 rfl rfl]
    dsimp only
    rw [ih (i + 1) hi, List.drop_eq_getElem_cons hlt, List.take_succ_cons, hget,
      Nat.add_right_comm i 1 k, Nat.add_assoc]

theorem wordBytes_eq_layout (e : Endian) (h8 : 8 ∣ W) (w : BitVec W) :
    BufW.wordBytes e w = layout e (wordBits e w) := by
  have := layout_word e h8 w []
  simpa [layout, layoutAux] using this.symm

theorem wordBits_inj (e : Endian) {a b : BitVec W} (h : wordBits e a = wordBits e b) : a = b := by
  have h' : fieldLE a.toNat W = fieldLE b.toNat W := by
    cases e
    · exact List.reverse_inj.1 h
    · exact h
  have h2 := congrArg natLE h'
  rw [natLE_fieldLE, natLE_fieldLE, Nat.mod_eq_of_lt a.isLt, Nat.mod_eq_of_lt b.isLt] at h2
  exact BitVec.eq_of_toNat_eq h2

/-- `from_be_bytes(to_be_bytes(w)) = w` (and LE): the logical word of the native bytes of a word
    is the word -/
theorem wordOfChunk_wordBytes (e : Endian) (h8 : 8 ∣ W) (w : BitVec W) :
    wordOfChunk e W (BufW.wordBytes e w) = w := by
  apply wordBits_inj e
  have hlt : ∀ b ∈ BufW.wordBytes e w, b < 256 := by
    rw [wordBytes_eq_layout e h8]; exact e2e_layout_lt e _
  rw [wordOfChunk, E2E.word_of_chunk e h8 _ (E2E.wordBytes_length e w) hlt, wordBytes_eq_layout e h8,
    e2e_bits_of_layout]
  have hl : (wordBits e w).length = W := by simp [wordBits]
  obtain ⟨m, rfl⟩ := h8
  rw [hl, Nat.mul_mod_right]
  simp

theorem adReadWords_wordBytes (e : Endian) (h8 : 8 ∣ W) (out : List (BitVec W)) (rest : List Nat) :
    adReadWords e W { bytes := out.flatMap (BufW.wordBytes e) ++ rest } out.length =
      .ok (out, { bytes := rest }) := by
  induction out with
  | nil => simp [adReadWords]
  | cons w ws ih =>
    have hrd := (adapter_read_transparent
      { bytes := (w :: ws).flatMap (BufW.wordBytes e) ++ rest } (W / 8) rfl).1
      (by simp only [List.flatMap_cons, List.length_append, E2E.wordBytes_length]; omega)
    simp only [List.flatMap_cons, List.append_assoc] at hrd
    rw [List.take_left' (E2E.wordBytes_length e w), List.drop_left' (E2E.wordBytes_length e w)] at hrd
    simp only [List.length_cons, List.flatMap_cons, List.append_assoc]
    unfold adReadWords adReadWord
    rw [hrd]
    simp only [Res.map]
    rw [ih, wordOfChunk_wordBytes e h8]

end G2
end Dsi
