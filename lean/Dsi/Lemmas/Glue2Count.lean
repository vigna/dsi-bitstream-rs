/-
  Glue 2, part 2: the counting wrappers over the concrete machines.  A counted run of a program
  is the plain run of the program that carries the counter in its result (`wCounted`, `rCounted`),
  so the program-level simulations `wprog_sim` / `rprog_sim` transfer the counters too.
-/
import Dsi.Props.Writer
import Dsi.Props.Reader
import Dsi.Props.C14
namespace Dsi
namespace G2
open SmallL

variable {W : Nat}

/-- the writer program that carries `CountBitWriter`'s counter in its result: `write_bits` and
    `write_unary` add the count they return, `flush` adds nothing -/
def wCounted {α : Type} : WProg α → Nat → WProg (α × Nat)
  | .ret a, c => .ret (a, c)
  | .panic, _ => .panic
  | .dpanic, _ => .dpanic
  | .writeBits v n k, c => .writeBits v n (fun r => wCounted (k r) (c + r))
  | .writeUnary x k, c => .writeUnary x (fun r => wCounted (k r) (c + r))
  | .flush k, c => .flush (fun r => wCounted (k r) c)

theorem countw_run_eq {ω α : Type} (wi : WImpl ω) (p : WProg α) (i : ω) (c : Nat) :
    p.run (CountW.impl wi) ⟨i, c⟩ =
      ((wCounted p c).run wi i).map (fun x => (x.1.1, ({ inner := x.2, bitsWritten := x.1.2 } : CountW ω))) := by
  induction p generalizing i c with
  | ret a => rfl
  | panic => rfl
  | dpanic => rfl
  | writeBits v n k ih =>
    rw [WProg.run_writeBits, wCounted, WProg.run_writeBits]
    show ((wi.writeBits i v n).map _).bind _ = _
    cases wi.writeBits i v n with
    | ok x => exact ih x.1 x.2 _
    | _ => rfl
  | writeUnary x k ih =>
    rw [WProg.run_writeUnary, wCounted, WProg.run_writeUnary]
    show ((wi.writeUnary i x).map _).bind _ = _
    cases wi.writeUnary i x with
    | ok x => exact ih x.1 x.2 _
    | _ => rfl
  | flush k ih =>
    rw [WProg.run_flush, wCounted, WProg.run_flush]
    show ((wi.flush i).map _).bind _ = _
    cases wi.flush i with
    | ok x => exact ih x.1 x.2 _
    | _ => rfl

theorem countw_sim {α : Type} (e : Endian) (p : WProg α) {t : BufW W} {w : RefW}
    (h : BufW.RelC e t w) (c : Nat) :
    ResRel (fun (x : α × CountW (BufW W)) (y : α × CountW RefW) =>
        x.1 = y.1 ∧ BufW.RelC e x.2.inner y.2.inner ∧ x.2.bitsWritten = y.2.bitsWritten ∧
        t.out <+: x.2.inner.out)
      (p.run (CountW.impl (BufW.impl e)) ⟨t, c⟩) (p.run (CountW.impl RefW.impl) ⟨w, c⟩) := by
  rw [countw_run_eq, countw_run_eq]
  refine (wprog_sim e (wCounted p c) h).map _ _ ?_
  rintro ⟨⟨a, c1⟩, s'⟩ ⟨⟨b, c2⟩, r'⟩ ⟨hab, hrel, hpre⟩
  simp only [Prod.mk.injEq] at hab
  exact ⟨hab.1, hrel, hab.2, hpre⟩

/-- the reader program that carries `CountBitReader`'s counter in its result: reads count what
    they consume, `peek_bits` is free, the two skips count their argument -/
def rCounted {α : Type} : RProg α → Nat → RProg (α × Nat)
  | .ret a, c => .ret (a, c)
  | .fail x, _ => .fail x
  | .panic, _ => .panic
  | .dpanic, _ => .dpanic
  | .readBits n k, c => .readBits n (fun v => rCounted (k v) (c + n))
  | .readUnary k, c => .readUnary (fun v => rCounted (k v) (c + v + 1))
  | .peek n k, c => .peek n (fun x => rCounted (k x) c)
  | .skipAfterPeek n k, c => .skipAfterPeek n (rCounted k (c + n))
  | .skip n k, c => .skip n (rCounted k (c + n))

theorem countr_run_eq {ρ α : Type} (ri : RImpl ρ) (p : RProg α) (i : ρ) (c : Nat) :
    p.run (CountR.impl ri) ⟨i, c⟩ =
      ((rCounted p c).run ri i).map (fun x => (x.1.1, ({ inner := x.2, bitsRead := x.1.2 } : CountR ρ))) := by
  induction p generalizing i c with
  | ret a => rfl
  | fail x => rfl
  | panic => rfl
  | dpanic => rfl
  | readBits n k ih =>
    rw [RProg.run_readBits, rCounted, RProg.run_readBits]
    show ((ri.readBits i n).map _).bind _ = _
    cases ri.readBits i n with
    | ok x => exact ih x.1 x.2 _
    | _ => rfl
  | readUnary k ih =>
    rw [RProg.run_readUnary, rCounted, RProg.run_readUnary]
    show ((ri.readUnary i).map _).bind _ = _
    cases ri.readUnary i with
    | ok x => exact ih x.1 x.2 _
    | _ => rfl
  | peek n k ih =>
    simp only [RProg.run, CountR.impl, rCounted]
    cases ri.peekBits i n with
    | ok x => exact ih (.ok x.1) x.2 _
    | err e => exact ih (.error e) i c
    | _ => rfl
  | skipAfterPeek n k ih => exact ih _ _
  | skip n k ih =>
    rw [RProg.run_skip, rCounted, RProg.run_skip]
    show ((ri.skipBits i n).map _).bind _ = _
    cases ri.skipBits i n with
    | ok i' => exact ih i' _
    | _ => rfl

theorem peekBounded_counted {α : Type} (p : RProg α) :
    ∀ (cr c : Nat), PeekBounded W cr p → PeekBounded W cr (rCounted p c) := by
  induction p with
  | ret a => intro _ _ _; trivial
  | fail x => intro _ _ _; trivial
  | panic => intro _ _ _; trivial
  | dpanic => intro _ _ _; trivial
  | readBits n k ih => intro cr c h v; exact ih v 0 _ (h v)
  | readUnary k ih => intro cr c h v; exact ih v 0 _ (h v)
  | peek n k ih =>
    intro cr c h
    exact ⟨h.1, fun v => ih (.ok v) n c (h.2.1 v), fun x => ih (.error x) cr c (h.2.2 x)⟩
  | skipAfterPeek n k ih => intro cr c h; exact ⟨h.1, ih _ _ h.2⟩
  | skip n k ih => intro cr c h; exact ih 0 _ h

theorem countr_sim {α : Type} {e : Endian} (hW64 : e = .be → W ≤ 64) (p : RProg α)
    (hp : PeekBounded W 0 p) {s : BufR W} {r : RefR} (h : BufR.Rel e s r) (c : Nat) :
    ResRel (fun (x : α × CountR (BufR W)) (y : α × CountR RefR) =>
        x.1 = y.1 ∧ BufR.Rel e x.2.inner y.2.inner ∧ x.2.bitsRead = y.2.bitsRead)
      (p.run (CountR.impl (BufR.impl e)) ⟨s, c⟩) (p.run (CountR.impl RefR.impl) ⟨r, c⟩) := by
  rw [countr_run_eq, countr_run_eq]
  refine (rprog_sim hW64 (rCounted p c) (peekBounded_counted p 0 c hp) h).map _ _ ?_
  rintro ⟨⟨a, c1⟩, s'⟩ ⟨⟨b, c2⟩, r'⟩ ⟨hab, hrel⟩
  simp only [Prod.mk.injEq] at hab
  exact ⟨hab.1, hrel, hab.2⟩

end G2
end Dsi
