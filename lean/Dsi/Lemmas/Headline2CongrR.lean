/-
  Headline2: two implementations of the `BitRead` interface that agree on the states of an
  invariant `J` kept by the second one (peeks of at most `Wd` bits) run every program alike.
  Used to replace the hand-written reader by the generated one, also *under* a wrapper
  (`CountR.impl`).  `rrun_congr` and `rrun_keeps` are read off the simulation of `I'` by `I` along
  the relation "same state, in `J`"; `rrun_below` (agreement only where the outcome stays in a set
  `B`, `RAgreeBelow`) is an induction of its own.
-/
import Dsi.Lemmas.ProgSim
namespace Dsi

namespace Headline

/-- every `peek_bits` of the program asks for at most `W` bits (`PeekBounded W c p` implies it) -/
def PeekLe {α : Type} (W : Nat) : RProg α → Prop
  | .ret _ => True
  | .fail _ => True
  | .panic => True
  | .dpanic => True
  | .readBits _ k => ∀ v, PeekLe W (k v)
  | .readUnary k => ∀ v, PeekLe W (k v)
  | .peek n k => n ≤ W ∧ ∀ v, PeekLe W (k v)
  | .skipAfterPeek _ k => PeekLe W k
  | .skip _ k => PeekLe W k

theorem PeekLe.peeks {W : Nat} {α : Type} {p : RProg α} (h : PeekLe W p) : p.Peeks (· ≤ W) := by
  induction p with
  | peek n k ih => exact ⟨h.1, fun v => ih v (h.2 v)⟩
  | readBits n k ih => exact fun v => ih v (h v)
  | readUnary k ih => exact fun v => ih v (h v)
  | skipAfterPeek n k ih => exact ih h
  | skip n k ih => exact ih h
  | _ => trivial

theorem PeekLe.bind {W : Nat} {α β : Type} {p : RProg α} {f : α → RProg β} (hp : PeekLe W p)
    (hf : ∀ a, PeekLe W (f a)) : PeekLe W (p.bind f) := by
  induction p with
  | ret a => exact hf a
  | fail x => trivial
  | panic => trivial
  | dpanic => trivial
  | readBits n k ih => exact fun v => ih v (hp v)
  | readUnary k ih => exact fun v => ih v (hp v)
  | peek n k ih => exact ⟨hp.1, fun v => ih v (hp.2 v)⟩
  | skipAfterPeek n k ih => exact ih hp
  | skip n k ih => exact ih hp

end Headline

namespace Headline2
open Headline

structure RAgree {σ : Type} (I I' : RImpl σ) (J : σ → Prop) (Wd : Nat) : Prop where
  readBits : ∀ s n, J s → I.readBits s n = I'.readBits s n ∧
    ∀ v s', I'.readBits s n = .ok (v, s') → J s'
  readUnary : ∀ s, J s → I.readUnary s = I'.readUnary s ∧
    ∀ v s', I'.readUnary s = .ok (v, s') → J s'
  peekBits : ∀ s n, J s → n ≤ Wd → I.peekBits s n = I'.peekBits s n ∧
    ∀ v s', I'.peekBits s n = .ok (v, s') → J s'
  skipAfterPeek : ∀ s n, J s → I.skipAfterPeek s n = I'.skipAfterPeek s n ∧ J (I'.skipAfterPeek s n)
  skipBits : ∀ s n, J s → I.skipBits s n = I'.skipBits s n ∧
    ∀ s', I'.skipBits s n = .ok s' → J s'

variable {σ α : Type} {I I' : RImpl σ} {J : σ → Prop} {Wd : Nat}

theorem RAgree.sim (h : RAgree I I' J Wd) : RImpl.Sim I I' (fun s t => s = t ∧ J t) (· ≤ Wd) where
  readBits := by
    rintro s _ ⟨rfl, hj⟩ n
    rw [(h.readBits s n hj).1]
    exact .refl fun a ha => ⟨rfl, rfl, (h.readBits s n hj).2 _ _ ha⟩
  peekBits := by
    rintro s _ ⟨rfl, hj⟩ n hn
    rw [(h.peekBits s n hj hn).1]
    exact .refl fun a ha => ⟨rfl, rfl, (h.peekBits s n hj hn).2 _ _ ha⟩
  skipAfterPeek := by
    rintro s _ ⟨rfl, hj⟩ n
    exact h.skipAfterPeek s n hj
  skipBits := by
    rintro s _ ⟨rfl, hj⟩ n
    rw [(h.skipBits s n hj).1]
    exact .refl fun a ha => ⟨rfl, (h.skipBits s n hj).2 _ ha⟩
  readUnary := by
    rintro s _ ⟨rfl, hj⟩
    rw [(h.readUnary s hj).1]
    exact .refl fun a ha => ⟨rfl, rfl, (h.readUnary s hj).2 _ _ ha⟩

theorem rrun_congr (h : RAgree I I' J Wd) (p : RProg α) (s : σ) (hj : J s) (hp : PeekLe Wd p) :
    p.run I s = p.run I' s :=
  ((RProg.run_sim h.sim p hp.peeks ⟨rfl, hj⟩).mono fun _ _ hab => Prod.ext hab.1 hab.2.1).eq_of_eq

theorem rrun_keeps (h : RAgree I I' J Wd) (p : RProg α) {s : σ} (hj : J s) (hp : PeekLe Wd p)
    {a : α} {s' : σ} (hr : p.run I' s = .ok (a, s')) : J s' := by
  have hsim := RProg.run_sim h.sim p hp.peeks ⟨rfl, hj⟩
  rw [hr] at hsim
  obtain ⟨_, _, hab⟩ := hsim.of_ok_right
  exact hab.2.2

/-- `I` does what `I'` does wherever the outcome of `I'` lies in `B`, a set of states that the steps
    `T` of `I'` only leave: `B` is typically "below a bound" on a quantity `I'` never decreases and
    `I` cannot represent beyond the bound. -/
structure RAgreeBelow (I I' : RImpl σ) (T : σ → σ → Prop) (B : σ → Prop) : Prop where
  steps : RImpl.Steps I' T
  back : ∀ {s s'}, T s s' → B s' → B s
  readBits : ∀ {s n v s'}, I'.readBits s n = .ok (v, s') → B s' → I.readBits s n = .ok (v, s')
  peekBits : ∀ {s n}, B s → I.peekBits s n = I'.peekBits s n
  skipAfterPeek : ∀ {s n}, B (I'.skipAfterPeek s n) → I.skipAfterPeek s n = I'.skipAfterPeek s n
  skipBits : ∀ {s n s'}, I'.skipBits s n = .ok s' → B s' → I.skipBits s n = .ok s'
  readUnary : ∀ {s v s'}, I'.readUnary s = .ok (v, s') → B s' → I.readUnary s = .ok (v, s')

/-- a successful run of `I'` that ends in `B` is a run of `I`: whatever follows an operation is
    itself a successful run, so the state after the operation is still in `B` -/
theorem rrun_below {T : σ → σ → Prop} {B : σ → Prop} (h : RAgreeBelow I I' T B) (p : RProg α) :
    ∀ {s a s'}, p.run I' s = .ok (a, s') → B s' → p.run I s = .ok (a, s') := by
  have before : ∀ {q : RProg α} {s a s'}, q.run I' s = .ok (a, s') → B s' → B s :=
    fun hq hb => h.back (RProg.run_steps h.steps _ (.any _) hq) hb
  induction p with
  | ret a => exact fun hr _ => hr
  | fail e => exact fun hr _ => nomatch hr
  | panic => exact fun hr _ => nomatch hr
  | dpanic => exact fun hr _ => nomatch hr
  | readBits n k ih =>
    intro s a s' hr hb
    rw [RProg.run_readBits] at hr ⊢
    obtain ⟨⟨v, s1⟩, ho, hk⟩ := Res.bind_eq_ok.1 hr
    rw [h.readBits ho (before hk hb)]
    exact ih v hk hb
  | readUnary k ih =>
    intro s a s' hr hb
    rw [RProg.run_readUnary] at hr ⊢
    obtain ⟨⟨v, s1⟩, ho, hk⟩ := Res.bind_eq_ok.1 hr
    rw [h.readUnary ho (before hk hb)]
    exact ih v hk hb
  | peek n k ih =>
    intro s a s' hr hb
    have hs : B s := before hr hb
    simp only [RProg.run] at hr ⊢
    rw [h.peekBits hs]
    cases ho : I'.peekBits s n <;> rw [ho] at hr <;> first | cases hr | exact ih _ hr hb
  | skipAfterPeek n k ih =>
    intro s a s' hr hb
    simp only [RProg.run] at hr ⊢
    rw [h.skipAfterPeek (before hr hb)]
    exact ih hr hb
  | skip n k ih =>
    intro s a s' hr hb
    rw [RProg.run_skip] at hr ⊢
    obtain ⟨s1, ho, hk⟩ := Res.bind_eq_ok.1 hr
    rw [h.skipBits ho (before hk hb)]
    exact ih hk hb

end Headline2
end Dsi
