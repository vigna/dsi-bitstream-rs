/-
  VByte on bit streams: the bit-stream readers simulate the byte-level ones and `writeBytesP`
  appends the bytes as 8-bit fields.
-/
import Dsi.Lemmas.CodesBVByteIO
namespace Dsi.CodesB
open Dsi

theorem bits_length (e : Endian) (bs : List Nat) :
    (bs.flatMap fun b => fieldBits e b 8).length = 8 * bs.length := by
  induction bs with
  | nil => rfl
  | cons b bs ih => rw [List.flatMap_cons, List.length_append, ih, fieldBits_length, List.length_cons,
      Nat.mul_succ, Nat.add_comm]

theorem writeBytesP_writes (e : Endian) (checks : Bool) : ∀ (bs : List Nat), (∀ b ∈ bs, b < 256) →
    WritesV (writeBytesP bs) e checks (bs.flatMap fun b => fieldBits e b 8) (8 * bs.length) := by
  intro bs
  induction bs with
  | nil => intro _; exact WritesV.ret e checks 0
  | cons b bs ih =>
    intro hx
    refine WritesV.writeBits (by decide) (clean_of_lt _ (hx b List.mem_cons_self)) ?_
    exact (WritesV.bind (k := fun r => .ret (r + 8)) (ih fun x hm => hx x (List.mem_cons_of_mem _ hm))
      (WritesV.ret e checks _)).congr (List.append_nil _) rfl

theorem Reads.readByte {α} {e : Endian} {k : Nat → RProg α} {b : Nat} {rest : List Bool} {c : α}
    (hb : b < 256) (h : Reads (k b) e rest c) : Reads (.readBits 8 k) e (fieldBits e b 8 ++ rest) c :=
  Reads.readBits (by decide) (by rwa [Nat.mod_eq_of_lt hb])

theorem beRead_succ (f value byte : Nat) :
    vbyteBeReadLoop (f + 1) value byte =
      if byte / 128 = 0 then .ret value else
      if value + 1 ≥ 2 ^ 64 then .dpanic else
      .readBits 8 fun b => vbyteBeReadLoop f (shl64 (value + 1) 7 + b % 128) b := by
  conv => lhs; unfold vbyteBeReadLoop

theorem leRead_succ (f result shift : Nat) :
    vbyteLeReadLoop (f + 1) result shift =
      if shift ≥ 64 then .dpanic else
      .readBits 8 fun b =>
        if result + shl64 (b % 128) shift ≥ 2 ^ 64 then .dpanic else
        if b / 128 = 0 then .ret (result + shl64 (b % 128) shift)
        else if shift + 7 ≥ 64 ∨ result + shl64 (b % 128) shift + 2 ^ (shift + 7) ≥ 2 ^ 64 then .dpanic
        else vbyteLeReadLoop f (result + shl64 (b % 128) shift + 2 ^ (shift + 7)) (shift + 7) := by
  conv => lhs; unfold vbyteLeReadLoop

theorem sim_be (e : Endian) : ∀ (fuel value byte : Nat) (bs : List Nat) (w : Nat),
    (∀ b ∈ bs, b < 256) → vbyteReadBeLoop fuel value byte bs = .ok (w, []) →
    Reads (vbyteBeReadLoop fuel value byte) e (bs.flatMap fun b => fieldBits e b 8) w := by
  intro fuel
  induction fuel with
  | zero => intro value byte bs w _ h; cases h
  | succ f ih =>
    intro value byte bs w hx h
    rw [beRead_succ]
    rcases readBe_ok_inv h with ⟨h0, hr⟩ | ⟨h0, h1, b, t, rfl, h'⟩
    · cases hr; rw [if_pos h0]; exact Reads.ret e _
    · rw [if_neg h0, if_neg h1, List.flatMap_cons]
      exact Reads.readByte (hx b List.mem_cons_self)
        (ih _ _ _ _ (fun x hm => hx x (List.mem_cons_of_mem _ hm)) h')

theorem sim_le (e : Endian) : ∀ (fuel result shift : Nat) (bs : List Nat) (w : Nat),
    (∀ b ∈ bs, b < 256) → vbyteReadLeLoop fuel result shift bs = .ok (w, []) →
    Reads (vbyteLeReadLoop fuel result shift) e (bs.flatMap fun b => fieldBits e b 8) w := by
  intro fuel
  induction fuel with
  | zero => intro result shift bs w _ h; cases h
  | succ f ih =>
    intro result shift bs w hx h
    obtain ⟨b, t, rfl, hs, hr, hc⟩ := readLe_ok_inv h
    rw [leRead_succ, if_neg hs, List.flatMap_cons]
    refine Reads.readByte (hx b List.mem_cons_self) ?_
    rw [if_neg hr]
    rcases hc with ⟨h0, hr⟩ | ⟨h0, h7, h'⟩
    · cases hr; rw [if_pos h0]; exact Reads.ret e _
    · rw [if_neg h0, if_neg h7]
      exact ih _ _ _ _ (fun x hm => hx x (List.mem_cons_of_mem _ hm)) h'

theorem readVByteBe_reads (e : Endian) (fuel : Nat) (s : List Nat) (ht : Term s)
    (hx : ∀ b ∈ s, b < 256) (hl : s.length ≤ fuel) (hv : vbyteValBe s < 2 ^ 64) :
    Reads (readVByteBe fuel) e (s.flatMap fun b => fieldBits e b 8) (vbyteValBe s) := by
  cases s with
  | nil => exact ht.elim
  | cons b bs =>
    have hloop := readBeLoop_ok bs fuel (b % 128) b [] ht hl hv
    rw [List.append_nil] at hloop
    exact Reads.readByte (hx b List.mem_cons_self)
      (sim_be e fuel _ b bs _ (fun x hm => hx x (List.mem_cons_of_mem _ hm)) hloop)

theorem readVByteLe_reads (e : Endian) (fuel : Nat) (s : List Nat) (ht : Term s)
    (hx : ∀ b ∈ s, b < 256) (hl : s.length ≤ fuel) (hv : vbyteValLe s < 2 ^ 64) :
    Reads (readVByteLe fuel) e (s.flatMap fun b => fieldBits e b 8) (vbyteValLe s) := by
  have hloop := readLeLoop_ok s fuel 0 0 [] ht hl (by decide)
    (by rwa [Nat.pow_zero, Nat.one_mul, Nat.zero_add])
  rw [List.append_nil, Nat.pow_zero, Nat.one_mul, Nat.zero_add] at hloop
  exact sim_le e fuel 0 0 s _ hx hloop

end Dsi.CodesB
