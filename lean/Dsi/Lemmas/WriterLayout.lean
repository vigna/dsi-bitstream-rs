/-
  Canonical byte layout (property C01) of delivered words, one field at a time: `layout` takes a
  full byte off the front (`layout_chunk`, `layout_induction`), the bits of a field of `8 * m` bits
  are its bytes in memory order (`layout_field_le/be`).  The statement for a list of words is
  `layout_words` of `Props/Writer`.
-/
import Dsi.Lemmas.WriterWord
namespace Dsi

theorem takeZ_eq (n : Nat) (l : List Bool) :
    takeZ n l = l.take n ++ List.replicate (n - l.length) false := by
  induction n generalizing l with
  | zero => simp [takeZ]
  | succ n ih =>
    cases l with
    | nil => simpa [takeZ, List.replicate_succ] using ih []
    | cons b t => simp [takeZ, ih t]

theorem layoutAux_fuel (e : Endian) (f1 f2 : Nat) (bs : List Bool) (h1 : bs.length ≤ f1)
    (h2 : bs.length ≤ f2) : layoutAux e f1 bs = layoutAux e f2 bs := by
  induction f1 generalizing f2 bs with
  | zero =>
    have : bs = [] := List.eq_nil_of_length_eq_zero (by omega)
    subst this
    cases f2 <;> simp [layoutAux]
  | succ f1 ih =>
    cases bs with
    | nil => cases f2 <;> simp [layoutAux]
    | cons b t =>
      cases f2 with
      | zero => simp at h2
      | succ f2 =>
        simp only [layoutAux, List.isEmpty_cons, Bool.false_eq_true, if_false]
        congr 1
        apply ih <;> simp only [List.length_drop, List.length_cons] at * <;> omega

theorem layout_unfold (e : Endian) (b : Bool) (t : List Bool) :
    layout e (b :: t) = byteOfBits e (b :: t) :: layout e ((b :: t).drop 8) := by
  simp only [layout, List.length_cons, layoutAux, List.isEmpty_cons, Bool.false_eq_true, if_false]
  congr 1
  apply layoutAux_fuel <;> simp only [List.length_drop, List.length_cons] <;> omega

theorem layout_nil (e : Endian) : layout e [] = [] := rfl

theorem layout_induction {P : List Bool → Prop} (nil : P [])
    (step : ∀ b t, P ((b :: t).drop 8) → P (b :: t)) (l : List Bool) : P l := by
  suffices h : ∀ n (l : List Bool), l.length ≤ n → P l from h _ l (Nat.le_refl _)
  intro n
  induction n with
  | zero => intro l hl; rw [List.eq_nil_of_length_eq_zero (Nat.le_zero.1 hl)]; exact nil
  | succ n ih =>
    intro l hl
    cases l with
    | nil => exact nil
    | cons b t =>
      refine step b t (ih _ ?_)
      rw [List.length_drop]
      omega

theorem layout_chunk (e : Endian) (a rest : List Bool) (ha : a.length = 8) :
    layout e (a ++ rest) = bitsVal e a :: layout e rest := by
  cases a with
  | nil => simp at ha
  | cons b t =>
    rw [List.cons_append, layout_unfold, ← List.cons_append]
    congr 1
    · rw [byteOfBits, takeZ_append_left _ _ 8 ha]
    · rw [← ha, List.drop_left]

theorem byte_le (x : Nat) : bitsVal .le (fieldBits .le x 8) = x % 256 := bitsVal_fieldBits .le x 8

theorem byte_be (x : Nat) : bitsVal .be (fieldBits .be x 8) = x % 256 := bitsVal_fieldBits .be x 8

theorem layout_field_le (m x : Nat) (rest : List Bool) :
    layout .le (fieldBits .le x (8 * m) ++ rest)
      = (List.range m).map (fun i => x / 2 ^ (8 * i) % 256) ++ layout .le rest := by
  induction m generalizing rest with
  | zero => simp [fieldBits, fieldLE]
  | succ m ih =>
    rw [fieldBits, fieldLE_cut x (n := 8 * (m + 1)) (a := 8 * m) (Nat.mul_le_mul_left 8 (Nat.le_succ m)),
      show 8 * (m + 1) - 8 * m = 8 by omega, List.append_assoc, ← fieldBits, ih,
      ← fieldBits, layout_chunk _ _ _ (fieldBits_length _ _ _), byte_le, List.range_succ,
      List.map_append, List.append_assoc]
    rfl

theorem layout_field_be (m x : Nat) (rest : List Bool) :
    layout .be (fieldBits .be x (8 * m) ++ rest)
      = ((List.range m).map (fun i => x / 2 ^ (8 * i) % 256)).reverse ++ layout .be rest := by
  induction m generalizing rest with
  | zero => simp [fieldBits, fieldLE]
  | succ m ih =>
    rw [fieldBE_cut x (n := 8 * (m + 1)) (b := 8 * m) (by omega),
      show 8 * (m + 1) - 8 * m = 8 by omega, List.append_assoc,
      layout_chunk _ _ _ (by simp), ih, byte_be, List.range_succ, List.map_append,
      List.reverse_append]
    simp

/-- bit `i < 8` of the stream sits at bit `7 - i` (BE) or `i` (LE) of the first byte -/
theorem testBit_byteOfBits (e : Endian) (l : List Bool) {i : Nat} (h : i < 8) :
    (byteOfBits e l).testBit (match e with | .be => 7 - i | .le => i) = l.getD i false := by
  rw [byteOfBits, testBit_bitsVal]
  cases e
  · rw [decide_eq_true (show 7 - i < 8 by omega), Bool.true_and, fieldIdx,
      show 8 - 1 - (7 - i) = i by omega]
    rfl
  · rw [decide_eq_true h, Bool.true_and]
    rfl

end Dsi
