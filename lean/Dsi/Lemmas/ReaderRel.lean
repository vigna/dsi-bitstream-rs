/-
  Bit-level forms of `BufR.Rel`: the window / cleanliness conjuncts restated bit by bit, per
  endianness with `getLsbD` (`RelLE`, `RelBE`) and for both at once in stream order (`RelS`, the
  form the operations are proved against).
-/
import Dsi.Lemmas.ReaderBits
namespace Dsi
namespace BufR
variable {W : Nat}

structure RelLE (s : BufR W) (r : RefR) : Prop where
  bib_lt  : s.bib < 2 * W
  he      : r.e = .le
  hstrict : r.strict = s.back.strict
  hpm     : r.peekMax = W
  hstream : r.stream = s.back.data.flatMap (wordBits .le)
  hpos    : r.pos + s.bib = s.back.pos * W
  hstr    : s.back.strict = true → s.back.pos ≤ s.back.data.length
  hin     : ∀ i, i < s.bib → s.buffer.getLsbD i = bitZ r.stream (r.pos + i)
  hout    : ∀ i, s.bib ≤ i → s.buffer.getLsbD i = false

structure RelBE (s : BufR W) (r : RefR) : Prop where
  bib_lt  : s.bib < 2 * W
  he      : r.e = .be
  hstrict : r.strict = s.back.strict
  hpm     : r.peekMax = W
  hstream : r.stream = s.back.data.flatMap (wordBits .be)
  hpos    : r.pos + s.bib = s.back.pos * W
  hstr    : s.back.strict = true → s.back.pos ≤ s.back.data.length
  hin     : ∀ i, i < s.bib → s.buffer.getLsbD (2 * W - 1 - i) = bitZ r.stream (r.pos + i)
  hout    : ∀ j, j < 2 * W - s.bib → s.buffer.getLsbD j = false

theorem clean_le_iff (s : BufR W) :
    s.Clean .le ↔ ∀ i, s.bib ≤ i → s.buffer.getLsbD i = false := by
  simp only [Clean, BitVec.getLsbD]
  constructor
  · intro h i hi
    exact Nat.testBit_lt_two_pow (Nat.lt_of_lt_of_le h (Nat.pow_le_pow_right (by decide) hi))
  · intro h
    exact Nat.lt_pow_two_of_testBit _ h

theorem window_le_iff (s : BufR W) (r : RefR) :
    s.window .le = takeZ s.bib r.rest ↔
      ∀ i, i < s.bib → s.buffer.getLsbD i = bitZ r.stream (r.pos + i) := by
  simp only [window, fieldBits, RefR.rest, BitVec.getLsbD]
  constructor
  · intro h i hi
    have := congrArg (fun l => bitZ l i) h
    simpa [bitZ_fieldLE, bitZ_takeZ, bitZ_drop, hi] using this
  · intro h
    apply list_eq_of_bitZ (by simp)
    intro i hi
    have hi' : i < s.bib := by simpa using hi
    simp [bitZ_fieldLE, bitZ_takeZ, bitZ_drop, hi', h i hi']

theorem rel_le_iff (s : BufR W) (r : RefR) : Rel .le s r ↔ RelLE s r := by
  constructor
  · rintro ⟨h1, h2, h3, h4, h5, h6, h7, h8, h9⟩
    exact ⟨h1, h3, h4, h5, h6, h7, h8, (window_le_iff s r).1 h9, (clean_le_iff s).1 h2⟩
  · rintro ⟨h1, h3, h4, h5, h6, h7, h8, h9, h2⟩
    exact ⟨h1, (clean_le_iff s).2 h2, h3, h4, h5, h6, h7, h8, (window_le_iff s r).2 h9⟩

theorem clean_be_iff (s : BufR W) :
    s.Clean .be ↔ ∀ j, j < 2 * W - s.bib → s.buffer.getLsbD j = false := by
  simp only [Clean, BitVec.getLsbD]
  constructor
  · intro h j hj
    have := congrArg (fun x => Nat.testBit x j) h
    simpa [Nat.testBit_mod_two_pow, hj] using this
  · intro h
    apply Nat.eq_of_testBit_eq
    intro j
    rw [Nat.testBit_mod_two_pow]
    by_cases hj : j < 2 * W - s.bib
    · simp [h j hj]
    · simp [hj]

theorem window_be_iff (s : BufR W) (r : RefR) (hb : s.bib ≤ 2 * W) :
    s.window .be = takeZ s.bib r.rest ↔
      ∀ i, i < s.bib → s.buffer.getLsbD (2 * W - 1 - i) = bitZ r.stream (r.pos + i) := by
  simp only [window, fieldBits, RefR.rest, BitVec.getLsbD]
  have key : ∀ i, i < s.bib →
      bitZ (fieldLE (s.buffer.toNat / 2 ^ (2 * W - s.bib)) s.bib).reverse i
        = s.buffer.toNat.testBit (2 * W - 1 - i) := by
    intro i hi
    rw [bitZ_reverse (by simpa using hi)]
    simp only [fieldLE_length, bitZ_fieldLE, Nat.testBit_div_two_pow]
    have h1 : s.bib - 1 - i < s.bib := by omega
    have h2 : s.bib - 1 - i + (2 * W - s.bib) = 2 * W - 1 - i := by omega
    simp [h1, h2]
  constructor
  · intro h i hi
    have := congrArg (fun l => bitZ l i) h
    simp only [key i hi] at this
    simpa [bitZ_takeZ, bitZ_drop, hi] using this
  · intro h
    apply list_eq_of_bitZ (by simp)
    intro i hi
    have hi' : i < s.bib := by simpa using hi
    rw [key i hi', h i hi']
    simp [bitZ_takeZ, bitZ_drop, hi']

theorem rel_be_iff (s : BufR W) (r : RefR) : Rel .be s r ↔ RelBE s r := by
  constructor
  · rintro ⟨h1, h2, h3, h4, h5, h6, h7, h8, h9⟩
    exact ⟨h1, h3, h4, h5, h6, h7, h8, (window_be_iff s r (Nat.le_of_lt h1)).1 h9, (clean_be_iff s).1 h2⟩
  · rintro ⟨h1, h3, h4, h5, h6, h7, h8, h9, h2⟩
    exact ⟨h1, (clean_be_iff s).2 h2, h3, h4, h5, h6, h7, h8, (window_be_iff s r (Nat.le_of_lt h1)).2 h9⟩

/-- `Rel e` with the window and cleanliness conjuncts as one equation: the buffer, read in stream
    order, is `bib` bits of the stream at the reference position followed by zeros -/
structure RelS (e : Endian) (s : BufR W) (r : RefR) : Prop where
  bib_lt  : s.bib < 2 * W
  he      : r.e = e
  hstrict : r.strict = s.back.strict
  hpm     : r.peekMax = W
  hstream : r.stream = s.back.data.flatMap (wordBits e)
  hpos    : r.pos + s.bib = s.back.pos * W
  hstr    : s.back.strict = true → s.back.pos ≤ s.back.data.length
  hbits   : ∀ i, sbit e s.buffer i = (decide (i < s.bib) && bitZ r.stream (r.pos + i))

theorem relS_le_iff (s : BufR W) (r : RefR) : RelLE s r ↔ RelS .le s r := by
  constructor
  · rintro ⟨h1, h2, h3, h4, h5, h6, h7, h8, h9⟩
    refine ⟨h1, h2, h3, h4, h5, h6, h7, fun i => ?_⟩
    by_cases hi : i < s.bib
    · rw [decide_eq_true hi]; exact h8 i hi
    · rw [decide_eq_false hi]; exact h9 i (Nat.le_of_not_lt hi)
  · rintro ⟨h1, h2, h3, h4, h5, h6, h7, h8⟩
    refine ⟨h1, h2, h3, h4, h5, h6, h7, fun i hi => ?_, fun i hi => ?_⟩
    · exact (h8 i).trans (by rw [decide_eq_true hi]; rfl)
    · exact (h8 i).trans (by rw [decide_eq_false (Nat.not_lt.2 hi)]; rfl)

theorem relS_be_iff (s : BufR W) (r : RefR) : RelBE s r ↔ RelS .be s r := by
  constructor
  · rintro ⟨h1, h2, h3, h4, h5, h6, h7, h8, h9⟩
    refine ⟨h1, h2, h3, h4, h5, h6, h7, fun i => ?_⟩
    show s.buffer.getMsbD i = _
    rw [BitVec.getMsbD_eq_getLsbD]
    by_cases hi : i < s.bib
    · rw [h8 i hi, decide_eq_true hi, decide_eq_true (Nat.lt_trans hi h1)]
    · rw [decide_eq_false hi, Bool.false_and]
      by_cases h2W : i < 2 * W
      · rw [h9 _ (by omega), Bool.and_false]
      · rw [decide_eq_false h2W, Bool.false_and]
  · rintro ⟨h1, h2, h3, h4, h5, h6, h7, h8⟩
    refine ⟨h1, h2, h3, h4, h5, h6, h7, fun i hi => ?_, fun j hj => ?_⟩
    · have := h8 i
      rw [decide_eq_true hi, Bool.true_and] at this
      rw [← this, BitVec.getLsbD_eq_getMsbD, decide_eq_true (by omega : 2 * W - 1 - i < 2 * W),
        Bool.true_and]
      show s.buffer.getMsbD _ = s.buffer.getMsbD i
      congr 1; omega
    · have : s.buffer.getMsbD (2 * W - 1 - j) = _ := h8 (2 * W - 1 - j)
      rw [decide_eq_false (by omega : ¬ 2 * W - 1 - j < s.bib), Bool.false_and] at this
      rw [BitVec.getLsbD_eq_getMsbD, this, Bool.and_false]

theorem rel_iff (e : Endian) (s : BufR W) (r : RefR) : Rel e s r ↔ RelS e s r := by
  cases e
  · exact (rel_be_iff s r).trans (relS_be_iff s r)
  · exact (rel_le_iff s r).trans (relS_le_iff s r)

end BufR
end Dsi
