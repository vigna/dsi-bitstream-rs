/- Re-exports HeadlineRunW (writer; imports no reader body) and HeadlineRunR (readers; imports no writer body). -/
import Dsi.Lemmas.HeadlineRunW
import Dsi.Lemmas.HeadlineRunR
