/-
  Headline2, readers (C07, C09): the generated `BufBitReader` /
  `BitReader` (`genRImpl`, `genBitRImpl` of Lemmas/HeadlineRunR.lean, `GenBufR.genBitPos`,
  `GenBufR.genSetBitPos`) against the reference reader `RefR` (a cursor in a list of bits).

  `GInv e s r` is the invariant that links a state `s` of the generated reader to the reference
  reader `r` (`BufR.Rel`) plus the struct invariant the generated bodies rely on (`RInv`).  It holds
  for a fresh reader (`ginv_new`), every generated program with `PeekBounded W 0 p` keeps it when
  `e = .be → W ≤ 64` (`gen_run_sim`), so does the generated `set_bit_pos` (`gen_setBitPos_ginv`),
  and under it the generated `bit_pos` answers the reference position (`gen_bitPos_ginv`).
-/
import Dsi.Lemmas.HeadlineRunR
import Dsi.Props.Reader
import Dsi.Props.BitReader
import Dsi.Lemmas.Frame
namespace Dsi
namespace Headline2
open Headline
variable {W : Nat}

def refAt (e : Endian) (data : List (BitVec W)) (strict : Bool) (pm : Nat) (pos : Nat) : RefR :=
  { e := e, stream := data.flatMap (wordBits e), pos := pos, strict := strict, peekMax := pm }

theorem refAt_eq_at {e : Endian} {data : List (BitVec W)} {strict : Bool} {pm : Nat}
    {pre bits post : List Bool} (hst : data.flatMap (wordBits e) = pre ++ bits ++ post) :
    refAt e data strict pm pre.length = RefR.at e pre bits post strict pm := by
  unfold refAt RefR.at; rw [hst]

theorem refAt_length {e : Endian} {data : List (BitVec W)} {strict : Bool} {pm pos : Nat} :
    (refAt e data strict pm pos).stream.length = data.length * W :=
  length_flatMap_wordBits e data

theorem avail_of_le {r : RefR} {n : Nat} (h : r.pos + n ≤ r.stream.length) : r.avail n = true := by
  unfold RefR.avail
  rw [decide_eq_true h, Bool.or_true]

theorem avail_refAt {e : Endian} {data : List (BitVec W)} {strict : Bool} {pm pos n : Nat}
    (h : strict = true → pos + n ≤ data.length * W) : (refAt e data strict pm pos).avail n = true := by
  cases strict
  · rfl
  · exact avail_of_le (by rw [refAt_length]; exact h rfl)

def SameStream (r r' : RefR) : Prop :=
  r'.e = r.e ∧ r'.stream = r.stream ∧ r'.strict = r.strict ∧ r'.peekMax = r.peekMax

theorem SameStream.refl (r : RefR) : SameStream r r := ⟨rfl, rfl, rfl, rfl⟩
theorem SameStream.trans {a b c : RefR} (h1 : SameStream a b) (h2 : SameStream b c) : SameStream a c :=
  ⟨h2.1.trans h1.1, h2.2.1.trans h1.2.1, h2.2.2.1.trans h1.2.2.1, h2.2.2.2.trans h1.2.2.2⟩

theorem SameStream.eq_pos {r r' : RefR} (h : SameStream r r') : r' = { r with pos := r'.pos } := by
  obtain ⟨e, st, p, s, pm⟩ := r
  obtain ⟨e', st', p', s', pm'⟩ := r'
  obtain ⟨h1, h2, h3, h4⟩ := h
  simp only at h1 h2 h3 h4
  subst h1 h2 h3 h4
  rfl

theorem ref_steps : RImpl.Steps RefR.impl SameStream where
  refl := SameStream.refl
  trans := SameStream.trans
  readBits := fun {r n _ _} h => by
    change RefR.readBits r n = _ at h
    unfold RefR.readBits at h
    split at h
    · cases h
    · split at h
      · cases h; exact ⟨rfl, rfl, rfl, rfl⟩
      · cases h
  peekBits := fun {r n _ _} _ h => by
    change RefR.peekBits r n = _ at h
    unfold RefR.peekBits at h
    split at h
    · cases h
    · split at h
      · cases h; exact .refl _
      · cases h
  skipAfterPeek := fun _ _ => ⟨rfl, rfl, rfl, rfl⟩
  skipBits := fun {r n _} h => by
    change RefR.skipBits r n = _ at h
    unfold RefR.skipBits at h
    split at h
    · cases h; exact ⟨rfl, rfl, rfl, rfl⟩
    · cases h
  readUnary := fun {r _ _} h => by
    change RefR.readUnary r = _ at h
    unfold RefR.readUnary at h
    split at h
    · cases h; exact ⟨rfl, rfl, rfl, rfl⟩
    · split at h <;> cases h

theorem ref_run_refAt {α : Type} {p : RProg α} {e : Endian} {data : List (BitVec W)} {strict : Bool}
    {pm pos : Nat} {a : α} {r' : RefR} (h : p.run RefR.impl (refAt e data strict pm pos) = .ok (a, r')) :
    r' = refAt e data strict pm r'.pos :=
  (RProg.run_steps ref_steps p (.any p) h).eq_pos

theorem resRel_fst_eq {α σ τ ρ : Type} {R : α × σ → α × ρ → Prop} {R' : α × τ → α × ρ → Prop}
    (hR : ∀ x y, R x y → x.1 = y.1) (hR' : ∀ x y, R' x y → x.1 = y.1)
    {x : Res (α × σ)} {x' : Res (α × τ)} {y : Res (α × ρ)} (h : ResRel R x y) (h' : ResRel R' x' y) :
    x.map Prod.fst = x'.map Prod.fst :=
  ((h.map Prod.fst Prod.fst hR).eq_of_eq).trans ((h'.map Prod.fst Prod.fst hR').eq_of_eq).symm

def GInv (e : Endian) (s : BufR W) (r : RefR) : Prop := BufR.Rel e s r ∧ RInv s

theorem ginv_new (e : Endian) (hW : 0 < W) (data : List (BitVec W)) (strict : Bool)
    (hfit : data.length * W + 4 * W < 2 ^ 64) :
    GInv e (BufR.new ⟨data, 0, strict⟩) (refAt e data strict W 0) :=
  ⟨new_rel e hW data strict, rinv_new _ hW hfit⟩

theorem rel_stream_length {e : Endian} {s : BufR W} {r : RefR} (h : BufR.Rel e s r) :
    r.stream.length = s.back.data.length * W := by
  rw [h.2.2.2.2.2.1, length_flatMap_wordBits]

theorem rel_pos_le {e : Endian} {s : BufR W} {r : RefR} (h : BufR.Rel e s r) (hs : r.strict = true) :
    r.pos ≤ r.stream.length := by
  -- conjuncts of `BufR.Rel`: 8th (strict backend: `pos ≤ data.length`), 4th (same strictness),
  -- 7th (`r.pos + s.bib = s.back.pos * W`)
  have hle := Nat.mul_le_mul_right W (h.2.2.2.2.2.2.2.1 (h.2.2.2.1 ▸ hs))
  have hp := h.2.2.2.2.2.2.1
  rw [rel_stream_length h]
  omega

theorem ginv_data_length {e : Endian} {s s' : BufR W} {r r' : RefR} (h : BufR.Rel e s r)
    (h' : BufR.Rel e s' r') (hst : r'.stream = r.stream) : s'.back.data.length = s.back.data.length :=
  Nat.eq_of_mul_eq_mul_right (Rel.pos_W h) (by rw [← rel_stream_length h', hst, rel_stream_length h])

theorem GInv.of_rel {e : Endian} {s s' : BufR W} {r r' : RefR} (hi : GInv e s r)
    (h' : BufR.Rel e s' r') (hst : r'.stream = r.stream) : GInv e s' r' :=
  ⟨h', ⟨hi.2.posW, h'.1, by rw [ginv_data_length hi.1 h' hst]; exact hi.2.fit⟩⟩

/-- **every generated program with `PeekBounded W 0 p` simulates the reference reader and keeps the
    invariant** (big-endian: `W ≤ 64`) -/
theorem gen_run_sim {α : Type} {e : Endian} (hW64 : e = .be → W ≤ 64) (p : RProg α)
    (hp : PeekBounded W 0 p) {s : BufR W} {r : RefR} (hi : GInv e s r) :
    ResRel (fun (x : α × BufR W) (y : α × RefR) => x.1 = y.1 ∧ GInv e x.2 y.2)
      (p.run (genRImpl e) s) (p.run RefR.impl r) := by
  have hple := PeekLe.of_peekBounded p 0 hp
  rw [gen_rrun_eq e p s hi.2 hple]
  exact (rprog_sim hW64 p hp hi.1).mono_ok fun a b ha _ hab =>
    ⟨hab.1, hab.2, hand_rrun_rinv e p s a.1 a.2 hi.2 hple ha⟩

theorem gen_run_ok {α : Type} {e : Endian} (hW64 : e = .be → W ≤ 64) (p : RProg α)
    (hp : PeekBounded W 0 p) {s : BufR W} {r : RefR} (hi : GInv e s r) {a : α} {s' : BufR W}
    (h : p.run (genRImpl e) s = .ok (a, s')) :
    ∃ r', p.run RefR.impl r = .ok (a, r') ∧ GInv e s' r' := by
  have hsim := gen_run_sim hW64 p hp hi
  rw [h] at hsim
  obtain ⟨⟨b, r'⟩, hy, hab⟩ := hsim.of_ok_left
  cases (hab.1 : a = b)
  exact ⟨r', hy, hab.2⟩

theorem gen_run_of_ref_ok {α : Type} {e : Endian} (hW64 : e = .be → W ≤ 64) (p : RProg α)
    (hp : PeekBounded W 0 p) {s : BufR W} {r : RefR} (hi : GInv e s r) {a : α} {r' : RefR}
    (h : p.run RefR.impl r = .ok (a, r')) :
    ∃ s', p.run (genRImpl e) s = .ok (a, s') ∧ GInv e s' r' := by
  have hsim := gen_run_sim hW64 p hp hi
  rw [h] at hsim
  obtain ⟨⟨b, s'⟩, hx, hab⟩ := hsim.of_ok_right
  cases (hab.1 : b = a)
  exact ⟨s', hx, hab.2⟩

/-- the position of the reference reader fits a `u64` with the buffer's margin: automatic on a
    strict stream (the cursor never leaves it) -/
def PosFits (W : Nat) (r : RefR) : Prop := r.strict = true ∨ r.pos + 2 * W ≤ 2 ^ 64

/-- **the generated `bit_pos` answers the reference position** -/
theorem gen_bitPos_ginv {e : Endian} {s : BufR W} {r : RefR} (hi : GInv e s r) (hf : PosFits W r) :
    GenBufR.genBitPos e s = .ok (r.pos, s) := by
  apply GenBufR.gen_bitPos_eq hi.1
  have hp := hi.1.2.2.2.2.2.2.1
  have hb := hi.1.1
  rcases hf with hs | hs
  · have := rel_pos_le hi.1 hs
    rw [rel_stream_length hi.1] at this
    have := hi.2.fit
    omega
  · omega

/-- **the generated `set_bit_pos` is the reference seek** (any target inside the stream, aligned
    or not) -/
theorem gen_setBitPos_ginv {e : Endian} {s : BufR W} {r : RefR} (hi : GInv e s r) {pos : Nat}
    (hpos : pos ≤ r.stream.length) :
    ∃ s', GenBufR.genSetBitPos e s (BitVec.ofNat 64 pos) = .ok s' ∧ GInv e s' (r.seek pos) := by
  have hW := hi.2.posW
  have hfit := hi.2.fit
  have hlen := rel_stream_length hi.1
  have hp64 : pos < 2 ^ 64 := by omega
  have htn : (BitVec.ofNat 64 pos).toNat = pos := by
    rw [BitVec.toNat_ofNat, Nat.mod_eq_of_lt hp64]
  have hsim := GenBufR.gen_setBitPos_sim hi.1 (by omega : W < 2 ^ 64) (p := BitVec.ofNat 64 pos)
    (by rw [htn]; exact hpos)
  rw [htn] at hsim
  obtain ⟨s', hx, hrel⟩ := hsim.of_ok_right
  exact ⟨s', hx, hi.of_rel hrel rfl⟩

theorem gen_skip_ginv {e : Endian} {s : BufR W} {r : RefR} (hi : GInv e s r) {n : Nat}
    (hav : r.avail n = true) :
    ∃ s1, (genRImpl e).skipBits s n = .ok s1 ∧ GInv e s1 { r with pos := r.pos + n } := by
  have hsim := skipBits_sim hi.1 n
  rw [genR_skipBits e s hi.2]
  unfold RefR.skipBits at hsim
  rw [if_pos hav] at hsim
  obtain ⟨s1, hx, hrel⟩ := hsim.of_ok_right
  exact ⟨s1, hx, hrel, hand_skipBits_rinv e hi.2 hx⟩

/-- `impl BitSeek for BitReader<E, _>::bit_pos`, from the translated bodies -/
def genBitRBitPos (e : Endian) (s : BitR) : Res (Nat × BitR) :=
  match e with
  | .be => GenBitR.natOut (Gen.BitR.bit_pos_be s)
  | .le => GenBitR.natOut (Gen.BitR.bit_pos_le s)

/-- `impl BitSeek for BitReader<E, _>::set_bit_pos`, from the translated bodies -/
def genBitRSetBitPos (e : Endian) (s : BitR) (p : BitVec 64) : Res BitR :=
  match e with
  | .be => Gen.BitR.set_bit_pos_be s p
  | .le => Gen.BitR.set_bit_pos_le s p

theorem bitr_rel_pos {e : Endian} {s : BitR} {r : RefR} (h : BitR.Rel e s r) : s.bitIndex = r.pos :=
  h.2.2.2.2.symm

theorem genBitRBitPos_rel {e : Endian} {s : BitR} {r : RefR} (h : BitR.Rel e s r)
    (hfit : r.pos < 2 ^ 64) : genBitRBitPos e s = .ok (r.pos, s) := by
  have := GenBitR.gen_bitr_bitPos h (bitr_rel_pos h ▸ hfit)
  cases e
  · exact this.1
  · exact this.2

theorem genBitRSetBitPos_rel {e : Endian} {s : BitR} {r : RefR} (h : BitR.Rel' e s r) {pos : Nat}
    (hpos : pos < 2 ^ 64) (hin : r.strict = true → pos ≤ r.stream.length) :
    ∃ s', genBitRSetBitPos e s (BitVec.ofNat 64 pos) = .ok s' ∧ BitR.Rel' e s' (r.seek pos) ∧
      s'.data.data = s.data.data := by
  have htn : (BitVec.ofNat 64 pos).toNat = pos := by
    rw [BitVec.toNat_ofNat, Nat.mod_eq_of_lt hpos]
  refine ⟨BitR.setBitPos s pos, ?_, bitr_setBitPos' h hin, rfl⟩
  cases e
  · show Gen.BitR.set_bit_pos_be s _ = _
    rw [GenBitR.set_bit_pos_be_eq, htn]
  · show Gen.BitR.set_bit_pos_le s _ = _
    rw [GenBitR.set_bit_pos_le_eq, htn]

/-- a reader program the unbuffered reader accepts: `BitR.ProgOK 0 p` (reads of at most 64 bits,
    covered peeks of 1 to 32 bits), and no `skip_bits` unless the stream is zero-extended
    (`skip_bits` of this reader never fails, the reference reader fails when the skip leaves a
    strict stream) -/
def BitROK {α : Type} (strict : Bool) (p : RProg α) : Prop :=
  BitR.ProgOK 0 p ∧ (BitR.NoSkip p ∨ strict = false)

theorem bitr_run_of_ref_ok {α : Type} {e : Endian} (p : RProg α) {s : BitR} {r : RefR}
    (h : BitR.Rel' e s r) (hok : BitROK r.strict p) {a : α} {r' : RefR}
    (hrun : p.run RefR.impl r = .ok (a, r')) :
    ∃ s', p.run (BitR.impl e) s = .ok (a, s') ∧ BitR.Rel' e s' r' := by
  have hsim : ResRel (fun (x : α × BitR) (y : α × RefR) => x.1 = y.1 ∧ BitR.Rel' e x.2 y.2)
      (p.run (BitR.impl e) s) (p.run RefR.impl r) := by
    rcases hok.2 with hns | hns
    · exact (bitr_rprog_sim_noSkip p hok.1 hns h).mono fun _ _ hab => hab
    · exact (bitr_rprog_sim_nonstrict p hok.1 h.1 hns).mono fun _ _ hab => hab
  rw [hrun] at hsim
  obtain ⟨⟨b, s'⟩, hx, hab⟩ := hsim.of_ok_right
  cases (hab.1 : b = a)
  exact ⟨s', hx, hab.2⟩

theorem gen_bitr_run_of_ref_ok {α : Type} {e : Endian} (p : RProg α) {s : BitR} {r : RefR}
    (h : BitR.Rel' e s r) (hok : BitROK r.strict p) {a : α} {r' : RefR}
    (hrun : p.run RefR.impl r = .ok (a, r'))
    (hfit : r'.pos + (s.data.data.length + 3) * 64 < 2 ^ 64) :
    ∃ s', p.run (genBitRImpl e) s = .ok (a, s') ∧ BitR.Rel' e s' r' ∧ s'.data.data = s.data.data := by
  obtain ⟨s', hx, hrel⟩ := bitr_run_of_ref_ok p h hok hrun
  exact ⟨s', gen_rrun_bitr_eq e p s a s' hx (by rw [bitr_rel_pos hrel.1]; exact hfit), hrel,
    (bitr_run_step e p s a s' hx).2⟩

end Headline2
end Dsi
