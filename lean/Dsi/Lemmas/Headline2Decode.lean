/-
  Headline2: what it takes for a generated reader program to decode a codeword on a generated
  reader (`GenDecodes`), and the decoding step itself, from a state that
  represents the reference reader standing at the codeword (`gen_buf_step`, `gen_bitr_step`).
  The generated program `rpG` is known through a hand-written program `rpH` it agrees with off
  the latter's (debug-)panic points (`Guarded`); `rpH` decodes on the reference reader.
-/
import Dsi.Lemmas.Headline2Reader
import Dsi.Props.Bounded
import Dsi.Props.Equiv
namespace Dsi
namespace Headline2
open Headline CodeBodiesGen
variable {β : Type} {e : Endian} {W : Nat} {pre cw post : List Bool} {strict : Bool}
  {rpH rpG : RProg β} {v : β} {K : Nat}

theorem agreeOff_ok {α : Type} {x y : Res α} {a : α} (h : AgreeOff x y) (hx : x = .ok a) : y = .ok a := by
  -- `AgreeOff x y`: `x` is a panic, a debug-panic, or equal to `y`
  rcases h with h | h | h
  · rw [hx] at h; cases h
  · rw [hx] at h; cases h
  · rw [← h]; exact hx

theorem buf_step_guarded (hW64 : e = .be → W ≤ 64) {s : BufR W}
    (hi : GInv e s (RefR.at e pre cw post strict W)) (hr : ReadsPM K rpH e cw v) (hK : K ≤ W)
    (hpb : PeekBounded W 0 rpH) (hg : Guarded rpH rpG) (hple : PeekLe W rpG) :
    ∃ s', rpH.run (BufR.impl e) s = .ok (v, s') ∧ rpG.run (genRImpl e) s = .ok (v, s') ∧
      GInv e s' (RefR.after e pre cw post strict W) := by
  have hsim := rprog_sim hW64 rpH hpb hi.1
  rw [hr pre post strict W hK hi.2.posW] at hsim
  obtain ⟨⟨v', s'⟩, hrun, hv, hrel⟩ := hsim.of_ok_right
  cases (hv : v' = v)
  refine ⟨s', hrun, ?_, hi.of_rel hrel rfl⟩
  rw [gen_rrun_eq e rpG s hi.2 hple]
  exact agreeOff_ok (Bounded.guarded_bufR_rel hg hi.1) hrun

/-- the generated reader program `rpG` decodes `cw` to `v` on a generated `BufBitReader` of word
    width `W`: a program that guards it does so on the reference reader, with the look-ahead a buffer
    of `W`-bit words offers, and `rpG` itself never peeks more than a word -/
def GenDecodes (e : Endian) (W : Nat) (rpG : RProg β) (cw : List Bool) (v : β) : Prop :=
  ∃ (rpH : RProg β) (K : Nat), ReadsPM K rpH e cw v ∧ K ≤ W ∧ PeekBounded W 0 rpH ∧
    Guarded rpH rpG ∧ PeekLe W rpG

theorem GenDecodes.intro (hr : ReadsPM K rpH e cw v) (hK : K ≤ W) (hpb : PeekBounded W 0 rpH)
    (hg : Guarded rpH rpG) (hple : PeekLe W rpG) : GenDecodes e W rpG cw v :=
  ⟨rpH, K, hr, hK, hpb, hg, hple⟩

theorem gen_buf_step (hW64 : e = .be → W ≤ 64) {s : BufR W}
    (hi : GInv e s (RefR.at e pre cw post strict W)) (hd : GenDecodes e W rpG cw v) :
    ∃ s', rpG.run (genRImpl e) s = .ok (v, s') ∧ GInv e s' (RefR.after e pre cw post strict W) := by
  obtain ⟨rpH, K, hr, hK, hpb, hg, hple⟩ := hd
  obtain ⟨s', _, h⟩ := buf_step_guarded hW64 hi hr hK hpb hg hple
  exact ⟨s', h⟩

/-- the decoding step on the generated `BitReader` (look-aheads of at most 32 bits; `skip_bits` only
    on a zero-extended stream); the position after the codeword plus `data.length + 3` words fits a
    `u64` -/
theorem gen_bitr_step {s : BitR} (h : BitR.Rel' e s (RefR.at e pre cw post strict 32))
    (hr : ReadsPM K rpH e cw v) (hK : K ≤ 32) (hok : BitROK strict rpH) (hg : Guarded rpH rpG)
    (hfit : pre.length + cw.length + (s.data.data.length + 3) * 64 < 2 ^ 64) :
    ∃ s', rpG.run (genBitRImpl e) s = .ok (v, s') ∧
      BitR.Rel' e s' (RefR.after e pre cw post strict 32) := by
  obtain ⟨s', hrun, hrel⟩ := bitr_run_of_ref_ok rpH h hok (hr pre post strict 32 hK (by decide))
  refine ⟨s', gen_rrun_bitr_eq e rpG s v s' ?_ ?_, hrel⟩
  · exact agreeOff_ok (Bounded.guarded_bitR hg e s) hrun
  · rw [bitr_rel_pos hrel.1]; exact hfit

end Headline2
end Dsi
