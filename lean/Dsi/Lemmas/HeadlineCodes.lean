/- Re-exports HeadlineCodesW (generated code writers) and HeadlineCodesR (generated code readers). -/
import Dsi.Lemmas.HeadlineCodesW
import Dsi.Lemmas.HeadlineCodesR
