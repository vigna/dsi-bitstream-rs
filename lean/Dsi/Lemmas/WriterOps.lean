/-
  What the concrete writer delivers to its backend: every loop of `BufBitWriter` is an `emitAll`
  (the words of the spill loops: `wordsBE`, `wordsLE`), and on a state whose delivered words fit
  the backend one capacity check for the whole list decides (`emitAll_eq`).
-/
import Dsi.Lemmas.WriterWord
namespace Dsi

def capFits : Option Nat → Nat → Bool
  | none, _ => true
  | some c, k => decide (k ≤ c)

theorem capFits_mono {cap : Option Nat} {a b : Nat} (h : capFits cap (a + b) = true) :
    capFits cap a = true := by
  cases cap with
  | none => rfl
  | some c => simp only [capFits, decide_eq_true_eq] at *; omega

@[simp] theorem capFits_none (k : Nat) : capFits none k = true := rfl

namespace BufW
variable {W : Nat}

/-- the delivered words fit the backend (trivial for a growable one); an invariant of every
    reachable state which `Rel` does not record -/
def CapOk (s : BufW W) : Prop := capFits s.cap s.out.length = true

theorem CapOk_of_none {s : BufW W} (h : s.cap = none) : s.CapOk := by
  simp [CapOk, h]

theorem emit_eq (s : BufW W) (w : BitVec W) :
    s.emit w = if capFits s.cap (s.out.length + 1) then .ok { s with out := s.out ++ [w] }
      else .err .eof := by
  obtain ⟨buffer, space, out, cap, checks⟩ := s
  cases cap with
  | none => simp [emit]
  | some c => simp [emit, capFits, Nat.lt_iff_add_one_le]

/-- deliver the words `ws` to the backend, one `write_word` after the other.  Every loop of the
    writer is one `emitAll`; delivering `ws` then `ws'` is delivering `ws ++ ws'`. -/
def emitAll : BufW W → List (BitVec W) → Res (BufW W)
  | s, [] => .ok s
  | s, w :: ws => (s.emit w).bind (emitAll · ws)

theorem emit_eq_emitAll (s : BufW W) (w : BitVec W) : s.emit w = emitAll s [w] := by
  rw [emitAll]; cases s.emit w <;> rfl

theorem emitAll_append (s : BufW W) (ws ws' : List (BitVec W)) :
    emitAll s (ws ++ ws') = (emitAll s ws).bind (emitAll · ws') := by
  induction ws generalizing s with
  | nil => rfl
  | cons w ws ih =>
    rw [List.cons_append, emitAll, emitAll]
    cases s.emit w with
    | ok s' => exact ih s'
    | _ => rfl

/-- the backend does not look at the bit buffer -/
theorem emitAll_upd (s : BufW W) (b : BitVec W) (sp : Nat) (ws : List (BitVec W)) :
    emitAll { s with buffer := b, space := sp } ws
      = (emitAll s ws).map fun s' => { s' with buffer := b, space := sp } := by
  induction ws generalizing s with
  | nil => rfl
  | cons w ws ih =>
    rw [emitAll, emitAll, emit_eq, emit_eq]
    dsimp only
    split
    · exact ih { s with out := s.out ++ [w] }
    · rfl

theorem emitAll_ok {s s' : BufW W} {ws : List (BitVec W)} (h : emitAll s ws = .ok s') :
    s' = { s with out := s.out ++ ws } := by
  induction ws generalizing s with
  | nil => cases h; rw [List.append_nil]
  | cons w ws ih =>
    rw [emitAll, emit_eq] at h
    split at h
    · rw [ih h, List.append_assoc, List.singleton_append]
    · cases h

/-- capacity checks absorb: a backend that takes `ws ++ ws'` takes `ws`, so on a state whose
    delivered words fit, one check for the whole list decides -/
theorem emitAll_eq (s : BufW W) (ws : List (BitVec W)) (hc : s.CapOk) :
    emitAll s ws = if capFits s.cap (s.out.length + ws.length) then .ok { s with out := s.out ++ ws }
      else .err .eof := by
  induction ws generalizing s with
  | nil => rw [emitAll, List.length_nil, Nat.add_zero, if_pos (show capFits _ _ = true from hc),
      List.append_nil]
  | cons w ws ih =>
    rw [emitAll, emit_eq, List.length_cons, Nat.add_comm ws.length, ← Nat.add_assoc]
    by_cases h1 : capFits s.cap (s.out.length + 1) = true
    · rw [if_pos h1, Res.bind, ih _ (by simpa [CapOk] using h1)]
      simp only [List.length_append, List.length_singleton, List.append_assoc,
        List.singleton_append]
    · rw [if_neg h1, if_neg fun h => h1 (capFits_mono h)]; rfl

theorem zeroWords_eq (k : Nat) (s : BufW W) : zeroWords k s = emitAll s (List.replicate k 0) := by
  induction k generalizing s with
  | zero => rfl
  | succ k ih =>
    rw [zeroWords, List.replicate_succ, emitAll]
    cases s.emit 0 with
    | ok s' => exact ih s'
    | _ => rfl

/-- the words of the BE spill loop -/
def wordsBE (v : BitVec 64) : Nat → Nat → List (BitVec W)
  | 0, _ => []
  | k + 1, t => (v >>> (t - W)).setWidth W :: wordsBE v k (t - W)

theorem spillBE_eq (v : BitVec 64) (k t : Nat) (s : BufW W) :
    spillBE v k t s = (emitAll s (wordsBE v k t)).map fun s' => (t - k * W, s') := by
  induction k generalizing s t with
  | zero => rw [Nat.zero_mul]; rfl
  | succ k ih =>
    rw [spillBE, wordsBE, emitAll]
    cases s.emit ((v >>> (t - W)).setWidth W) with
    | ok s' =>
      rw [Nat.succ_mul, Nat.add_comm, ← Nat.sub_sub]
      exact ih _ s'
    | _ => rfl

theorem wordsBE_bits (v : BitVec 64) (k t : Nat) (h : k * W ≤ t) :
    (wordsBE (W := W) v k t).flatMap (wordBits .be) ++ fieldBits .be v.toNat (t - k * W)
      = fieldBits .be v.toNat t := by
  induction k generalizing t with
  | zero => simp [wordsBE]
  | succ k ih =>
    rw [Nat.succ_mul, Nat.add_comm] at h
    have hW : W ≤ t := Nat.le_trans (Nat.le_add_right _ _) h
    rw [wordsBE, List.flatMap_cons, List.append_assoc, Nat.succ_mul, Nat.add_comm (k * W) W,
      ← Nat.sub_sub, ih (t - W) (Nat.le_sub_of_add_le' h), word_setWidth,
      BitVec.toNat_ushiftRight, Nat.shiftRight_eq_div_pow,
      fieldBE_cut v.toNat (n := t) (b := t - W) (Nat.sub_le _ _), Nat.sub_sub_self hW]

/-- the words of the LE spill loop, and the value it leaves -/
def wordsLE : Nat → BitVec 64 → List (BitVec W)
  | 0, _ => []
  | k + 1, v => v.setWidth W :: wordsLE k (v >>> W)

def restLE (W : Nat) : Nat → BitVec 64 → BitVec 64
  | 0, v => v
  | k + 1, v => restLE W k (v >>> W)

theorem spillLE_eq (k : Nat) (v : BitVec 64) (s : BufW W) :
    spillLE k v s = (emitAll s (wordsLE k v)).map fun s' => (restLE W k v, s') := by
  induction k generalizing s v with
  | zero => rfl
  | succ k ih =>
    rw [spillLE, wordsLE, emitAll]
    cases s.emit (v.setWidth W) with
    | ok s' => exact ih _ s'
    | _ => rfl

theorem restLE_toNat (k : Nat) (v : BitVec 64) :
    (restLE W k v).toNat = v.toNat / 2 ^ (k * W) := by
  induction k generalizing v with
  | zero => simp [restLE]
  | succ k ih =>
    rw [restLE, ih, BitVec.toNat_ushiftRight, Nat.shiftRight_eq_div_pow, Nat.div_div_eq_div_mul,
      ← Nat.pow_add, Nat.succ_mul, Nat.add_comm]

theorem wordsLE_bits (k : Nat) (v : BitVec 64) (m : Nat) :
    (wordsLE (W := W) k v).flatMap (wordBits .le) ++ fieldBits .le (restLE W k v).toNat m
      = fieldBits .le v.toNat (k * W + m) := by
  induction k generalizing v with
  | zero => simp [wordsLE, restLE]
  | succ k ih =>
    rw [wordsLE, restLE, List.flatMap_cons, List.append_assoc, ih, word_setWidth,
      BitVec.toNat_ushiftRight, Nat.shiftRight_eq_div_pow, fieldBits, fieldBits, fieldBits,
      Nat.succ_mul, Nat.add_comm (k * W) W, Nat.add_assoc,
      fieldLE_cut v.toNat (n := W + (k * W + m)) (a := W) (Nat.le_add_right _ _),
      Nat.add_sub_cancel_left]

end BufW
end Dsi
