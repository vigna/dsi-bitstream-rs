/-
  The outcome monad `Res`: what `bind` and `map` do on each outcome, read forwards and backwards
  from a success, and the few laws through which the wrappers' bodies
  (`Res.bind r fun a => .ok (g a)`) are read as `map`s.
-/
import Dsi.Basic
namespace Dsi.Res
variable {α β γ : Type}

@[simp] theorem bind_ok (a : α) (f : α → Res β) : (ok a).bind f = f a := rfl
@[simp] theorem map_ok (f : α → β) (a : α) : (ok a).map f = ok (f a) := rfl
@[simp] theorem map_err (f : α → β) (e : Err) : (err e : Res α).map f = err e := rfl
@[simp] theorem map_panic (f : α → β) : (panic : Res α).map f = panic := rfl
@[simp] theorem map_dpanic (f : α → β) : (dpanic : Res α).map f = dpanic := rfl

theorem bind_eq_map {r : Res α} {f : α → Res β} {g : α → β} (h : ∀ a, f a = ok (g a)) :
    r.bind f = r.map g := by
  cases r <;> first | exact h _ | rfl

theorem bind_eq_of_ok {x : Res α} {a : α} {f : α → Res β} {y : Res β} (hx : x = ok a) (h : f a = y) :
    x.bind f = y := by rw [hx]; exact h

theorem bind_ok_right (r : Res α) : r.bind ok = r := by cases r <;> rfl

theorem bind_eq_ok {x : Res α} {f : α → Res β} {b : β} :
    x.bind f = .ok b ↔ ∃ a, x = .ok a ∧ f a = .ok b := by
  cases x <;> simp [Res.bind]

theorem map_eq_ok {x : Res α} {f : α → β} {b : β} :
    x.map f = .ok b ↔ ∃ a, x = .ok a ∧ f a = b := by
  cases x <;> simp [Res.map]

theorem bind_congr {x : Res α} {f g : α → Res β} (h : ∀ a, x = .ok a → f a = g a) :
    x.bind f = x.bind g := by
  cases x <;> first | exact h _ rfl | rfl

theorem map_congr {x : Res α} {f g : α → β} (h : ∀ a, x = .ok a → f a = g a) : x.map f = x.map g := by
  cases x <;> first | exact congrArg ok (h _ rfl) | rfl

theorem map_map (g : β → γ) (f : α → β) (r : Res α) : (r.map f).map g = r.map fun a => g (f a) := by
  cases r <;> rfl

theorem map_eq_self {x : Res α} {f : α → α} (h : ∀ a, x = ok a → f a = a) : x.map f = x := by
  cases x <;> first | exact congrArg ok (h _ rfl) | rfl

end Dsi.Res
