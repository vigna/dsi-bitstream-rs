/-
  C05 — lifting lemmas: from "the bit-by-bit reader, run on the index bits alone, agrees with the
  table entry" (what the kernel-evaluated checkers establish) to "the table-driven program and the
  bit-by-bit program have the same outcome on every reference reader state".
-/
import Dsi.Lemmas.TablesCheck
import Dsi.Lemmas.CodesAFrame
namespace Dsi

def PeekFree {α} : RProg α → Prop
  | .ret _ => True
  | .fail _ => True
  | .panic => True
  | .dpanic => True
  | .readBits _ k => ∀ v, PeekFree (k v)
  | .readUnary k => ∀ v, PeekFree (k v)
  | .peek _ _ => False
  | .skipAfterPeek _ _ => False
  | .skip _ k => PeekFree k

@[simp] theorem PeekFree.ret_iff {α} (a : α) : PeekFree (RProg.ret a) ↔ True := Iff.rfl
@[simp] theorem PeekFree.fail_iff {α} (e : Err) : PeekFree (RProg.fail e : RProg α) ↔ True := Iff.rfl
@[simp] theorem PeekFree.panic_iff {α} : PeekFree (RProg.panic : RProg α) ↔ True := Iff.rfl
@[simp] theorem PeekFree.dpanic_iff {α} : PeekFree (RProg.dpanic : RProg α) ↔ True := Iff.rfl
@[simp] theorem PeekFree.readBits_iff {α} (n : Nat) (k : Nat → RProg α) :
    PeekFree (RProg.readBits n k) ↔ ∀ v, PeekFree (k v) := Iff.rfl
@[simp] theorem PeekFree.readUnary_iff {α} (k : Nat → RProg α) :
    PeekFree (RProg.readUnary k) ↔ ∀ v, PeekFree (k v) := Iff.rfl
@[simp] theorem PeekFree.skip_iff {α} (n : Nat) (k : RProg α) :
    PeekFree (RProg.skip n k) ↔ PeekFree k := Iff.rfl
theorem PeekFree.ite {α} {c : Prop} [Decidable c] {p q : RProg α} (hp : PeekFree p)
    (hq : PeekFree q) : PeekFree (if c then p else q) := by
  split <;> assumption

theorem PeekFree.bind {α β} {p : RProg α} {f : α → RProg β} (hp : PeekFree p)
    (hf : ∀ a, PeekFree (f a)) : PeekFree (p.bind f) := by
  induction p with
  | ret a => exact hf a
  | fail e => trivial
  | panic => trivial
  | dpanic => trivial
  | readBits n k ih => intro v; exact ih v (hp v)
  | readUnary k ih => intro v; exact ih v (hp v)
  | peek n k _ => exact hp.elim
  | skipAfterPeek n k _ => exact hp.elim
  | skip n k ih => exact ih hp

namespace Tables

theorem peekFree_tail (len : Nat) :
    PeekFree (if len ≥ 64 then RProg.dpanic else RProg.readBits len fun v => RProg.ret (v + 2 ^ len - 1)) :=
  PeekFree.ite ((PeekFree.dpanic_iff).2 trivial)
    ((PeekFree.readBits_iff _ _).2 fun _ => (PeekFree.ret_iff _).2 trivial)

theorem peekFree_gamma : PeekFree readGammaDefault :=
  (PeekFree.readUnary_iff _).2 peekFree_tail

theorem peekFree_delta : PeekFree (readDeltaDefault none) :=
  PeekFree.bind peekFree_gamma peekFree_tail

theorem peekFree_minbin (max : Nat) : PeekFree (readMinimalBinary max) := by
  unfold readMinimalBinary
  refine PeekFree.ite ((PeekFree.panic_iff).2 trivial) ?_
  refine (PeekFree.readBits_iff _ _).2 fun p => ?_
  refine PeekFree.ite ((PeekFree.ret_iff _).2 trivial) ?_
  refine (PeekFree.readBits_iff _ _).2 fun b => ?_
  exact PeekFree.ite ((PeekFree.dpanic_iff).2 trivial) ((PeekFree.ret_iff _).2 trivial)

theorem peekFree_zeta (k : Nat) : PeekFree (readZetaDefault k) := by
  unfold readZetaDefault
  refine (PeekFree.readUnary_iff _).2 fun h => ?_
  refine PeekFree.ite ((PeekFree.dpanic_iff).2 trivial) ?_
  refine PeekFree.bind (peekFree_minbin _) fun res => ?_
  exact PeekFree.ite ((PeekFree.dpanic_iff).2 trivial) ((PeekFree.ret_iff _).2 trivial)

def bitAt (l : List Bool) (i : Nat) : Bool := l[i]?.getD false

@[simp] theorem bitAt_nil (i : Nat) : bitAt [] i = false := by simp [bitAt]
@[simp] theorem bitAt_cons_zero (b : Bool) (l : List Bool) : bitAt (b :: l) 0 = b := by simp [bitAt]
@[simp] theorem bitAt_cons_succ (b : Bool) (l : List Bool) (i : Nat) :
    bitAt (b :: l) (i + 1) = bitAt l i := by simp [bitAt]

theorem bitAt_of_lt {l : List Bool} {i : Nat} (h : i < l.length) : bitAt l i = l[i] := by
  simp [bitAt, h]

theorem lt_of_bitAt {l : List Bool} {i : Nat} (h : bitAt l i = true) : i < l.length := by
  by_cases hi : i < l.length
  · exact hi
  · simp [bitAt, List.getElem?_eq_none (Nat.le_of_not_lt hi)] at h

theorem bitAt_drop (l : List Bool) (q i : Nat) : bitAt (l.drop q) i = bitAt l (q + i) := by
  simp [bitAt]

theorem bitAt_takeZ {n i : Nat} (l : List Bool) (h : i < n) : bitAt (takeZ n l) i = bitAt l i := by
  induction n generalizing l i with
  | zero => omega
  | succ n ih =>
    cases l with
    | nil =>
      cases i with
      | zero => simp [takeZ]
      | succ i => simpa [takeZ] using ih [] (i := i) (by omega)
    | cons b bs =>
      cases i with
      | zero => simp [takeZ]
      | succ i => simpa [takeZ] using ih bs (i := i) (by omega)

theorem takeZ_ext {n : Nat} {a b : List Bool} (h : ∀ i < n, bitAt a i = bitAt b i) :
    takeZ n a = takeZ n b := by
  apply List.ext_getElem
  · simp [takeZ_length]
  · intro i h1 h2
    have hi : i < n := by simpa [takeZ_length] using h1
    rw [← bitAt_of_lt h1, ← bitAt_of_lt h2, bitAt_takeZ _ hi, bitAt_takeZ _ hi, h i hi]

theorem firstOne_some_iff (a : List Bool) (z : Nat) :
    RefR.firstOne a = some z ↔ bitAt a z = true ∧ ∀ i < z, bitAt a i = false := by
  induction a generalizing z with
  | nil => simp [RefR.firstOne]
  | cons b bs ih =>
    cases b with
    | true =>
      simp only [RefR.firstOne]
      constructor
      · intro h
        have : z = 0 := by simpa using h.symm
        subst this
        simp
      · rintro ⟨_, h2⟩
        cases z with
        | zero => rfl
        | succ z => have := h2 0 (by omega); simp at this
    | false =>
      simp only [RefR.firstOne]
      cases z with
      | zero => simp
      | succ z =>
        rw [bitAt_cons_succ]
        constructor
        · intro h
          have h' : RefR.firstOne bs = some z := by
            cases hf : RefR.firstOne bs with
            | none => simp [hf] at h
            | some w => simp [hf] at h; subst h; rfl
          have ⟨h1, h2⟩ := (ih z).1 h'
          refine ⟨h1, ?_⟩
          intro i hi
          cases i with
          | zero => simp
          | succ i => rw [bitAt_cons_succ]; exact h2 i (by omega)
        · rintro ⟨h1, h2⟩
          have h' : RefR.firstOne bs = some z :=
            (ih z).2 ⟨h1, fun i hi => by have := h2 (i + 1) (by omega); simpa using this⟩
          simp [h']

theorem firstOne_transfer {a b : List Bool} {z : Nat} (ha : RefR.firstOne a = some z)
    (h : ∀ i ≤ z, bitAt b i = bitAt a i) : RefR.firstOne b = some z := by
  have ⟨h1, h2⟩ := (firstOne_some_iff a z).1 ha
  refine (firstOne_some_iff b z).2 ⟨by rw [h z (Nat.le_refl _)]; exact h1, ?_⟩
  intro i hi
  rw [h i (by omega)]
  exact h2 i hi

theorem firstOne_lt {a : List Bool} {z : Nat} (ha : RefR.firstOne a = some z) : z < a.length :=
  lt_of_bitAt ((firstOne_some_iff a z).1 ha).1

/-- The small reader holds exactly the bits `s` (strict); the big reader has the same bits at
    offset `p0` of its stream `S` (zero-extended if it is not strict, really present if it is).
    A successful peek-free run on the small reader is replayed step by step on the big one. -/
theorem run_embed_aux {α} (p : RProg α) (hp : PeekFree p) (e : Endian) (s S : List Bool)
    (pm PM p0 : Nat) (st : Bool)
    (hbits : ∀ i < s.length, bitAt S (p0 + i) = bitAt s i)
    (hav : st = true → p0 + s.length ≤ S.length) :
    ∀ (q : Nat) (a : α) (r' : RefR),
      p.run RefR.impl ⟨e, s, q, true, pm⟩ = .ok (a, r') →
      ∃ q', r' = ⟨e, s, q', true, pm⟩ ∧
        p.run RefR.impl ⟨e, S, p0 + q, st, PM⟩ = .ok (a, ⟨e, S, p0 + q', st, PM⟩) := by
  induction p with
  | ret a =>
    intro q a' r' h
    simp only [RProg.run, Res.ok.injEq, Prod.mk.injEq] at h
    exact ⟨q, h.2.symm, by simp [RProg.run, h.1]⟩
  | fail er => intro q a r' h; simp [RProg.run] at h
  | panic => intro q a r' h; simp [RProg.run] at h
  | dpanic => intro q a r' h; simp [RProg.run] at h
  | readBits n k ih =>
    intro q a r' h
    simp only [RProg.run, RefR.impl_readBits, RefR.readBits] at h ⊢
    by_cases hn : n > 64
    · simp [hn] at h
    · rw [if_neg hn] at h
      rw [if_neg hn]
      by_cases hq : q + n ≤ s.length
      · have hav1 : RefR.avail ⟨e, s, q, true, pm⟩ n = true := by simp [RefR.avail, hq]
        have hav2 : RefR.avail ⟨e, S, p0 + q, st, PM⟩ n = true := by
          simp only [RefR.avail]
          cases st
          · simp
          · have := hav rfl
            simp; omega
        rw [if_pos hav1] at h
        rw [if_pos hav2]
        simp only [RefR.rest] at h ⊢
        have hval : takeZ n (S.drop (p0 + q)) = takeZ n (s.drop q) := by
          apply takeZ_ext
          intro i hi
          rw [bitAt_drop, bitAt_drop, Nat.add_assoc, hbits (q + i) (by omega)]
        rw [hval]
        obtain ⟨q', h1, h2⟩ := ih _ (hp _) (q + n) a r' h
        exact ⟨q', h1, by rw [Nat.add_assoc]; exact h2⟩
      · have hav1 : RefR.avail ⟨e, s, q, true, pm⟩ n = false := by simp [RefR.avail]; omega
        simp [hav1] at h
  | readUnary k ih =>
    intro q a r' h
    simp only [RProg.run, RefR.impl_readUnary, RefR.readUnary, RefR.rest] at h ⊢
    cases hf : RefR.firstOne (s.drop q) with
    | none => simp [hf] at h
    | some z =>
      have hz := firstOne_lt hf
      simp only [List.length_drop] at hz
      have hf2 : RefR.firstOne (S.drop (p0 + q)) = some z := by
        apply firstOne_transfer hf
        intro i hi
        rw [bitAt_drop, bitAt_drop, Nat.add_assoc, hbits (q + i) (by omega)]
      simp only [hf] at h
      simp only [hf2]
      obtain ⟨q', h1, h2⟩ := ih _ (hp _) (q + z + 1) a r' h
      exact ⟨q', h1, by simpa [Nat.add_assoc] using h2⟩
  | peek n k _ => exact hp.elim
  | skipAfterPeek n k _ => exact hp.elim
  | skip n k ih =>
    intro q a r' h
    simp only [RProg.run, RefR.impl_skipBits, RefR.skipBits] at h ⊢
    by_cases hq : q + n ≤ s.length
    · have hav1 : RefR.avail ⟨e, s, q, true, pm⟩ n = true := by simp [RefR.avail, hq]
      have hav2 : RefR.avail ⟨e, S, p0 + q, st, PM⟩ n = true := by
        simp only [RefR.avail]
        cases st
        · simp
        · have := hav rfl
          simp; omega
      rw [if_pos hav1] at h
      rw [if_pos hav2]
      obtain ⟨q', h1, h2⟩ := ih hp (q + n) a r' h
      exact ⟨q', h1, by rw [Nat.add_assoc]; exact h2⟩
    · have hav1 : RefR.avail ⟨e, s, q, true, pm⟩ n = false := by simp [RefR.avail]; omega
      simp [hav1] at h

end Tables

/-- **Embedding.**  If a peek-free program succeeds on the strict reference reader holding exactly
    the bits `s`, then on every reference reader whose next `s.length` bits (zero-extended) are `s`
    and for which these bits are available, it returns the same value and advances by the same
    number of bits. -/
theorem run_embed {α} (p : RProg α) (hp : PeekFree p) (e : Endian) (s : List Bool) (pm : Nat)
    (a : α) (r' : RefR)
    (h : p.run RefR.impl ⟨e, s, 0, true, pm⟩ = .ok (a, r'))
    (r : RefR) (he : r.e = e) (hs : takeZ s.length r.rest = s) (hav : r.avail s.length = true) :
    p.run RefR.impl r = .ok (a, { r with pos := r.pos + r'.pos }) := by
  obtain ⟨re, S, pos, st, PM⟩ := r
  simp only at he
  subst he
  have hbits : ∀ i < s.length, Tables.bitAt S (pos + i) = Tables.bitAt s i := by
    intro i hi
    have := Tables.bitAt_takeZ (S.drop pos) hi
    simp only [RefR.rest] at hs
    rw [hs, Tables.bitAt_drop] at this
    exact this.symm
  have hav' : st = true → pos + s.length ≤ S.length := by
    intro hst
    subst hst
    simpa [RefR.avail] using hav
  obtain ⟨q', h1, h2⟩ := Tables.run_embed_aux p hp re s S pm PM pos st hbits hav' 0 a r' h
  subst h1
  simpa using h2

end Dsi
