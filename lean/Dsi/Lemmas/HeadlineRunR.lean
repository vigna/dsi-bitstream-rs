/-
  The readers (writer in HeadlineRunW.lean): the method bodies translated from the Rust source
  (lean/Dsi/Gen/BufReaderBodies.lean, BitReaderBodies.lean) assembled into implementations
  of the `BitRead` interface, and the run equalities `gen_rrun_eq`, `gen_rrun_rinv`,
  `gen_rrun_bitr_eq` against the hand-written models.

  * `genRImpl e : RImpl (BufR W)`  — `BufBitReader<E, _>::{read_bits, peek_bits,
    skip_bits_after_peek, skip_bits, read_unary}`;
  * `genBitRImpl e : RImpl BitR`   — the same five methods of the unbuffered `BitReader<E, _>`.

  Invariant of the buffered reader: `RInv`.  Side condition on programs: `PeekLe W`
  (Headline2CongrR.lean; every `peek_bits` asks for at most `W` bits: a wider peek can fill the
  buffer completely, `bits_in_buffer = 2W`, after which the Rust `read_bits` debug-asserts).
-/
import Dsi.Props.BufReaderGen
import Dsi.Props.BitReaderGen
import Dsi.Lemmas.Headline2CongrR
namespace Dsi
namespace Headline
variable {W : Nat}

/-- `impl BitRead<E> for BufBitReader<E, _>`, assembled from the translated bodies (`natOut`: the
    Rust returns `u64` / the peek word, the interface `Nat`) -/
def genRImpl (e : Endian) : RImpl (BufR W) :=
  match e with
  | .be => { readBits := fun s n => GenBufR.natOut (Gen.BufR.read_bits_be s n),
             peekBits := fun s n => GenBufR.natOut (Gen.BufR.peek_bits_be s n),
             skipAfterPeek := fun s n =>
               match Gen.BufR.skip_bits_after_peek_be s n with
               | .ok s' => s'
               | _ => s,
             skipBits := Gen.BufR.skip_bits_be,
             readUnary := fun s => GenBufR.natOut (Gen.BufR.read_unary_be s) }
  | .le => { readBits := fun s n => GenBufR.natOut (Gen.BufR.read_bits_le s n),
             peekBits := fun s n => GenBufR.natOut (Gen.BufR.peek_bits_le s n),
             skipAfterPeek := fun s n =>
               match Gen.BufR.skip_bits_after_peek_le s n with
               | .ok s' => s'
               | _ => s,
             skipBits := Gen.BufR.skip_bits_le,
             readUnary := fun s => GenBufR.natOut (Gen.BufR.read_unary_le s) }

theorem genRImpl_eq (e : Endian) : genRImpl (W := W) e = GenBufR.genImpl e := by
  cases e <;> rfl

/-- the struct invariant of `BufBitReader` the translated bodies rely on: a positive word width,
    `bits_in_buffer < BB::BITS` (the Rust `debug_assert!`s it), and a backend of `L` words with
    `L * W + 4 * W < 2^64` (`read_unary` counts in `u64`; `4 * W`: `bits_in_buffer < 2W` plus the
    two words beyond the data in `RInv.unaryFit`, the bound the translated `read_unary` needs). -/
structure RInv (s : BufR W) : Prop where
  posW : 0 < W
  bib : s.bib < 2 * W
  fit : s.back.data.length * W + 4 * W < 2 ^ 64

theorem RInv.unaryFit {s : BufR W} (hi : RInv s) :
    s.bib + (s.back.data.length + 2 - s.back.pos) * W < 2 ^ 64 := by
  have h1 : (s.back.data.length + 2 - s.back.pos) * W ≤ (s.back.data.length + 2) * W :=
    Nat.mul_le_mul_right _ (by omega)
  rw [Nat.add_mul] at h1
  have := hi.bib
  have := hi.fit
  omega

theorem genR_readBits (e : Endian) (s : BufR W) (hi : RInv s) (n : Nat) :
    (genRImpl e).readBits s n = (BufR.impl e).readBits s n := by
  rw [genRImpl_eq]; exact GenBufR.genImpl_readBits e s hi.posW hi.bib n

theorem genR_peekBits (e : Endian) (s : BufR W) (hi : RInv s) (n : Nat) :
    (genRImpl e).peekBits s n = (BufR.impl e).peekBits s n := by
  rw [genRImpl_eq]; exact GenBufR.genImpl_peekBits e s hi.posW n

theorem genR_skipAfterPeek (e : Endian) (s : BufR W) (n : Nat) :
    (genRImpl e).skipAfterPeek s n = (BufR.impl e).skipAfterPeek s n := by
  rw [genRImpl_eq]; exact GenBufR.genImpl_skipAfterPeek e s n

theorem genR_skipBits (e : Endian) (s : BufR W) (hi : RInv s) (n : Nat) :
    (genRImpl e).skipBits s n = (BufR.impl e).skipBits s n := by
  rw [genRImpl_eq]; exact GenBufR.genImpl_skipBits e s hi.bib n

theorem genR_readUnary (e : Endian) (s : BufR W) (hi : RInv s) :
    (genRImpl e).readUnary s = (BufR.impl e).readUnary s := by
  rw [genRImpl_eq]; exact GenBufR.genImpl_readUnary e s hi.bib hi.unaryFit

theorem genR_u64 (e : Endian) (r : BufR W) (k v : Nat) (r' : BufR W)
    (h : (genRImpl e).readBits r k = .ok (v, r')) : v < 2 ^ 64 := by
  cases e <;>
  · obtain ⟨p, _, hp⟩ := Res.map_eq_ok.1 h
    cases hp
    exact p.1.isLt

/-! ### the hand-written methods keep `RInv`

  Every method leaves the backend data alone, and the buffer with no more bits than before or no
  more than a word; `peek_bits(n)`, `n ≤ W`, refills a buffer of fewer than `n` bits by one word. -/

theorem memr_readWord_data {m m' : MemR W} {w : BitVec W} (h : m.readWord = .ok (w, m')) :
    m'.data = m.data := by
  unfold MemR.readWord at h
  split at h
  · cases h; rfl
  · split at h
    · cases h
    · cases h; rfl

theorem readWordsBE_data {fuel : Nat} {back : MemR W} {res : BitVec 64} {n : Nat}
    {r : BitVec 64} {n' : Nat} {back' : MemR W}
    (h : BufR.readWordsBE fuel back res n = .ok (r, n', back')) : back'.data = back.data := by
  -- arguments of the rule: the loop invariant, the conclusion `E` of the eof case, one round keeps
  -- the invariant, an eof gives `E`
  have := BufR.readWordsBE_rule (fun _ _ m => m.data = back.data) True (fun _ _ _ h _ _ => h)
    (fun _ _ _ _ _ _ _ => trivial) fuel back res n rfl
  rw [h] at this
  exact this.1

theorem readWordsLE_data {fuel : Nat} {back : MemR W} {res : BitVec 64} {b n : Nat}
    {r : BitVec 64} {b' : Nat} {back' : MemR W}
    (h : BufR.readWordsLE fuel back res b n = .ok (r, b', back')) : back'.data = back.data := by
  have := BufR.readWordsLE_rule (n := n) (fun _ _ m => m.data = back.data) True (fun _ _ _ h _ _ => h)
    (fun _ _ _ _ _ _ _ => trivial) fuel back res b rfl
  rw [h] at this
  exact this.1

theorem skipWords_data {fuel : Nat} {back : MemR W} {n n' : Nat} {back' : MemR W}
    (h : BufR.skipWords fuel back n = .ok (n', back')) : back'.data = back.data := by
  have := BufR.skipWords_rule (fun _ m => m.data = back.data) True (fun _ _ h _ _ => h)
    (fun _ _ _ _ _ _ => trivial) fuel back n rfl
  rw [h] at this
  exact this.1

theorem unaryWords_data (e : Endian) : ∀ {fuel : Nat} {back : MemR W} {res v : Nat} {s' : BufR W},
    BufR.unaryWords e fuel back res = .ok (v, s') → s'.back.data = back.data ∧ s'.bib ≤ W
  | 0, _, _, _, _, h => by cases e <;> cases h
  | fuel + 1, _, _, _, _, h => by
    rw [BufR.unaryWords_succ] at h
    split at h
    · rename_i hw
      split at h
      · cases h
        exact ⟨memr_readWord_data hw, Nat.le_trans (Nat.sub_le _ _) (Nat.sub_le _ _)⟩
      · have := unaryWords_data e h
        exact ⟨this.1.trans (memr_readWord_data hw), this.2⟩
    all_goals cases h

theorem RInv.of_data {s s' : BufR W} (hi : RInv s) (hd : s'.back.data = s.back.data)
    (hb : s'.bib < 2 * W) : RInv s' :=
  ⟨hi.posW, hb, by rw [hd]; exact hi.fit⟩

theorem RInv.of_le {s s' : BufR W} (hi : RInv s) (hd : s'.back.data = s.back.data)
    (hb : s'.bib ≤ s.bib ∨ s'.bib ≤ W) : RInv s' :=
  hi.of_data hd <| hb.elim (Nat.lt_of_le_of_lt · hi.bib)
    (Nat.lt_of_le_of_lt · (Nat.two_mul W ▸ Nat.lt_add_of_pos_right hi.posW))

theorem hand_readBits_rinv (e : Endian) {s s' : BufR W} {n v : Nat} (hi : RInv s)
    (h : (BufR.impl e).readBits s n = .ok (v, s')) : RInv s' := by
  cases e <;>
  · simp only [BufR.impl, BufR.readBitsBE, BufR.readBitsLE] at h
    split at h
    · cases h
    · split at h
      · cases h; exact hi.of_le rfl (.inl (Nat.sub_le _ _))
      · split at h
        · rename_i hrw
          split at h
          · rename_i hw
            cases h
            -- the word loop of this endianness
            have hd := by first | exact readWordsBE_data hrw | exact readWordsLE_data hrw
            exact hi.of_le ((memr_readWord_data hw).trans hd) (.inr (Nat.sub_le _ _))
          all_goals cases h
        all_goals cases h

theorem hand_readUnary_rinv (e : Endian) {s s' : BufR W} {v : Nat} (hi : RInv s)
    (h : (BufR.impl e).readUnary s = .ok (v, s')) : RInv s' := by
  rw [BufR.readUnary_eq] at h
  split at h
  · cases h; exact hi.of_le rfl (.inl (Nat.sub_le _ _))
  · exact hi.of_le (unaryWords_data e h).1 (.inr (unaryWords_data e h).2)

theorem hand_skipBits_rinv (e : Endian) {s s' : BufR W} {n : Nat} (hi : RInv s)
    (h : (BufR.impl e).skipBits s n = .ok s') : RInv s' := by
  rw [BufR.skipBits_eq] at h
  split at h
  · cases h; exact hi.of_le rfl (.inl (Nat.sub_le _ _))
  · split at h
    · rename_i hsk
      split at h
      · rename_i hw
        cases h
        exact hi.of_le ((memr_readWord_data hw).trans (skipWords_data hsk)) (.inr (Nat.sub_le _ _))
      all_goals cases h
    all_goals cases h

theorem refill_rinv (e : Endian) {s s' : BufR W} (hi : RInv s) (hb : s.bib < W)
    (h : BufR.refill e s = .ok s') : RInv s' := by
  rw [BufR.refill_eq] at h
  split at h
  · cases h
  · split at h
    · rename_i hw
      cases h
      exact hi.of_data (memr_readWord_data hw)
        (Nat.two_mul W ▸ Nat.add_lt_add_right hb W : s.bib + W < 2 * W)
    all_goals cases h

theorem hand_peekBits_rinv (e : Endian) {s s' : BufR W} {n v : Nat} (hi : RInv s) (hn : n ≤ W)
    (h : (BufR.impl e).peekBits s n = .ok (v, s')) : RInv s' := by
  rw [BufR.peekBits_eq] at h
  split at h
  · cases h
  · by_cases hnb : n > s.bib
    · rw [if_pos hnb] at h
      split at h
      · rename_i hr
        split at h
        · cases h
        · cases h; exact refill_rinv e hi (Nat.lt_of_lt_of_le hnb hn) hr
      all_goals cases h
    · rw [if_neg hnb] at h
      dsimp only at h
      split at h
      · cases h
      · cases h; exact hi

theorem hand_skipAfterPeek_rinv (e : Endian) (s : BufR W) (n : Nat) (hi : RInv s) :
    RInv ((BufR.impl e).skipAfterPeek s n) := by
  cases e <;> exact hi.of_le rfl (.inl (Nat.sub_le _ _))

theorem PeekLe.of_peekBounded {α : Type} (p : RProg α) :
    ∀ c, PeekBounded W c p → PeekLe W p := by
  induction p with
  | ret a => intro _ _; trivial
  | fail x => intro _ _; trivial
  | panic => intro _ _; trivial
  | dpanic => intro _ _; trivial
  | readBits n k ih => intro c h v; exact ih v 0 (h v)
  | readUnary k ih => intro c h v; exact ih v 0 (h v)
  | peek n k ih =>
    intro c h
    refine ⟨h.1, fun v => ?_⟩
    cases v with
    | ok x => exact ih (.ok x) n (h.2.1 x)
    | error x => exact ih (.error x) c (h.2.2 x)
  | skipAfterPeek n k ih => intro c h; exact ih (c - n) h.2
  | skip n k ih => intro c h; exact ih 0 h

end Headline

theorem Headline2.ragree_gen (e : Endian) {W : Nat} :
    Headline2.RAgree (Headline.genRImpl (W := W) e) (BufR.impl e) Headline.RInv W where
  readBits := fun s n hj =>
    ⟨Headline.genR_readBits e s hj n, fun _ _ h => Headline.hand_readBits_rinv e hj h⟩
  readUnary := fun s hj =>
    ⟨Headline.genR_readUnary e s hj, fun _ _ h => Headline.hand_readUnary_rinv e hj h⟩
  peekBits := fun s n hj hn =>
    ⟨Headline.genR_peekBits e s hj n, fun _ _ h => Headline.hand_peekBits_rinv e hj hn h⟩
  skipAfterPeek := fun s n hj =>
    ⟨Headline.genR_skipAfterPeek e s n, Headline.hand_skipAfterPeek_rinv e s n hj⟩
  skipBits := fun s n hj =>
    ⟨Headline.genR_skipBits e s hj n, fun _ h => Headline.hand_skipBits_rinv e hj h⟩

namespace Headline

/-- **Every reader program (peeks of at most `W` bits) runs on the translated `BufBitReader`
    exactly as on the hand-written model**, from every state of the struct invariant. -/
theorem gen_rrun_eq {α : Type} (e : Endian) (p : RProg α) :
    ∀ (s : BufR W), RInv s → PeekLe W p → p.run (genRImpl e) s = p.run (BufR.impl e) s :=
  Headline2.rrun_congr (Headline2.ragree_gen e) p

theorem hand_rrun_rinv {α : Type} (e : Endian) (p : RProg α) (s : BufR W) (a : α) (s' : BufR W)
    (hi : RInv s) (hp : PeekLe W p) (h : p.run (BufR.impl e) s = .ok (a, s')) : RInv s' :=
  Headline2.rrun_keeps (Headline2.ragree_gen e) p hi hp h

theorem gen_rrun_rinv {α : Type} (e : Endian) (p : RProg α) (s : BufR W) (a : α) (s' : BufR W)
    (hi : RInv s) (hp : PeekLe W p) (h : p.run (genRImpl e) s = .ok (a, s')) : RInv s' := by
  rw [gen_rrun_eq e p s hi hp] at h
  exact hand_rrun_rinv e p s a s' hi hp h

theorem rinv_new (back : MemR W) (hW : 0 < W) (hfit : back.data.length * W + 4 * W < 2 ^ 64) :
    RInv (BufR.new back) :=
  ⟨hW, by show 0 < 2 * W; omega, hfit⟩

theorem rinv_of_rel {e : Endian} {s : BufR W} {r : RefR} (h : BufR.Rel e s r)
    (hfit : s.back.data.length * W + 4 * W < 2 ^ 64) : RInv s :=
  ⟨Nat.pos_of_mul_pos_left (Nat.zero_lt_of_lt h.1), h.1, hfit⟩

/-- **`PeekLe` is needed** (and this is where the hand-written model and the Rust differ): on an
    8-bit-word reader, `peek_bits(8)` then `peek_bits(9)` (allowed by the Rust's
    `debug_assert!(n_bits <= PeekWord::BITS)`, `PeekWord = u16`) refills twice and leaves
    `bits_in_buffer = 16 = BB::BITS`; the next `read_bits` of the translated body stops at
    `debug_assert!(self.bits_in_buffer < BB::<WR>::BITS)`, the hand-written model (which leaves that
    assertion out as "the struct invariant") goes on. -/
theorem peek_wide_breaks_invariant :
    let p : RProg Nat := .peek 8 fun _ => .peek 9 fun _ => .readBits 1 .ret
    let s : BufR 8 := BufR.new ⟨[0xA5#8, 0x3C#8, 0xF0#8], 0, true⟩
    p.run (genRImpl .be) s = .dpanic ∧ (∃ s', p.run (BufR.impl .be) s = .ok (1, s')) ∧
    p.run (genRImpl .le) s = .dpanic ∧ (∃ s', p.run (BufR.impl .le) s = .ok (1, s')) :=
  ⟨rfl, ⟨_, rfl⟩, rfl, ⟨_, rfl⟩⟩

/-- `impl BitRead<E> for BitReader<E, _>`, assembled from the translated bodies -/
def genBitRImpl (e : Endian) : RImpl BitR :=
  match e with
  | .be => { readBits := fun s n => GenBitR.natOut (Gen.BitR.read_bits_be s n),
             peekBits := Gen.BitR.peek_bits_be,
             skipAfterPeek := fun s n =>
               match Gen.BitR.skip_bits_after_peek_be s n with
               | .ok s' => s'
               | _ => s,
             skipBits := Gen.BitR.skip_bits_be,
             readUnary := fun s => GenBitR.natOut (Gen.BitR.read_unary_be s) }
  | .le => { readBits := fun s n => GenBitR.natOut (Gen.BitR.read_bits_le s n),
             peekBits := Gen.BitR.peek_bits_le,
             skipAfterPeek := fun s n =>
               match Gen.BitR.skip_bits_after_peek_le s n with
               | .ok s' => s'
               | _ => s,
             skipBits := Gen.BitR.skip_bits_le,
             readUnary := fun s => GenBitR.natOut (Gen.BitR.read_unary_le s) }

theorem genBitRImpl_eq (e : Endian) : genBitRImpl e = GenBitR.genImpl e := by
  cases e <;> rfl

theorem genBitR_u64 (e : Endian) (r : BitR) (k v : Nat) (r' : BitR)
    (h : (genBitRImpl e).readBits r k = .ok (v, r')) : v < 2 ^ 64 := by
  cases e <;>
  · obtain ⟨p, _, hp⟩ := Res.map_eq_ok.1 h
    cases hp
    exact p.1.isLt

theorem unaryLoop_data (e : Endian) (fuel : Nat) : ∀ (d : MemR 64) (word : BitVec 64) (biw total r : Nat)
    (d' : MemR 64), BitR.unaryLoop e fuel d word biw total = .ok (r, d') → d'.data = d.data := by
  induction fuel with
  | zero => intro d word biw total r d' h; simp only [BitR.unaryLoop] at h; cases h
  | succ fuel ih =>
    intro d word biw total r d' h
    rw [BitRd.unaryLoop_succ] at h
    split at h
    · cases h; rfl
    · split at h
      · rename_i h1
        rw [ih _ _ _ _ _ _ h, GenBitR.readWord_data h1]
      all_goals cases h

def BStep (s s' : BitR) : Prop := s.bitIndex ≤ s'.bitIndex ∧ s'.data.data = s.data.data

theorem BStep.refl (s : BitR) : BStep s s := ⟨Nat.le_refl _, rfl⟩
theorem BStep.trans {a b c : BitR} (h1 : BStep a b) (h2 : BStep b c) : BStep a c :=
  ⟨Nat.le_trans h1.1 h2.1, by rw [h2.2, h1.2]⟩

theorem bitr_readBits_step {e : Endian} {s s' : BitR} {n v : Nat}
    (h : (BitR.impl e).readBits s n = .ok (v, s')) :
    s'.bitIndex = s.bitIndex + n ∧ s'.data.data = s.data.data := by
  change BitR.readBits e s n = .ok (v, s') at h
  unfold BitR.readBits at h
  split at h
  · rename_i h0; cases h; subst h0; exact ⟨rfl, rfl⟩
  · split at h
    · cases e <;> cases h
    · split at h
      · rename_i x d hx
        cases h
        exact ⟨rfl, (BitRd.extract_ok hx).2.1⟩
      all_goals cases h

theorem bitr_peekBits_step {e : Endian} {s s' : BitR} {n v : Nat}
    (h : (BitR.impl e).peekBits s n = .ok (v, s')) :
    s'.bitIndex = s.bitIndex ∧ s'.data.data = s.data.data := by
  change BitR.peekBits e s n = .ok (v, s') at h
  unfold BitR.peekBits at h
  split at h
  · cases h; exact ⟨rfl, rfl⟩
  · split at h
    · cases h
    · split at h
      · rename_i x d hx
        cases h
        exact ⟨rfl, (BitRd.extract_ok hx).2.1⟩
      all_goals cases h

theorem bitr_readUnary_step {e : Endian} {s s' : BitR} {v : Nat}
    (h : (BitR.impl e).readUnary s = .ok (v, s')) :
    s'.bitIndex = s.bitIndex + v + 1 ∧ s'.data.data = s.data.data := by
  change BitR.readUnary e s = .ok (v, s') at h
  unfold BitR.readUnary at h
  split at h
  · rename_i d0 h0
    have e0 := GenBitR.setWordPos_data h0
    dsimp only at h
    split at h
    · rename_i w d1 h1
      have e1 := GenBitR.readWord_data h1
      split at h
      · rename_i r d2 h2
        cases h
        exact ⟨rfl, by show d2.data = s.data.data; rw [unaryLoop_data e _ _ _ _ _ _ _ h2, e1, e0]⟩
      all_goals cases h
    all_goals cases h
  all_goals cases h

theorem bitr_skipBits_step {e : Endian} {s s' : BitR} {n : Nat}
    (h : (BitR.impl e).skipBits s n = .ok s') :
    s'.bitIndex = s.bitIndex + n ∧ s'.data.data = s.data.data := by
  change BitR.skipBits s n = .ok s' at h
  unfold BitR.skipBits at h
  cases h; exact ⟨rfl, rfl⟩

theorem bitr_steps (e : Endian) : RImpl.Steps (BitR.impl e) BStep where
  refl := BStep.refl
  trans := BStep.trans
  readBits := fun h => ⟨(bitr_readBits_step h).1 ▸ Nat.le_add_right _ _, (bitr_readBits_step h).2⟩
  peekBits := fun _ h => ⟨Nat.le_of_eq (bitr_peekBits_step h).1.symm, (bitr_peekBits_step h).2⟩
  skipAfterPeek := fun _ _ => ⟨Nat.le_add_right _ _, rfl⟩
  skipBits := fun h => ⟨(bitr_skipBits_step h).1 ▸ Nat.le_add_right _ _, (bitr_skipBits_step h).2⟩
  readUnary := fun h =>
    ⟨(bitr_readUnary_step h).1 ▸ Nat.le_trans (Nat.le_add_right _ _) (Nat.le_add_right _ _),
      (bitr_readUnary_step h).2⟩

theorem bitr_run_step {α : Type} (e : Endian) (p : RProg α) (s : BitR) (a : α) (s' : BitR)
    (h : p.run (BitR.impl e) s = .ok (a, s')) : BStep s s' :=
  RProg.run_steps (bitr_steps e) p (.any p) h

/-- the position plus `data.length + 3` words fits a `u64` (the hypothesis of
    `GenBitR.genImpl_readUnary`; the loop of `read_unary` has fuel `data.length + 3 - pos`) -/
def BFits (s : BitR) : Prop := s.bitIndex + (s.data.data.length + 3) * 64 < 2 ^ 64

theorem BFits.lt {s : BitR} (h : BFits s) : s.bitIndex < 2 ^ 64 :=
  Nat.lt_of_le_of_lt (Nat.le_add_right _ _) h

theorem BFits.back {s s' : BitR} (h : BStep s s') (hb : BFits s') : BFits s := by
  unfold BFits at hb ⊢
  rw [h.2] at hb
  exact Nat.lt_of_le_of_lt (Nat.add_le_add_right h.1 _) hb

theorem bitr_agreeBelow (e : Endian) : Headline2.RAgreeBelow (genBitRImpl e) (BitR.impl e) BStep BFits where
  steps := bitr_steps e
  back := BFits.back
  readBits := fun {s n _ s'} h hb => by
    rw [genBitRImpl_eq, GenBitR.genImpl_readBits e s n ((bitr_readBits_step h).1 ▸ hb.lt), h]
  peekBits := fun {s n} hb => by
    rw [genBitRImpl_eq, GenBitR.genImpl_peekBits e s n hb.lt]
  skipAfterPeek := fun {s n} hb => by
    rw [genBitRImpl_eq, GenBitR.genImpl_skipAfterPeek e s n hb.lt]
  skipBits := fun {s n s'} h hb => by
    rw [genBitRImpl_eq, GenBitR.genImpl_skipBits e s n ((bitr_skipBits_step h).1 ▸ hb.lt), h]
  readUnary := fun {s _ s'} h hb => by
    rw [genBitRImpl_eq,
      GenBitR.genImpl_readUnary e s (BFits.back ((bitr_steps e).readUnary h) hb), h]

/-- **Every reader program that succeeds on the hand-written `BitReader` with a final position
    `p` such that `p + (data.length + 3) * 64 < 2^64` runs identically on the
    translated `BitReader`.**  The translated bodies keep the position in a `u64`
    (`self.bit_index`), the hand-written model in a `Nat`; no invariant of the state alone can
    bound the arguments of `skip_bits`, so the bound is on the run. -/
theorem gen_rrun_bitr_eq {α : Type} (e : Endian) (p : RProg α) :
    ∀ (s : BitR) (a : α) (s' : BitR), p.run (BitR.impl e) s = .ok (a, s') →
      s'.bitIndex + (s.data.data.length + 3) * 64 < 2 ^ 64 →
      p.run (genBitRImpl e) s = .ok (a, s') := by
  intro s a s' h hfit
  rw [← (bitr_run_step e p s a s' h).2] at hfit
  exact Headline2.rrun_below (bitr_agreeBelow e) p h hfit

end Headline
end Dsi
