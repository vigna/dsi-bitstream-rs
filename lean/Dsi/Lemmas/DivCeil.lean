/-
  Rounding a quotient up by adding `b - 1` before dividing: the form `u64::div_ceil` takes in the
  word-position arithmetic of `WordAdapter`.
-/
namespace Dsi

theorem add_sub_one_div (a : Nat) {b : Nat} (hb : 0 < b) :
    (a + b - 1) / b = if a % b > 0 then a / b + 1 else a / b := by
  have h : a + b - 1 = (a % b + b - 1) + b * (a / b) := by have := Nat.div_add_mod a b; omega
  have hr := Nat.mod_lt a hb
  rw [h, Nat.add_mul_div_left _ _ hb]
  split
  · rw [Nat.div_eq_of_lt_le (k := 1) (by omega) (by omega), Nat.add_comm]
  · rw [Nat.div_eq_of_lt (by omega), Nat.zero_add]

theorem mul_add_sub_one_div (k : Nat) {n : Nat} (hn : 0 < n) : (k * n + n - 1) / n = k := by
  rw [add_sub_one_div _ hn, Nat.mul_mod_left, if_neg (Nat.lt_irrefl 0), Nat.mul_div_cancel _ hn]

end Dsi
