/-
  Kraft inequality for a prefix-free code `c` and any `len` with `len n = (c n).length`
  (`kraft_of_PFOn`, `kraft_of_PF`; Kraft–McMillan from Mathlib): the sum of `2^{-len n}` over an
  initial segment of the naturals is at most one.  Prefix-freeness of the published codewords
  (`Dsi.Spec.*`) of unary, γ, Rice, δ, exp-Golomb, π; the other codes are in `Kraft2`, the sums for
  the implemented length functions in `Props/C20`.
-/
import Dsi.Props.CodesA
import Mathlib.InformationTheory.Coding.KraftMcMillan

namespace Dsi

open InformationTheory

theorem uniquelyDecodable_of_prefix_free {α : Type*} (S : Set (List α))
    (hpf : ∀ a ∈ S, ∀ b ∈ S, a <+: b → a = b) (hne : [] ∉ S) :
    UniquelyDecodable S := by
  have hcons : ∀ a ∈ S, ∀ L : List (List α), (a :: L).flatten ≠ [] := fun a ha L h =>
    hne ((List.append_eq_nil_iff.mp (List.flatten_cons ▸ h)).1 ▸ ha)
  intro L₁
  induction L₁ with
  | nil =>
    intro L₂ _ h₂ hfl
    cases L₂ with
    | nil => rfl
    | cons b L₂ => exact absurd hfl.symm (hcons b (h₂ b List.mem_cons_self) L₂)
  | cons a L₁ ih =>
    intro L₂ h₁ h₂ hfl
    cases L₂ with
    | nil => exact absurd hfl (hcons a (h₁ a List.mem_cons_self) L₁)
    | cons b L₂ =>
      simp only [List.flatten_cons] at hfl
      have haS : a ∈ S := h₁ a List.mem_cons_self
      have hbS : b ∈ S := h₂ b List.mem_cons_self
      have hab : a = b := by
        rcases List.append_eq_append_iff.mp hfl with ⟨t, hb, _⟩ | ⟨t, ha, _⟩
        · exact hpf a haS b hbS ⟨t, hb.symm⟩
        · exact (hpf b hbS a haS ⟨t, ha.symm⟩).symm
      subst hab
      rw [ih L₂ (fun w hw => h₁ w (List.mem_cons_of_mem _ hw))
        (fun w hw => h₂ w (List.mem_cons_of_mem _ hw)) (List.append_cancel_left hfl)]

theorem kraft_of_prefix_free (S : Finset (List Bool))
    (hpf : ∀ a ∈ S, ∀ b ∈ S, a <+: b → a = b) :
    ∑ w ∈ S, ((1:ℝ)/2) ^ w.length ≤ 1 := by
  by_cases hne : [] ∈ S
  · -- the empty word is a prefix of every word: `S = {[]}`
    have hS : S = {[]} := by
      ext w
      simp only [Finset.mem_singleton]
      constructor
      · intro hw
        exact (hpf [] hne w hw (List.nil_prefix)).symm
      · rintro rfl
        exact hne
    rw [hS]
    simp
  · have hud : UniquelyDecodable (S : Set (List Bool)) :=
      uniquelyDecodable_of_prefix_free (S : Set (List Bool))
        (fun a ha b hb => hpf a (by simpa using ha) b (by simpa using hb))
        (by simpa using hne)
    have h := kraft_mcmillan_inequality hud
    simpa using h

/-- Prefix-free on the arguments satisfying `D`, in the form that composes: no codeword followed
    by anything equals another codeword followed by anything. -/
def PFOn (D : ℕ → Prop) (c : ℕ → List Bool) : Prop :=
  ∀ m n s t, D m → D n → c m ++ s = c n ++ t → m = n

abbrev PF (c : ℕ → List Bool) : Prop := PFOn (fun _ => True) c

theorem PFOn.mono {D D' : ℕ → Prop} {c : ℕ → List Bool} (h : PFOn D c)
    (hD : ∀ n, D' n → D n) : PFOn D' c :=
  fun m n s t hm hn => h m n s t (hD m hm) (hD n hn)

theorem PFOn.congr {D : ℕ → Prop} {c c' : ℕ → List Bool} (h : PFOn D c')
    (hc : ∀ n, D n → c n = c' n) : PFOn D c :=
  fun m n s t hm hn hst => h m n s t hm hn (hc m hm ▸ hc n hn ▸ hst)

theorem PFOn.prefix_free {D : ℕ → Prop} {c : ℕ → List Bool} (h : PFOn D c) (m n : ℕ)
    (hm : D m) (hn : D n) : c m <+: c n → m = n := by
  rintro ⟨t, ht⟩
  exact h m n t [] hm hn (by simpa using ht)

theorem PF.prefix_free {c : ℕ → List Bool} (h : PF c) (m n : ℕ) : c m <+: c n → m = n :=
  PFOn.prefix_free h m n trivial trivial

/-- A code that is prefix-free on `D`, followed by a suffix code that is prefix-free among the
    arguments sharing the same prefix value. -/
theorem PFOn.comp {D D' : ℕ → Prop} {c : ℕ → List Bool} (hc : PFOn D c)
    (f : ℕ → ℕ) (g : ℕ → List Bool) (hD : ∀ n, D' n → D (f n))
    (hg : ∀ m n s t, D' m → D' n → f m = f n → g m ++ s = g n ++ t → m = n) :
    PFOn D' (fun n => c (f n) ++ g n) := by
  intro m n s t hm hn h
  simp only [List.append_assoc] at h
  have hf : f m = f n := hc (f m) (f n) _ _ (hD m hm) (hD n hn) h
  rw [hf] at h
  exact hg m n s t hm hn hf (List.append_cancel_left h)

/-- If one reader program decodes every codeword, wherever it is embedded, the code is
    prefix-free: run on `c m ++ s = c n ++ t` the program returns both `m` and `n`. -/
theorem PFOn_of_reads {p : RProg ℕ} {e : Endian} {D : ℕ → Prop} {c : ℕ → List Bool}
    (h : ∀ n, D n → Reads p e (c n) n) : PFOn D c := by
  intro m n s t hm hn hst
  have hrun := h m hm [] s false 1 (Nat.le_refl 1)
  have hat : RefR.at e [] (c m) s false 1 = RefR.at e [] (c n) t false 1 := by
    simp only [RefR.at, List.nil_append, hst]
  rw [hat, h n hn [] t false 1 (Nat.le_refl 1)] at hrun
  injection hrun with hrun
  exact (Prod.mk.inj hrun).1.symm

theorem kraft_of_PFOn {D : ℕ → Prop} {c : ℕ → List Bool} (hc : PFOn D c) (len : ℕ → ℕ)
    (hlen : ∀ n, D n → (c n).length = len n) (N : ℕ) (hN : ∀ n, n < N → D n) :
    ∑ n ∈ Finset.range N, ((1:ℝ)/2) ^ len n ≤ 1 := by
  have hD : ∀ n ∈ Finset.range N, D n := fun n hn => hN n (Finset.mem_range.mp hn)
  have hpf : ∀ m ∈ Finset.range N, ∀ n ∈ Finset.range N, c m <+: c n → m = n :=
    fun m hm n hn => hc.prefix_free m n (hD m hm) (hD n hn)
  have h := kraft_of_prefix_free ((Finset.range N).image c) (by
    intro a ha b hb hab
    obtain ⟨m, hm, rfl⟩ := Finset.mem_image.mp ha
    obtain ⟨n, hn, rfl⟩ := Finset.mem_image.mp hb
    rw [hpf m hm n hn hab])
  have hinj : Set.InjOn c (Finset.range N : Set ℕ) :=
    fun m hm n hn hmn => hpf m hm n hn (hmn ▸ List.prefix_refl _)
  rw [Finset.sum_image hinj] at h
  exact (Finset.sum_congr rfl fun n hn => by rw [hlen n (hD n hn)]).ge.trans h

theorem kraft_of_PF {c : ℕ → List Bool} (hc : PF c) (len : ℕ → ℕ)
    (hlen : ∀ n, (c n).length = len n) (N : ℕ) :
    ∑ n ∈ Finset.range N, ((1:ℝ)/2) ^ len n ≤ 1 :=
  kraft_of_PFOn hc len (fun n _ => hlen n) N fun _ _ => trivial

namespace Kraft

theorem fieldBits_append_inj (e : Endian) (v w n : ℕ) (s t : List Bool)
    (h : fieldBits e v n ++ s = fieldBits e w n ++ t) : v % 2 ^ n = w % 2 ^ n ∧ s = t := by
  have h' := List.append_inj h (by simp)
  rw [← bitsVal_fieldBits e v n, h'.1, bitsVal_fieldBits]
  exact ⟨rfl, h'.2⟩

theorem eq_of_div_of_mod {a b P : ℕ} (hd : a / P = b / P) (hm : a % P = b % P) : a = b := by
  rw [← Nat.div_add_mod a P, hd, hm, Nat.div_add_mod]

theorem eq_of_log2_of_mod {a b : ℕ} (ha : a ≠ 0) (hb : b ≠ 0) (hl : a.log2 = b.log2)
    (hm : a % 2 ^ b.log2 = b % 2 ^ b.log2) : a = b := by
  rw [← mod_pow_log2_add ha, hl, hm, mod_pow_log2_add hb]

end Kraft

/-- a code followed by `n + 1` without its most significant bit, where the code gives the
    position `⌊log₂ (n+1)⌋` of that bit (γ, δ, π) -/
theorem PF.msbTail {c : ℕ → List Bool} (hc : PF c) (e : Endian) :
    PF (fun n => c (n + 1).log2 ++ fieldBits e (n + 1) (n + 1).log2) :=
  hc.comp (fun n => (n + 1).log2) (fun n => fieldBits e (n + 1) (n + 1).log2) (fun _ _ => trivial)
    fun m n s t _ _ hl h => by
      have hl : (m + 1).log2 = (n + 1).log2 := hl
      rw [hl] at h
      exact Nat.succ_injective (Kraft.eq_of_log2_of_mod (Nat.succ_ne_zero m) (Nat.succ_ne_zero n) hl
        (Kraft.fieldBits_append_inj e _ _ _ s t h).1)

/-- a code for the quotient by `2^k` followed by the `k` low bits (Rice, exp-Golomb) -/
theorem PF.lowBits {c : ℕ → List Bool} (hc : PF c) (e : Endian) (k : ℕ) :
    PF (fun n => c (n / 2 ^ k) ++ fieldBits e n k) :=
  hc.comp (fun n => n / 2 ^ k) (fun n => fieldBits e n k) (fun _ _ => trivial)
    fun _ _ s t _ _ hd h => Kraft.eq_of_div_of_mod hd (Kraft.fieldBits_append_inj e _ _ _ s t h).1

theorem unary_PF : PF Spec.unary := PFOn_of_reads fun n _ => unary_reads .be n

theorem unary_prefix_free (m n : ℕ) : Spec.unary m <+: Spec.unary n → m = n :=
  unary_PF.prefix_free m n

theorem gamma_PF (e : Endian) : PF (Spec.gamma e) := unary_PF.msbTail e

theorem gamma_prefix_free (e : Endian) (m n : ℕ) : Spec.gamma e m <+: Spec.gamma e n → m = n :=
  (gamma_PF e).prefix_free m n

theorem rice_PF (e : Endian) (k : ℕ) : PF (Spec.rice e k) := unary_PF.lowBits e k

theorem rice_prefix_free (e : Endian) (k m n : ℕ) :
    Spec.rice e k m <+: Spec.rice e k n → m = n :=
  (rice_PF e k).prefix_free m n

theorem delta_PF (e : Endian) : PF (Spec.delta e) := (gamma_PF e).msbTail e

theorem delta_prefix_free (e : Endian) (m n : ℕ) : Spec.delta e m <+: Spec.delta e n → m = n :=
  (delta_PF e).prefix_free m n

theorem expGolomb_PF (e : Endian) (k : ℕ) : PF (Spec.expGolomb e k) := (gamma_PF e).lowBits e k

theorem expGolomb_prefix_free (e : Endian) (k m n : ℕ) :
    Spec.expGolomb e k m <+: Spec.expGolomb e k n → m = n :=
  (expGolomb_PF e k).prefix_free m n

theorem pi_PF (e : Endian) (k : ℕ) : PF (Spec.pi e k) := (rice_PF e k).msbTail e

theorem pi_prefix_free (e : Endian) (k m n : ℕ) : Spec.pi e k m <+: Spec.pi e k n → m = n :=
  (pi_PF e k).prefix_free m n

end Dsi
