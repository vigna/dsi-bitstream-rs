/-
  C05 — the ζ₃ tables against the bit-by-bit programs, evaluated by the kernel (decoding and
  encoding tables on the number machines of `TablesNat`, the length table and `Zeta.K = 3` as
  stated); see `TablesOkGamma`.
-/
import Dsi.Lemmas.TablesNat
import Dsi.Gen.TablesZeta
namespace Dsi
open Gen Tables

theorem zeta_read_be_ok :
    chkReadTable .be (readZetaDefault 3) Zeta.READ_BITS Zeta.MISSING_VALUE_LEN_BE
      Zeta.READ_BE_chunks Zeta.READ_LEN_BE_chunks = true :=
  chkReadTable_of_shared (peekFree_zeta 3) (by decide +kernel)

theorem zeta_read_le_ok :
    chkReadTable .le (readZetaDefault 3) Zeta.READ_BITS Zeta.MISSING_VALUE_LEN_LE
      Zeta.READ_LE_chunks Zeta.READ_LEN_LE_chunks = true :=
  chkReadTable_of_shared (peekFree_zeta 3) (by decide +kernel)

theorem zeta_write_be_ok :
    chkWriteTable .be (writeZetaDefault · 3) Zeta.WRITE_MAX
      Zeta.WRITE_BE_chunks Zeta.WRITE_LEN_BE_chunks = true :=
  chkWriteTable_of_nat (by decide +kernel)

theorem zeta_write_le_ok :
    chkWriteTable .le (writeZetaDefault · 3) Zeta.WRITE_MAX
      Zeta.WRITE_LE_chunks Zeta.WRITE_LEN_LE_chunks = true :=
  chkWriteTable_of_nat (by decide +kernel)

theorem zeta_len_ok :
    chkLenTable (lenZetaDefault · Zeta.K) Zeta.WRITE_MAX Zeta.LEN_chunks = true := by decide +kernel

/-- the ζ tables are generated for `k = 3` (the only `k` the table-driven methods serve) -/
theorem zeta_k_ok : Zeta.K = 3 := by decide +kernel

end Dsi
