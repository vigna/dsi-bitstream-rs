/-
  Prefix-freeness of minimal binary, Golomb, ζ_k, VByte, ω (codes whose suffix length is not a
  function of the prefix value, and codes that are prefix-free only on a bounded domain), in the
  form `PFOn` / `PF` that `kraft_of_PFOn` / `kraft_of_PF` of `Kraft` take.
-/
import Dsi.Lemmas.Kraft
import Dsi.Props.CodesB

namespace Dsi

open InformationTheory

namespace Kraft

theorem field_head_inj (e : Endian) {v w n : ℕ} {s t : List Bool} (hv : v < 2 ^ n)
    (hw : w < 2 ^ n) (h : fieldBits e v n ++ s = fieldBits e w n ++ t) : v = w ∧ s = t := by
  have h' := fieldBits_append_inj e v w n s t h
  rwa [Nat.mod_eq_of_lt hv, Nat.mod_eq_of_lt hw] at h'

end Kraft

/-- Minimal binary with bound `u` is prefix-free on its domain `x < u`: with `l = ⌊log₂ u⌋` and
    `T = 2^(l+1) - u`, the first `l` bits hold
    `x < T` in a short codeword and `(x + T) / 2 ≥ T` in a long one, so a short and a long
    codeword differ there; two short ones are their fields, and two long ones agree on
    `(x + T) / 2` and on the last bit. -/
theorem minimalBinary_PFOn (e : Endian) {u : ℕ} (hu1 : 1 ≤ u) :
    PFOn (fun x => x < u) (fun x => Spec.minimalBinary e x u) := by
  obtain ⟨h1, h2⟩ := log2_bounds (m := u) (by omega)
  obtain ⟨T, hT⟩ : ∃ T, T + u = 2 ^ (u.log2 + 1) := ⟨_, Nat.sub_add_cancel (Nat.le_of_lt h2)⟩
  have hEq := fun x => CodesB.minimalBinary_eq e x hT
  rw [Nat.pow_succ] at hT
  clear h2
  have hshort : ∀ {x}, x < T → x < 2 ^ u.log2 := fun h => by omega
  have hlong : ∀ {x}, x < u → (x + T) / 2 < 2 ^ u.log2 := fun h => by omega
  have short_long : ∀ {x y s t}, x < T → ¬ y < T → y < u →
      fieldBits e x u.log2 ++ s ≠ fieldBits e ((y + T) / 2) u.log2 ++ t := by
    intro x y s t cx cy hy h
    have := (Kraft.field_head_inj e (hshort cx) (hlong hy) h).1
    omega
  intro x y s t hx hy h
  simp only [hEq] at h
  by_cases cx : x < T <;> by_cases cy : y < T
  · rw [if_pos cx, if_pos cy] at h
    exact (Kraft.field_head_inj e (hshort cx) (hshort cy) h).1
  · rw [if_pos cx, if_neg cy, List.append_assoc] at h
    exact absurd h (short_long cx cy hy)
  · rw [if_neg cx, if_pos cy, List.append_assoc] at h
    exact absurd h.symm (short_long cy cx hx)
  · rw [if_neg cx, if_neg cy, List.append_assoc, List.append_assoc] at h
    obtain ⟨hq, hb⟩ := Kraft.field_head_inj e (hlong hx) (hlong hy) h
    exact Nat.add_right_cancel
      (Kraft.eq_of_div_of_mod (P := 2 ^ 1) hq (Kraft.fieldBits_append_inj e _ _ 1 s t hb).1)

theorem minimalBinary_prefix_free (e : Endian) {u : ℕ} (hu1 : 1 ≤ u) (x y : ℕ)
    (hx : x < u) (hy : y < u) :
    Spec.minimalBinary e x u <+: Spec.minimalBinary e y u → x = y :=
  (minimalBinary_PFOn e hu1).prefix_free x y hx hy

theorem golomb_PF (e : Endian) {b : ℕ} (hb1 : 1 ≤ b) : PF (Spec.golomb e b) :=
  unary_PF.comp (fun n => n / b) (fun n => Spec.minimalBinary e (n % b) b) (fun _ _ => trivial)
    fun m n s t _ _ hq h => Kraft.eq_of_div_of_mod hq
      (minimalBinary_PFOn e hb1 (m % b) (n % b) s t (Nat.mod_lt _ hb1) (Nat.mod_lt _ hb1) h)

theorem golomb_prefix_free (e : Endian) {b : ℕ} (hb1 : 1 ≤ b) (m n : ℕ) :
    Spec.golomb e b m <+: Spec.golomb e b n → m = n :=
  (golomb_PF e hb1).prefix_free m n

theorem zeta_eq_zetaWrapped (e : Endian) (k n : ℕ) (h : ((n + 1).log2 / k + 1) * k ≤ 64) :
    Spec.zeta e k n = Spec.zetaWrapped e k n :=
  (zeta_published e k n h).symm

theorem zetaWrapped_PFOn (e : Endian) {k : ℕ} (hk1 : 1 ≤ k) :
    PFOn (fun n => n < 2 ^ 64 - 1) (Spec.zetaWrapped e k) := by
  have hr := fun n (hn : n < 2 ^ 64 - 1) =>
    CodesB.zeta_range (m := n + 1) (k := k) (by omega) (by omega) hk1
  refine PFOn.congr ?_ fun n hn => CodesB.zetaWrapped_eq e k n (by have := (hr n hn).1; omega)
  refine unary_PF.comp (fun n => (n + 1).log2 / k) _ (fun _ _ => trivial) ?_
  intro m n s t hm hn hf h
  obtain ⟨_, _, _, mlo, mx⟩ := hr m hm
  obtain ⟨_, hU1, _, nlo, nx⟩ := hr n hn
  have hf : (m + 1).log2 / k = (n + 1).log2 / k := hf
  rw [hf] at h mlo mx
  have := minimalBinary_PFOn e hU1 _ _ s t mx nx h
  have hmn : m + 1 = n + 1 := by rw [← Nat.sub_add_cancel mlo, this, Nat.sub_add_cancel nlo]
  exact Nat.succ_injective hmn

theorem zetaWrapped_prefix_free (e : Endian) {k : ℕ} (hk1 : 1 ≤ k) (m n : ℕ)
    (hm : m < 2 ^ 64 - 1) (hn : n < 2 ^ 64 - 1) :
    Spec.zetaWrapped e k m <+: Spec.zetaWrapped e k n → m = n :=
  (zetaWrapped_PFOn e hk1).prefix_free m n hm hn

namespace Kraft

def vbGroups (k r : ℕ) : List ℕ := (List.range k).map fun i => (r / 128 ^ i) % 128

def vbOrd (big : Bool) (k r : ℕ) : List ℕ :=
  if big then (vbGroups k r).reverse else vbGroups k r

/-- payload (low seven bits) of byte `i` of the code of `v` -/
def vbA (big : Bool) (v i : ℕ) : ℕ :=
  (vbOrd big (Spec.vbyteLen v) (v - Spec.vbyteOffset (Spec.vbyteLen v - 1))).getD i 0

theorem vbyteBytes_eq (big : Bool) (v : ℕ) :
    Spec.vbyteBytes big v = (List.range (Spec.vbyteLen v)).map fun i =>
      vbA big v i + (if i + 1 < Spec.vbyteLen v then 128 else 0) := rfl

end Kraft

theorem vbyte_PFOn (e : Endian) (big : Bool) : PFOn (fun v => v < 2 ^ 64) (Spec.vbyte e big) := by
  cases big
  · exact PFOn_of_reads fun v hv => vbyte_le_reads e 10 v (Nat.le_refl _) hv
  · exact PFOn_of_reads fun v hv => vbyte_be_reads e 10 v (Nat.le_refl _) hv

theorem vbyte_prefix_free (e : Endian) (big : Bool) (m n : ℕ) (hm : m < 2 ^ 64)
    (hn : n < 2 ^ 64) : Spec.vbyte e big m <+: Spec.vbyte e big n → m = n :=
  (vbyte_PFOn e big).prefix_free m n hm hn

theorem omega_PFOn (e : Endian) : PFOn (fun n => n < 2 ^ 64 - 1) (Spec.omega e) :=
  PFOn_of_reads (omega_reads e)

theorem omega_prefix_free (e : Endian) (m n : ℕ) (hm : m < 2 ^ 64 - 1) (hn : n < 2 ^ 64 - 1) :
    Spec.omega e m <+: Spec.omega e n → m = n :=
  (omega_PFOn e).prefix_free m n hm hn

end Dsi
