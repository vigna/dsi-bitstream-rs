/-
  Headline2: two implementations of the `BitWrite` interface that agree, on the states of an
  invariant `J` kept by the second one, except where the second one debug-panics, run every program
  alike (except where the second one debug-panics).  Used to replace the hand-written writer by the
  generated one *under* a wrapper (`CountW.impl`) or inside a composite operation.
-/
import Dsi.Lemmas.ProgSim
namespace Dsi
namespace Headline2

/-- `I` agrees with `I'` on `J`-states off the debug-panics of `I'`, and `I'` keeps `J` -/
structure WAgree {σ : Type} (I I' : WImpl σ) (J : σ → Prop) : Prop where
  writeBits : ∀ s v n, J s →
    (I'.writeBits s v n = .dpanic ∨ I.writeBits s v n = I'.writeBits s v n) ∧
    ∀ r s', I'.writeBits s v n = .ok (r, s') → J s'
  writeUnary : ∀ s x, J s →
    (I'.writeUnary s x = .dpanic ∨ I.writeUnary s x = I'.writeUnary s x) ∧
    ∀ r s', I'.writeUnary s x = .ok (r, s') → J s'
  flush : ∀ s, J s →
    (I'.flush s = .dpanic ∨ I.flush s = I'.flush s) ∧
    ∀ r s', I'.flush s = .ok (r, s') → J s'

variable {σ α : Type} {I I' : WImpl σ} {J : σ → Prop}

theorem agree_bind {β γ : Type} {x y : Res β} {f g : β → Res γ} (h : y = .dpanic ∨ x = y)
    (hfg : ∀ b, y = .ok b → g b = .dpanic ∨ f b = g b) :
    y.bind g = .dpanic ∨ x.bind f = y.bind g := by
  rcases h with rfl | rfl
  · exact .inl rfl
  · cases x with
    | ok b => exact hfg b rfl
    | dpanic => exact .inl rfl
    | _ => exact .inr rfl

theorem wrun_agree (h : WAgree I I' J) (p : WProg α) :
    ∀ s, J s → p.run I' s = .dpanic ∨ p.run I s = p.run I' s := by
  induction p with
  | ret a => exact fun _ _ => .inr rfl
  | panic => exact fun _ _ => .inr rfl
  | dpanic => exact fun _ _ => .inl rfl
  | writeBits v n k ih =>
    intro s hj
    rw [WProg.run_writeBits, WProg.run_writeBits]
    exact agree_bind (h.writeBits s v n hj).1 fun b hb => ih b.1 b.2 ((h.writeBits s v n hj).2 _ _ hb)
  | writeUnary x k ih =>
    intro s hj
    rw [WProg.run_writeUnary, WProg.run_writeUnary]
    exact agree_bind (h.writeUnary s x hj).1 fun b hb => ih b.1 b.2 ((h.writeUnary s x hj).2 _ _ hb)
  | flush k ih =>
    intro s hj
    rw [WProg.run_flush, WProg.run_flush]
    exact agree_bind (h.flush s hj).1 fun b hb => ih b.1 b.2 ((h.flush s hj).2 _ _ hb)

theorem wrun_of_ok (h : WAgree I I' J) (p : WProg α)
    {s : σ} (hj : J s) {a : α} {s' : σ} (hr : p.run I' s = .ok (a, s')) : p.run I s = .ok (a, s') := by
  rcases wrun_agree h p s hj with h1 | h1
  · rw [hr] at h1; cases h1
  · rw [h1, hr]

theorem WAgree.keeps (h : WAgree I I' J) : WImpl.Steps I' fun s s' => J s → J s' where
  refl := fun _ hj => hj
  trans := fun h1 h2 hj => h2 (h1 hj)
  writeBits := fun hr hj => (h.writeBits _ _ _ hj).2 _ _ hr
  writeUnary := fun hr hj => (h.writeUnary _ _ hj).2 _ _ hr
  flush := fun hr hj => (h.flush _ hj).2 _ _ hr

end Headline2
end Dsi
