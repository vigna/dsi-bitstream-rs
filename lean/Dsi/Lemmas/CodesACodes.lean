/-
  Helper lemmas shared by the code-by-code theorems of `Dsi.Props.CodesA` and `Dsi.Props.CodesB`:
  the "header, then a fixed-width field" shape of γ, δ, Rice, π, exp-Golomb and ω.
-/
import Dsi.Codes
import Dsi.Spec
import Dsi.Lemmas.CodesAFrame
namespace Dsi

theorem clean_of_lt (checks : Bool) {v n : Nat} (h : v < 2 ^ n) :
    checks = false ∨ v % 2 ^ 64 < 2 ^ n :=
  Or.inr (Nat.lt_of_le_of_lt (Nat.mod_le _ _) h)

/-- `v` can stand in for `v'` as the argument of `write_bits(_, n)`: it has the same `n` low bits
    and, under `checks`, no bit above them. The writers pass the whole value when `checks` is off
    and rely on `write_bits` to drop the rest. -/
def FieldArg (checks : Bool) (v n v' : Nat) : Prop :=
  (checks = false ∨ v % 2 ^ 64 < 2 ^ n) ∧ v % 2 ^ n = v' % 2 ^ n

theorem FieldArg.of_lt (checks : Bool) {v n : Nat} (h : v < 2 ^ n) : FieldArg checks v n v :=
  ⟨clean_of_lt checks h, rfl⟩

theorem FieldArg.masked (checks : Bool) (x n : Nat) :
    FieldArg checks (if checks then x % 2 ^ n else x) n x := by
  cases checks
  · exact ⟨Or.inl rfl, rfl⟩
  · exact ⟨clean_of_lt _ (Nat.mod_lt _ (Nat.two_pow_pos n)), Nat.mod_mod _ _⟩

theorem FieldArg.congr {checks : Bool} {v n a b : Nat} (h : FieldArg checks v n a)
    (hab : a % 2 ^ n = b % 2 ^ n) : FieldArg checks v n b :=
  ⟨h.1, h.2.trans hab⟩

/-- "`m` without its most significant bit": subtracting `2^λ` is masking to `λ` bits -/
theorem FieldArg.strip_msb (checks : Bool) {m : Nat} (h0 : m ≠ 0) :
    FieldArg checks (if checks then m - 2 ^ m.log2 else m) m.log2 m := by
  rw [show m - 2 ^ m.log2 = m % 2 ^ m.log2 from
    Nat.sub_eq_of_eq_add (mod_pow_log2_add h0).symm]
  exact FieldArg.masked checks m m.log2

theorem Writes.then_bits {e : Endian} {checks : Bool} {p : WProg Nat} {b1 : List Bool} {v v' n : Nat}
    (h1 : Writes p e checks b1) (hn : n ≤ 64) (hv : FieldArg checks v n v') :
    Writes (p.bind fun a => .writeBits v n fun b => .ret (a + b)) e checks (b1 ++ fieldBits e v' n) := by
  have h2 : WritesV (WProg.writeBits v n fun b => WProg.ret (b1.length + b)) e checks
      (fieldBits e v n ++ []) (b1.length + n) :=
    WritesV.writeBits hn hv.1 (WritesV.ret e checks _)
  have := WritesV.bind (k := fun a => WProg.writeBits v n fun b => .ret (a + b)) h1.toV h2
  exact Writes.ofV (this.congr (by rw [List.append_nil, fieldBits_congr e hv.2]) rfl)
    (by rw [List.length_append, fieldBits_length])

theorem Writes.unary_then_bits {e : Endian} {checks : Bool} {x v v' n : Nat}
    (hx : x < 2 ^ 64 - 1) (hn : n ≤ 64) (hv : FieldArg checks v n v') :
    Writes (.writeUnary x fun a => .writeBits v n fun b => .ret (a + b)) e checks
      (unaryBits x ++ fieldBits e v' n) :=
  Writes.then_bits (p := .writeUnary x .ret) (Writes.wunary hx) hn hv

theorem Writes.unary_then {e : Endian} {checks : Bool} {x : Nat} {q : WProg Nat} {b2 : List Bool}
    (hx : x < 2 ^ 64 - 1) (h2 : Writes q e checks b2) :
    Writes (.writeUnary x fun a => q.bind fun b => .ret (a + b)) e checks (unaryBits x ++ b2) :=
  Writes.bind_add (p := .writeUnary x .ret) (Writes.wunary hx) h2

theorem WritesV.bits_const {α} {e : Endian} {checks : Bool} {v n : Nat} {a : α} (hn : n ≤ 64)
    (hv : checks = false ∨ v % 2 ^ 64 < 2 ^ n) :
    WritesV (.writeBits v n fun _ => .ret a) e checks (fieldBits e v n) a :=
  (WritesV.writeBits hn hv (WritesV.ret e checks a)).congr (List.append_nil _) rfl

theorem Reads.bits_pure {α} {e : Endian} {n v : Nat} {k : Nat → RProg α} {c : α} (hn : n ≤ 64)
    (hc : k (v % 2 ^ n) = .ret c) : Reads (.readBits n k) e (fieldBits e v n) c :=
  (Reads.readBits (v := v) hn (hc ▸ Reads.ret e c)).congr (List.append_nil _) rfl

theorem Reads.bind_pure {α β} {e : Endian} {p : RProg α} {k : α → RProg β} {b : List Bool} {a : α}
    {c : β} (h1 : Reads p e b a) (hc : k a = .ret c) : Reads (p.bind k) e b c :=
  (Reads.bind h1 (hc ▸ Reads.ret e c)).congr (List.append_nil _) rfl

theorem msb_back {m : Nat} (h0 : m ≠ 0) : m % 2 ^ m.log2 + 2 ^ m.log2 - 1 = m - 1 :=
  congrArg (· - 1) (mod_pow_log2_add h0)

/-- the tail of γ, δ, π: `m` without its most significant bit, the leading one put back by `f` -/
theorem Reads.msb_tail {e : Endian} {m : Nat} {f : Nat → Nat} (h : m < 2 ^ 64)
    (hf : f (m % 2 ^ m.log2) = m - 1) :
    Reads (.readBits m.log2 fun v => .ret (f v)) e (fieldBits e m m.log2) (m - 1) :=
  Reads.bits_pure (Nat.le_of_lt (log2_lt_64 h)) (congrArg RProg.ret hf)

/-- the quotient of Rice / exp-Golomb stays below `2^64 - 1` -/
theorem quot_lt {k n : Nat} (hn : n < 2 ^ 64) (hk0 : k = 0 → n < 2 ^ 64 - 1) :
    n / 2 ^ k < 2 ^ 64 - 1 := by
  rcases Nat.eq_zero_or_pos k with h | h
  · subst h; rw [Nat.pow_zero, Nat.div_one]; exact hk0 rfl
  · have : n / 2 ^ k ≤ n / 2 :=
      Nat.div_le_div_left (show 2 ^ 1 ≤ 2 ^ k from Nat.pow_le_pow_right (by decide) h) (by decide)
    omega

/-- the tail of Rice and exp-Golomb: the `k` low bits, recombined with the quotient -/
theorem Reads.quot_rem_tail {e : Endian} {k n : Nat} (hk : k ≤ 63) (hn : n < 2 ^ 64) :
    Reads (.readBits k fun v =>
        if n / 2 ^ k * 2 ^ k + v ≥ 2 ^ 64 then .dpanic else .ret (n / 2 ^ k * 2 ^ k + v))
      e (fieldBits e n k) n := by
  refine Reads.bits_pure (Nat.le_trans hk (by decide)) ?_
  rw [Nat.mul_comm, Nat.div_add_mod, if_neg (Nat.not_le.2 hn)]

end Dsi
