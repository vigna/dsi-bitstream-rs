/-
  Bulk copy: the specialised `copy_to` of the buffered reader (`BufR.copyTo`), writing through any
  simulating writer implementation, against the specification `refCopy`.
-/
import Dsi.Lemmas.CopyFrom
namespace Dsi
namespace CopyL
open BufR
variable {W : Nat}

theorem write_stage {ω} {wi : WImpl ω} {Q : ω → RefW → Prop} (hw : WSim wi Q) {t : ω} {w : RefW}
    (hQ : Q t w) {r : RefR} {k v : Nat} (hk : k ≤ 64) (he : w.e = r.e) (hav : r.avail k = true)
    (hv : w.checks = false ∨ v % 2 ^ 64 < 2 ^ k) (hb : fieldBits r.e v k = takeZ k r.rest) :
    ResRel (fun a b => b.1 = { r with pos := r.pos + k } ∧ Q a.2 b.2)
      (wi.writeBits t v k) (refCopy r w k) := by
  rw [refCopy_of_write r w k v hk he hav hv hb]
  exact (hw t w v k hQ).bind_ok_right _ fun _ _ h => ⟨rfl, h⟩

/-! ### the buffered part is the generic loop and does not touch the backend -/

theorem copyBuffered_eq {ω} (e : Endian) (wi : WImpl ω) :
    ∀ (fuel : Nat) (s : BufR W) (w : ω) (fb : Nat),
      BufR.copyBuffered e wi fuel s w fb = copyGeneric (BufR.impl e) wi fuel s w fb := by
  intro fuel
  induction fuel with
  | zero => intro s w fb; rfl
  | succ fuel ih =>
    intro s w fb
    rw [BufR.copyBuffered, copyGeneric]
    simp only [ih]
    split
    · rfl
    · cases (BufR.impl e).readBits s (min fb 64) <;> rfl

theorem readBits_buffered (e : Endian) {s s' : BufR W} {n v : Nat} (hn : n ≤ s.bib)
    (h : (BufR.impl e).readBits s n = .ok (v, s')) : s'.back = s.back ∧ s'.bib = s.bib - n := by
  cases e
  · change readBitsBE s n = _ at h
    rw [readBitsBE] at h
    split at h
    · cases h
    · cases h; exact ⟨rfl, rfl⟩
  · change readBitsLE s n = _ at h
    rw [readBitsLE] at h
    split at h
    · cases h
    · cases h; exact ⟨rfl, rfl⟩

theorem copyStep_ok {ρ ω} {ri : RImpl ρ} {wi : WImpl ω} {r r' : ρ} {w w' : ω} {k : Nat}
    (h : copyStep ri wi r w k = .ok (r', w')) :
    ∃ v x, ri.readBits r k = .ok (v, r') ∧ wi.writeBits w v k = .ok (x, w') := by
  rw [copyStep_bind] at h
  obtain ⟨⟨v, r1⟩, h1, h2⟩ := Res.bind_eq_ok.1 h
  obtain ⟨⟨x, w1⟩, h3, h4⟩ := Res.bind_eq_ok.1 h2
  cases h4
  exact ⟨v, x, h1, h3⟩

/-- what every chunk read preserves, relative to the number of bits still to copy, holds at the
    end of the generic loop with nothing left to copy -/
theorem copyGeneric_inv {ρ ω} {ri : RImpl ρ} {wi : WImpl ω} (I : ρ → Nat → Prop)
    (hstep : ∀ {r n k v r'}, I r n → k ≤ n → ri.readBits r k = .ok (v, r') → I r' (n - k)) :
    ∀ (fuel : Nat) {r r' : ρ} {w w' : ω} {n : Nat}, I r n →
      copyGeneric ri wi fuel r w n = .ok (r', w') → I r' 0 := by
  intro fuel
  induction fuel with
  | zero =>
    intro r r' w w' n hI h
    rw [copyGeneric] at h
    split at h
    · cases h; subst n; exact hI
    · cases h
  | succ fuel ih =>
    intro r r' w w' n hI h
    rw [copyGeneric_succ] at h
    split at h
    · cases h; subst n; exact hI
    · obtain ⟨p, hs, hrest⟩ := Res.bind_eq_ok.1 h
      obtain ⟨v, _, hr, _⟩ := copyStep_ok (r' := p.1) (w' := p.2) hs
      exact ih (hstep hI (Nat.min_le_left _ _) hr) hrest

theorem copyGeneric_buffered {ω} (e : Endian) (wi : WImpl ω) (fuel : Nat) (s s1 : BufR W)
    (w w1 : ω) (fb : Nat) (hfb : fb ≤ s.bib)
    (h : copyGeneric (BufR.impl e) wi fuel s w fb = .ok (s1, w1)) :
    s1.back = s.back ∧ s1.bib = s.bib - fb := by
  -- with `m` bits of the `fb` still to copy the buffer holds `m` bits more than at the end
  exact copyGeneric_inv (fun (x : BufR W) m => x.back = s.back ∧ x.bib = s.bib - fb + m)
    (fun {x m k v x'} hI hk hr => by
      obtain ⟨hb1, hb2⟩ := readBits_buffered e (hI.2 ▸ Nat.le_trans hk (Nat.le_add_left _ _)) hr
      exact ⟨hb1.trans hI.1, by rw [hb2, hI.2, Nat.add_sub_assoc hk]⟩)
    fuel ⟨rfl, (Nat.sub_add_cancel hfb).symm⟩ h

/-- the reference reader sits at the backend's word position (an empty buffer) -/
structure BackRel (e : Endian) (m : MemR W) (r : RefR) : Prop where
  he      : r.e = e
  hstrict : r.strict = m.strict
  hpm     : r.peekMax = W
  hstream : r.stream = m.data.flatMap (wordBits e)
  hpos    : r.pos = m.pos * W
  hstr    : m.strict = true → m.pos ≤ m.data.length

theorem BackRel.of_rel {e : Endian} {s : BufR W} {r : RefR} (h : BufR.Rel e s r) (h0 : s.bib = 0) :
    BackRel e s.back r := by
  obtain ⟨_, _, h3, h4, h5, h6, h7, h8, _⟩ := h
  exact ⟨h3, h4, h5, h6, by rw [← h7, h0, Nat.add_zero], h8⟩

theorem BackRel.word {e : Endian} {m : MemR W} {r : RefR} (h : BackRel e m r) :
    takeZ W r.rest = wordBits e (m.data.getD m.pos 0) := by
  apply list_eq_of_bitZ (by simp)
  intro i hi
  have hi' : i < W := by simpa using hi
  rw [bitZ_takeZ, RefR.rest, bitZ_drop, h.hstream, h.hpos, bitZ_flatMap_word _ _ _ _ hi']
  simp [hi']

theorem BackRel.in_range {e : Endian} {m : MemR W} {r : RefR} (h : BackRel e m r) {k : Nat}
    (hk : 0 < k) (hav : r.avail k = true) : m.strict = true → m.pos < m.data.length := by
  intro hs
  have hs' : r.strict = true := by rw [h.hstrict]; exact hs
  unfold RefR.avail at hav
  rw [hs'] at hav
  simp only [Bool.not_true, Bool.false_or, decide_eq_true_eq] at hav
  rw [h.hstream, length_flatMap_wordBits, h.hpos] at hav
  exact Nat.lt_of_mul_lt_mul_right (Nat.lt_of_lt_of_le (Nat.lt_add_of_pos_right hk) hav)

theorem BackRel.advance {e : Endian} {m : MemR W} {r : RefR} (h : BackRel e m r)
    (hlt : m.strict = true → m.pos < m.data.length) :
    BackRel e { m with pos := m.pos + 1 } { r with pos := r.pos + W } := by
  refine ⟨h.he, h.hstrict, h.hpm, h.hstream, ?_, ?_⟩
  · show r.pos + W = (m.pos + 1) * W
    rw [Nat.succ_mul, h.hpos]
  · intro hs
    exact hlt hs

theorem word_val {w : BitVec W} (hW : W ≤ 64) : (w.setWidth 64).toNat = w.toNat := by
  rw [BitVec.toNat_setWidth]
  exact Nat.mod_eq_of_lt (Nat.lt_of_lt_of_le w.isLt (Nat.pow_le_pow_right (by decide) hW))

theorem copyWords_succ {ω} (wi : WImpl ω) (fuel : Nat) (m : MemR W) (w : ω) (n : Nat) :
    BufR.copyWords wi (fuel + 1) m w n =
      if n > W then m.readWord.bind fun p =>
        (wi.writeBits w (p.1.setWidth 64).toNat W).bind fun q =>
          BufR.copyWords wi fuel p.2 q.2 (n - W)
      else .ok (m, w, n) := by
  rw [BufR.copyWords]
  split
  · cases m.readWord with
    | ok p =>
      obtain ⟨word, m'⟩ := p
      rw [Res.bind_ok]
      dsimp only
      cases wi.writeBits w (word.setWidth 64).toNat W <;> rfl
    | _ => rfl
  · rfl

theorem copyWords_stop {ω} (wi : WImpl ω) (fuel : Nat) (m : MemR W) (w : ω) {n : Nat} (h : n ≤ W) :
    BufR.copyWords wi fuel m w n = .ok (m, w, n) := by
  cases fuel with
  | zero => rfl
  | succ fuel => rw [copyWords_succ, if_neg (Nat.not_lt.2 h)]

/-- the word loop as a stage: left with `j` whole words and `0 < n' ≤ W` more bits to copy, it
    copies the `j` words and stops at the backend's next word -/
theorem copyWords_sim {ω} {wi : WImpl ω} {Q : ω → RefW → Prop} (hw : WSim wi Q) {e : Endian}
    (hW : W ≤ 64) {n' : Nat} (hn0 : 0 < n') (hnW : n' ≤ W) :
    ∀ (j fuel : Nat) (m : MemR W) (t : ω) (r : RefR) (w : RefW),
      BackRel e m r → Q t w → w.e = e → w.fits w.bits = true → r.avail (j * W + n') = true →
      j ≤ fuel →
      ResRel (fun a b => a.2.2 = n' ∧ BackRel e a.1 b.1 ∧ Q a.2.1 b.2)
        (BufR.copyWords wi fuel m t (j * W + n')) (refCopy r w (j * W)) := by
  intro j
  induction j with
  | zero =>
    intro fuel m t r w hB hQ _ hfit hav _
    rw [Nat.zero_mul, Nat.zero_add, copyWords_stop wi fuel m t hnW,
      refCopy_zero r w (avail_mono r (Nat.zero_le _) hav) hfit]
    exact ⟨rfl, hB, hQ⟩
  | succ j ih =>
    intro fuel m t r w hB hQ hwe hfit hav hfuel
    obtain ⟨fuel, rfl⟩ := Nat.exists_eq_succ_of_ne_zero (Nat.ne_of_gt (Nat.lt_of_lt_of_le (Nat.succ_pos j) hfuel))
    rw [Nat.succ_mul, Nat.add_comm (j * W) W, Nat.add_assoc] at hav ⊢
    have havW := avail_mono r (Nat.le_add_right W _) hav
    have hrange := hB.in_range (Nat.lt_of_lt_of_le hn0 hnW) havW
    rw [copyWords_succ, if_pos (Nat.lt_add_of_pos_right (Nat.add_pos_right _ hn0)),
      MemR.readWord_ok m hrange, Res.bind_ok, Nat.add_sub_cancel_left]
    refine ResRel.seqCopy (write_stage hw hQ hW (hwe.trans hB.he.symm) havW (.inr ?_) ?_) ?_
    · rw [word_val hW]
      exact Nat.lt_of_le_of_lt (Nat.mod_le _ _) (BitVec.isLt _)
    · rw [word_val hW, hB.word, hB.he]; rfl
    · intro a q _ hq hS
      obtain ⟨hq1, hwe1, -, hfit1, -⟩ := refCopy_ok_facts (r' := q.1) (w' := q.2) hq
      refine ih fuel _ a.2 q.1 q.2 ?_ hS.2 (hwe1.trans hwe) hfit1 ?_ (Nat.le_of_succ_le_succ hfuel)
      · rw [hq1]; exact hB.advance hrange
      · rw [hq1, avail_advance]; exact hav

theorem BackRel.take {e : Endian} {m : MemR W} {r : RefR} (h : BackRel e m r) {n : Nat}
    (hn : n ≤ W) : takeZ n r.rest = takeZ n (wordBits e (m.data.getD m.pos 0)) := by
  have h2 := takeZ_add n (W - n) r.rest
  rw [Nat.add_sub_cancel' hn] at h2
  rw [← h.word, h2, takeZ_append_left _ _ n (takeZ_length n _)]

theorem tail_bits_be (word : BitVec W) {n : Nat} (hn : n ≤ W) :
    takeZ n (wordBits .be word) = fieldBits .be (word.toNat / 2 ^ (W - n)) n := by
  unfold wordBits
  rw [fieldBE_cut word.toNat (n := W) (b := W - n) (Nat.sub_le W n), Nat.sub_sub_self hn,
    takeZ_append_left _ _ n (fieldBits_length .be _ n)]

theorem tail_bits_le (word : BitVec W) {n : Nat} (hn : n ≤ W) :
    takeZ n (wordBits .le word) = fieldBits .le word.toNat n := by
  unfold wordBits
  simp only [fieldBits]
  rw [fieldLE_cut word.toNat (n := W) (a := n) hn, takeZ_append_left _ _ n (by simp)]

theorem tail_val_be (word : BitVec W) {n : Nat} (hW : W ≤ 64) :
    ((word >>> (W - n)).setWidth 64).toNat = word.toNat / 2 ^ (W - n) := by
  rw [word_val hW, BitVec.toNat_ushiftRight, Nat.shiftRight_eq_div_pow]

theorem tail_lt_be (word : BitVec W) {n : Nat} (hn : n ≤ W) : word.toNat / 2 ^ (W - n) < 2 ^ n := by
  apply Nat.div_lt_of_lt_mul
  rw [← Nat.pow_add, Nat.sub_add_cancel hn]
  exact word.isLt

/-- the value the LE tail hands to `write_bits` -/
def tailLE (checks : Bool) (word : BitVec W) (n : Nat) : BitVec 64 :=
  if checks && decide (n < 64) then word.setWidth 64 &&& (((1 : BitVec 64) <<< n) - 1)
  else word.setWidth 64

theorem tailLE_testBit (checks : Bool) (word : BitVec W) {n i : Nat} (hn : n ≤ 64) (hi : i < n) :
    (tailLE checks word n).toNat.testBit i = word.toNat.testBit i := by
  unfold tailLE
  split
  · rename_i h
    simp only [Bool.and_eq_true, decide_eq_true_eq] at h
    rw [BitVec.testBit_toNat, BitVec.getLsbD_and, getLsbD_mask h.2, BitVec.getLsbD_setWidth,
      BitVec.testBit_toNat]
    simp [hi, Nat.lt_of_lt_of_le hi hn]
  · rw [BitVec.testBit_toNat, BitVec.getLsbD_setWidth, BitVec.testBit_toNat]
    simp [Nat.lt_of_lt_of_le hi hn]

theorem tailLE_clean (word : BitVec W) {n : Nat} (hn : n ≤ 64) :
    (tailLE true word n).toNat % 2 ^ 64 < 2 ^ n := by
  rw [Nat.mod_eq_of_lt (BitVec.isLt _)]
  by_cases h64 : n < 64
  · apply Nat.lt_pow_two_of_testBit
    intro i hi
    unfold tailLE
    simp only [Bool.true_and, h64, decide_true, if_true]
    rw [BitVec.testBit_toNat, BitVec.getLsbD_and, getLsbD_mask h64]
    simp [Nat.not_lt.2 hi]
  · obtain rfl : n = 64 := Nat.le_antisymm hn (Nat.not_lt.1 h64)
    exact BitVec.isLt _

theorem tail_buffer_be (word : BitVec W) {n : Nat} (hn0 : 0 < n) (hn : n ≤ W) :
    (word.setWidth (2 * W) <<< (2 * W - (W - n) - 1)) <<< 1 = word.setWidth (2 * W) <<< (W + n) := by
  have e : 2 * W - (W - n) - 1 + 1 = W + n := by
    rw [Nat.two_mul, Nat.add_sub_assoc (Nat.sub_le W n), Nat.sub_sub_self hn,
      Nat.sub_add_cancel (Nat.le_trans hn0 (Nat.le_add_left n W))]
  rw [← BitVec.shiftLeft_add, e]

/-- `copy_to`'s tail: the word split between the writer and the reader's buffer -/
def copyTail {ω} (e : Endian) (checks : Bool) (wi : WImpl ω) (back : MemR W) (w2 : ω) (n : Nat) :
    Res (BufR W × ω) :=
  back.readWord.bind fun p =>
    (wi.writeBits w2
      (match e with
        | .be => (p.1 >>> (W - n)).setWidth 64
        | .le => tailLE checks p.1 n).toNat n).bind fun q =>
    .ok ({ buffer := (match e with
            | .be => (p.1.setWidth (2 * W) <<< (2 * W - (W - n) - 1)) <<< 1
            | .le => p.1.setWidth (2 * W) >>> n),
           bib := W - n, back := p.2 }, q.2)

theorem copyTo_bind {ω} (e : Endian) (checks : Bool) (wi : WImpl ω) (s : BufR W) (w : ω) (n : Nat) :
    BufR.copyTo e checks wi s w n =
      (BufR.copyBuffered e wi (min n s.bib) s w (min n s.bib)).bind fun p =>
        if n - min n s.bib = 0 then .ok p
        else (BufR.copyWords wi (n - min n s.bib) p.1.back p.2 (n - min n s.bib)).bind fun q =>
          copyTail e checks wi q.1 q.2.1 q.2.2 := by
  rw [BufR.copyTo]
  cases BufR.copyBuffered e wi (min n s.bib) s w (min n s.bib) with
  | ok p =>
    obtain ⟨s1, w1⟩ := p
    rw [Res.bind_ok]
    dsimp only
    split
    · rfl
    · cases BufR.copyWords wi (n - min n s.bib) s1.back w1 (n - min n s.bib) with
      | ok q =>
        obtain ⟨back, w2, n'⟩ := q
        rw [Res.bind_ok, copyTail]
        dsimp only
        cases back.readWord with
        | ok x =>
          obtain ⟨word, back'⟩ := x
          rw [Res.bind_ok]
          cases e <;> dsimp only [tailLE] <;> cases wi.writeBits w2 _ n' <;> rfl
        | _ => rfl
      | _ => rfl
  | _ => rfl

theorem copyTail_sim {ω} {wi : WImpl ω} {Q : ω → RefW → Prop} (hw : WSim wi Q) {e : Endian}
    (checks : Bool) (hW0 : 0 < W) (hW : W ≤ 64) {m : MemR W} {t : ω} {r : RefR} {w : RefW}
    {n : Nat} (hB : BackRel e m r) (hQ : Q t w) (hwe : w.e = e)
    (hck : e = .le → w.checks = true → checks = true) (hn0 : 0 < n) (hnW : n ≤ W)
    (hav : r.avail n = true) :
    ResRel (PQ (BufR.Rel e) Q) (copyTail e checks wi m t n) (refCopy r w n) := by
  have hrange := hB.in_range hn0 hav
  have hBe := hB.he
  have hn64 : n ≤ 64 := Nat.le_trans hnW hW
  have hpos : r.pos + n = m.pos * W + n := by rw [hB.hpos]
  rw [copyTail, MemR.readWord_ok m hrange, Res.bind_ok]
  cases e with
  | be =>
    dsimp only
    rw [tail_buffer_be _ hn0 hnW, refCopy_of_write r w n _ hn64 (hwe.trans hBe.symm) hav (.inr ?_) ?_]
    · exact (hw t w _ n hQ).bind fun _ _ h => ⟨(rel_be_iff _ _).2 (relBE_after_word hW0 m n _ hBe
        hB.hstrict hB.hpm hB.hstream hpos hnW hrange), h⟩
    · rw [tail_val_be _ hW]
      exact Nat.lt_of_le_of_lt (Nat.mod_le _ _) (tail_lt_be _ hnW)
    · rw [tail_val_be _ hW, hB.take hnW, hBe, tail_bits_be _ hnW]
  | le =>
    dsimp only
    rw [refCopy_of_write r w n _ hn64 (hwe.trans hBe.symm) hav ?_ ?_]
    · exact (hw t w _ n hQ).bind fun _ _ h => ⟨(rel_le_iff _ _).2 (relLE_after_word hW0 m n _ hBe
        hB.hstrict hB.hpm hB.hstream hpos hnW hrange), h⟩
    · cases hc : checks with
      | false =>
        left
        cases hwc : w.checks with
        | false => rfl
        | true => rw [hck rfl hwc] at hc; cases hc
      | true => right; exact tailLE_clean _ hn64
    · rw [hB.take hnW, hBe, tail_bits_le _ hnW]
      exact fieldBits_congr_wr .le (fun i hi => tailLE_testBit checks _ hn64 hi)

theorem words_and_tail {W rest : Nat} (hW : 0 < W) (h : rest ≠ 0) :
    ∃ j n', rest = j * W + n' ∧ 0 < n' ∧ n' ≤ W ∧ j ≤ rest := by
  have hdm := Nat.div_add_mod (rest - 1) W
  refine ⟨(rest - 1) / W, (rest - 1) % W + 1, ?_, Nat.succ_pos _, Nat.mod_lt _ hW, ?_⟩
  · rw [← Nat.add_assoc, Nat.mul_comm, hdm, Nat.sub_add_cancel (Nat.pos_of_ne_zero h)]
  · exact Nat.le_trans (Nat.le_mul_of_pos_left _ hW)
      (Nat.le_trans (Nat.le_add_right _ _) (hdm ▸ Nat.sub_le rest 1))

/-- **`BufBitReader::copy_to`** writing through any simulating writer `wi`: it moves the reader's
    next `n` bits.  `W ≤ 64` is needed (the word loop calls `write_bits(word, W)`); the LE tail is
    handed over unmasked unless `checks`, so a checking writer needs `checks = true`. -/
theorem copyTo_sim_gen {ω} {wi : WImpl ω} {Q : ω → RefW → Prop} (hw : WSim wi Q) {e : Endian}
    (checks : Bool) (hW : W ≤ 64) {s : BufR W} {r : RefR} {t : ω} {w : RefW} {n : Nat}
    (hP : BufR.Rel e s r) (hQ : Q t w) (hwe : w.e = e) (hfit : w.fits w.bits = true)
    (hck : e = .le → w.checks = true → checks = true) (hav : r.avail n = true) :
    ResRel (PQ (BufR.Rel e) Q) (BufR.copyTo e checks wi s t n) (refCopy r w n) := by
  have hW0 : 0 < W := Rel.pos_W hP
  rw [copyTo_bind]
  -- `n = fb + rest`: the buffered bits; then, if anything is left, whole words and the split word
  have hfb : min n s.bib ≤ s.bib := Nat.min_le_right _ _
  have hfull : n - min n s.bib ≠ 0 → s.bib - min n s.bib = 0 := by omega
  obtain ⟨rest, hn⟩ := Nat.exists_eq_add_of_le (Nat.min_le_left n s.bib)
  generalize min n s.bib = fb at hfb hfull hn
  subst hn
  rw [Nat.add_sub_cancel_left, copyBuffered_eq] at *
  refine ResRel.seqCopy (copyGeneric_stage (rsim_bufR fun _ => hW) hw hP hQ (hwe.trans hP.2.2.1.symm)
    hfit (avail_mono r (Nat.le_add_right _ _) hav) (Nat.le_mul_of_pos_left fb (by decide))) ?_
  intro p q hp hq hS
  obtain ⟨hq1, hwe1, hck1, hfit1, -⟩ := refCopy_ok_facts (r' := q.1) (w' := q.2) hq
  have hav1 : q.1.avail rest = true := by rw [hq1, avail_advance]; exact hav
  split
  · rename_i h0
    rw [h0, refCopy_zero q.1 q.2 (avail_mono _ (Nat.zero_le _) hav1) hfit1]
    exact hS
  · rename_i h0
    have hB1 : BackRel e p.1.back q.1 := BackRel.of_rel hS.1
      ((copyGeneric_buffered e wi fb s p.1 t p.2 fb hfb hp).2.trans (hfull h0))
    obtain ⟨j, n', rfl, hn0, hnW, hj⟩ := words_and_tail hW0 h0
    have hwe2 : q.2.e = e := hwe1.trans hwe
    refine ResRel.seqCopy (copyWords_sim hw hW hn0 hnW j _ _ _ _ _ hB1 hS.2 hwe2 hfit1 hav1 hj) ?_
    intro a b _ hb hS2
    obtain ⟨hb1, hwe3, hck3, -, -⟩ := refCopy_ok_facts (r' := b.1) (w' := b.2) hb
    rw [hS2.1]
    exact copyTail_sim hw checks hW0 hW hS2.2.1 hS2.2.2 (hwe3.trans hwe2)
      (fun hle hwc => hck hle (by rw [← hck1, ← hck3]; exact hwc)) hn0 hnW
      (by rw [hb1, avail_advance]; exact hav1)

end CopyL
end Dsi
