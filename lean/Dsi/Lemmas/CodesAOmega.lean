/-
  Elias ω: the block structure of the codeword against the recursive writer and the
  iterative reader.
-/
import Dsi.Lemmas.CodesACodes
namespace Dsi

theorem omegaBlock_be {m : Nat} (h0 : m ≠ 0) :
    Spec.omegaBlock .be m = true :: fieldBits .be m m.log2 := by
  simp [Spec.omegaBlock, fieldBits, fieldLE_succ_last, div_pow_log2 h0]

theorem omegaBlock_le_eq_field (m : Nat) :
    Spec.omegaBlock .le m = fieldBits .le (2 * m + 1) (m.log2 + 1) := by
  show _ = ((2 * m + 1) % 2 == 1) :: fieldLE ((2 * m + 1) / 2) m.log2
  rw [Nat.mul_add_mod, Nat.mul_add_div (by decide)]
  rfl

theorem omegaBlock_cons (e : Endian) {m : Nat} (h0 : m ≠ 0) :
    Spec.omegaBlock e m = true :: fieldBits e m m.log2 := by
  cases e
  · exact omegaBlock_be h0
  · rfl

@[simp] theorem omegaBlock_length (e : Endian) (m : Nat) :
    (Spec.omegaBlock e m).length = m.log2 + 1 := by
  cases e <;> simp [Spec.omegaBlock]

/-- undoing the rotation: `(v >> 1)` of the `λ+1` low bits of `(m << 1) | 1` -/
theorem rot_mod_div (m P : Nat) : (2 * m + 1) % (2 * P) / 2 = m % P := by
  rw [two_mul_add_one_mod, Nat.mul_add_div (by decide)]
  rfl

theorem omegaBlock_val (e : Endian) {m : Nat} (h0 : m ≠ 0) :
    (match e with
      | .be => bitsVal e (Spec.omegaBlock e m)
      | .le => bitsVal e (Spec.omegaBlock e m) / 2 + 2 ^ m.log2) = m := by
  cases e
  · exact (bitsVal_fieldBits ..).trans (Nat.mod_eq_of_lt Nat.lt_log2_self)
  · show bitsVal .le (Spec.omegaBlock .le m) / 2 + 2 ^ m.log2 = m
    rw [omegaBlock_le_eq_field, bitsVal_fieldBits, Nat.pow_succ, Nat.mul_comm (2 ^ m.log2) 2, rot_mod_div,
      mod_pow_log2_add h0]

/-- the rotated word handed to `write_bits` on LE streams -/
theorem omega_le_word_ok (checks : Bool) {m : Nat} (h : m < 2 ^ 64) :
    FieldArg checks
      (if checks then (2 * m + 1) % 2 ^ 64 % 2 ^ (m.log2 + 1) else (2 * m + 1) % 2 ^ 64)
      (m.log2 + 1) (2 * m + 1) :=
  (FieldArg.masked checks _ _).congr
    (Nat.mod_mod_of_dvd _ (Nat.pow_dvd_pow 2 (log2_lt_64 h)))

theorem omegaWriteRec_writes (e : Endian) (checks : Bool) (fuel : Nat) :
    ∀ (m : Nat), m < 2 ^ 64 →
      Writes (omegaWriteRec e checks fuel m) e checks (Spec.omegaBlocks e fuel m) := by
  induction fuel with
  | zero => exact fun m _ => Writes.ofV (WritesV.ret e checks 0) rfl
  | succ fuel ih =>
    intro m h
    unfold omegaWriteRec Spec.omegaBlocks
    by_cases hm : m ≤ 1
    · rw [if_pos hm, if_pos hm]; exact Writes.ofV (WritesV.ret e checks 0) rfl
    · rw [if_neg hm, if_neg hm]
      have hl := log2_lt_64 h
      have ih := ih m.log2 (Nat.lt_trans hl (by decide))
      cases e
      · exact Writes.then_bits ih hl (FieldArg.of_lt checks Nat.lt_log2_self)
      · rw [omegaBlock_le_eq_field]
        exact Writes.then_bits ih hl (omega_le_word_ok checks h)

theorem omegaLenRec_eq (e : Endian) (fuel : Nat) :
    ∀ (m : Nat), omegaLenRec fuel m = (Spec.omegaBlocks e fuel m).length + 1 := by
  induction fuel with
  | zero => exact fun m => rfl
  | succ fuel ih =>
    intro m
    unfold omegaLenRec Spec.omegaBlocks
    by_cases hm : m ≤ 1
    · rw [if_pos hm, if_pos hm]; rfl
    · rw [if_neg hm, if_neg hm, ih m.log2, List.length_append, omegaBlock_length]
      omega

/-- reading one block: the reader holds `λ = ⌊log₂ m⌋`, sees a one, reads `λ+1` bits, and goes
    on holding `m` -/
theorem omega_block_reads (e : Endian) {m fr : Nat} (h0 : m ≠ 0) (h : m < 2 ^ 64)
    {rest : List Bool} {c : Nat} (hr : Reads (omegaReadLoop e fr m) e rest c) :
    Reads (omegaReadLoop e (fr + 1) m.log2) e (Spec.omegaBlock e m ++ rest) c := by
  have hl := log2_lt_64 h
  unfold omegaReadLoop
  have hc := omegaBlock_cons e h0
  have hpeek : ∀ k, Reads (k (.ok (if true then 1 else 0))) e (Spec.omegaBlock e m ++ rest) c →
      Reads (.peek 1 k) e (Spec.omegaBlock e m ++ rest) c := by
    intro k hk
    rw [hc, List.cons_append] at hk ⊢
    exact Reads.peek1 hk
  apply hpeek
  simp only [if_true]
  rw [if_neg (by decide), if_neg (by omega)]
  refine Reads.readBits_chunk (by omega) (omegaBlock_length e m) ?_
  have hv := omegaBlock_val e h0
  cases e
  · simp only at hv ⊢; rw [hv]; exact hr
  · simp only at hv ⊢; rw [hv]; exact hr

theorem omega_end_reads (e : Endian) (fr m : Nat) :
    Reads (omegaReadLoop e (fr + 1) m) e [false] (m - 1) := by
  unfold omegaReadLoop
  apply Reads.peek1
  simp only [Bool.false_eq_true, if_false, if_true]
  exact Reads.skipAfterPeek1 (Reads.ret e (m - 1))

/-- iterating `log2` from `m` reaches `≤ 1` within `fuel` steps -/
def omegaDone : Nat → Nat → Prop
  | 0, m => m ≤ 1
  | fuel + 1, m => m ≤ 1 ∨ omegaDone fuel m.log2

theorem omegaDone_of_le_one : ∀ (fuel : Nat) {m : Nat}, m ≤ 1 → omegaDone fuel m
  | 0, _, h => h
  | _ + 1, _, h => Or.inl h

/-- four steps are enough below `2^64`: `m → ≤ 63 → ≤ 5 → ≤ 2 → ≤ 1` -/
theorem omegaDone_of_lt {m : Nat} (h : m < 2 ^ 64) (fuel : Nat) : omegaDone (fuel + 4) m := by
  have h1 : m.log2 < 2 ^ 6 := log2_lt_64 h
  have h2 : m.log2.log2 < 2 ^ 3 := Nat.lt_trans (log2_lt_of_lt (by decide) h1) (by decide)
  have h3 : m.log2.log2.log2 < 2 ^ 2 := Nat.lt_trans (log2_lt_of_lt (by decide) h2) (by decide)
  have h4 : m.log2.log2.log2.log2 < 2 := log2_lt_of_lt (by decide) h3
  exact Or.inr (Or.inr (Or.inr (Or.inr (omegaDone_of_le_one fuel (by omega)))))

theorem omegaBlocks_of_le_one (e : Endian) : ∀ (fuel : Nat) {m : Nat}, m ≤ 1 →
    Spec.omegaBlocks e fuel m = []
  | 0, _, _ => rfl
  | _ + 1, _, h => by unfold Spec.omegaBlocks; rw [if_pos h]

/-- reading all the blocks of `m`: `fb` bounds their number, the codeword may have been built
    with any fuel `fb' ≥ fb`, and the reader needs `fb` iterations more than what follows -/
theorem omega_blocks_read (e : Endian) (fb : Nat) :
    ∀ (m : Nat), m ≠ 0 → m < 2 ^ 64 → omegaDone fb m →
      ∀ (fb' : Nat), fb ≤ fb' → ∀ (j : Nat) (rest : List Bool) (c : Nat),
        (∀ fr, j ≤ fr → Reads (omegaReadLoop e fr m) e rest c) →
        ∀ fr, j + fb ≤ fr → Reads (omegaReadLoop e fr 1) e (Spec.omegaBlocks e fb' m ++ rest) c := by
  have base : ∀ (fb m : Nat), m ≠ 0 → m ≤ 1 → ∀ (fb' j : Nat) (rest : List Bool) (c : Nat),
      (∀ fr, j ≤ fr → Reads (omegaReadLoop e fr m) e rest c) →
      ∀ fr, j + fb ≤ fr → Reads (omegaReadLoop e fr 1) e (Spec.omegaBlocks e fb' m ++ rest) c := by
    intro fb m h0 hm fb' j rest c hr fr hfr
    obtain rfl : m = 1 := Nat.le_antisymm hm (Nat.pos_of_ne_zero h0)
    rw [omegaBlocks_of_le_one e fb' hm]
    exact hr fr (Nat.le_trans (Nat.le_add_right _ _) hfr)
  induction fb with
  | zero => exact fun m h0 _ hd fb' _ => base 0 m h0 hd fb'
  | succ fb ih =>
    intro m h0 h hd fb' hfb j rest c hr fr hfr
    by_cases hm : m ≤ 1
    · exact base _ m h0 hm fb' j rest c hr fr hfr
    · obtain ⟨fb'', rfl⟩ := Nat.exists_eq_succ_of_ne_zero (Nat.ne_of_gt (Nat.lt_of_lt_of_le fb.succ_pos hfb))
      rw [Spec.omegaBlocks, if_neg hm, List.append_assoc]
      have hl0 : m.log2 ≠ 0 := fun h' => hm (by
        have := @Nat.lt_log2_self m; rw [h'] at this; exact Nat.le_of_lt_succ this)
      refine ih m.log2 hl0 (Nat.lt_trans (log2_lt_64 h) (by decide)) (hd.resolve_left hm) fb''
        (Nat.le_of_succ_le_succ hfb) (j + 1) _ c ?_ fr (by rwa [Nat.add_right_comm])
      intro fr' hfr'
      obtain ⟨fr'', rfl⟩ := Nat.exists_eq_succ_of_ne_zero (Nat.ne_of_gt (Nat.lt_of_lt_of_le j.succ_pos hfr'))
      exact omega_block_reads e h0 h (hr fr'' (Nat.le_of_succ_le_succ hfr'))

end Dsi
