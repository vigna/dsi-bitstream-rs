/-
  Headline2, C14: the counting wrappers assembled from the generated bodies
  (lean/Dsi/Gen/CountBodies.lean) and the lifting of `WAgree` / `RAgree` through them.
-/
import Dsi.Props.CountGen
import Dsi.Lemmas.Headline2CongrW
import Dsi.Lemmas.Headline2CongrR
namespace Dsi
namespace Headline2

/-- `impl BitWrite<E> for CountBitWriter<E, BW, PRINT>`, from the translated bodies -/
def genCountWImpl {ω : Type} (wi : WImpl ω) (PRINT : Bool) : WImpl (CountW ω) :=
  { writeBits := Gen.CountBitWriter.write_bits wi PRINT,
    writeUnary := Gen.CountBitWriter.write_unary wi PRINT,
    flush := Gen.CountBitWriter.flush wi PRINT }

/-- `impl BitRead<E> for CountBitReader<E, BR, PRINT>`, from the translated bodies -/
def genCountRImpl {ρ : Type} (ri : RImpl ρ) (PRINT : Bool) : RImpl (CountR ρ) :=
  { readBits := Gen.CountBitReader.read_bits ri PRINT,
    peekBits := Gen.CountBitReader.peek_bits ri PRINT,
    skipAfterPeek := Gen.CountBitReader.skip_bits_after_peek ri PRINT,
    skipBits := Gen.CountBitReader.skip_bits ri PRINT,
    readUnary := Gen.CountBitReader.read_unary ri PRINT }

theorem genCountWImpl_eq {ω : Type} (wi : WImpl ω) (P : Bool) : genCountWImpl wi P = CountW.impl wi := by
  unfold genCountWImpl CountW.impl
  congr 1
  all_goals first
    | (funext s v n; exact CountGen.write_bits_eq wi P s v n)
    | (funext s x; exact CountGen.write_unary_eq wi P s x)
    | (funext s; exact CountGen.flush_eq wi P s)

theorem genCountRImpl_eq {ρ : Type} (ri : RImpl ρ) (P : Bool) : genCountRImpl ri P = CountR.impl ri := by
  unfold genCountRImpl CountR.impl
  congr 1
  all_goals first
    | (funext s n; exact CountGen.read_bits_eq ri P s n)
    | (funext s n; exact CountGen.peek_bits_eq ri P s n)
    | (funext s n; exact CountGen.skip_bits_eq ri P s n)
    | (funext s; exact CountGen.read_unary_eq ri P s)

theorem agree_map {α β : Type} (f : α → β) {x y : Res α} (h : y = .dpanic ∨ x = y) :
    y.map f = .dpanic ∨ x.map f = y.map f := by
  rcases h with rfl | rfl
  · exact .inl rfl
  · exact .inr rfl

theorem WAgree.count {ω : Type} {I I' : WImpl ω} {J : ω → Prop} (h : WAgree I I' J) :
    WAgree (CountW.impl I) (CountW.impl I') (fun x => J x.inner) where
  writeBits := fun s v n hj =>
    ⟨agree_map _ (h.writeBits s.inner v n hj).1, fun r s' hr => by
      obtain ⟨q, hq, hf⟩ := Res.map_eq_ok.1 hr
      cases hf
      exact (h.writeBits s.inner v n hj).2 _ _ hq⟩
  writeUnary := fun s x hj =>
    ⟨agree_map _ (h.writeUnary s.inner x hj).1, fun r s' hr => by
      obtain ⟨q, hq, hf⟩ := Res.map_eq_ok.1 hr
      cases hf
      exact (h.writeUnary s.inner x hj).2 _ _ hq⟩
  flush := fun s hj =>
    ⟨agree_map _ (h.flush s.inner hj).1, fun r s' hr => by
      obtain ⟨q, hq, hf⟩ := Res.map_eq_ok.1 hr
      cases hf
      exact (h.flush s.inner hj).2 _ _ hq⟩

theorem RAgree.count {ρ : Type} {I I' : RImpl ρ} {J : ρ → Prop} {Wd : Nat} (h : RAgree I I' J Wd) :
    RAgree (CountR.impl I) (CountR.impl I') (fun x => J x.inner) Wd where
  readBits := fun s n hj =>
    ⟨congrArg (Res.map _) (h.readBits s.inner n hj).1, fun v s' hr => by
      obtain ⟨q, hq, hf⟩ := Res.map_eq_ok.1 hr
      cases hf
      exact (h.readBits s.inner n hj).2 _ _ hq⟩
  readUnary := fun s hj =>
    ⟨congrArg (Res.map _) (h.readUnary s.inner hj).1, fun v s' hr => by
      obtain ⟨q, hq, hf⟩ := Res.map_eq_ok.1 hr
      cases hf
      exact (h.readUnary s.inner hj).2 _ _ hq⟩
  peekBits := fun s n hj hn =>
    ⟨congrArg (Res.map _) (h.peekBits s.inner n hj hn).1, fun v s' hr => by
      obtain ⟨q, hq, hf⟩ := Res.map_eq_ok.1 hr
      cases hf
      exact (h.peekBits s.inner n hj hn).2 _ _ hq⟩
  skipAfterPeek := fun s n hj =>
    ⟨congrArg (CountR.mk · _) (h.skipAfterPeek s.inner n hj).1, (h.skipAfterPeek s.inner n hj).2⟩
  skipBits := fun s n hj =>
    ⟨congrArg (Res.map _) (h.skipBits s.inner n hj).1, fun s' hr => by
      obtain ⟨q, hq, hf⟩ := Res.map_eq_ok.1 hr
      cases hf
      exact (h.skipBits s.inner n hj).2 _ hq⟩

end Headline2
end Dsi
