/-
  Bit-list vocabulary for the writer refinement: `fieldLE` / `fieldBits` characterised through
  `Nat.testBit`, cutting and gluing of fields, zeros and the unary code as fields.
-/
import Dsi.Lemmas.SimFrame
import Dsi.Lemmas.CodesABits
import Dsi.Lemmas.ReaderBits
namespace Dsi

theorem getElem_fieldLE (v n i : Nat) (h : i < (fieldLE v n).length) :
    (fieldLE v n)[i] = v.testBit i := by
  induction n generalizing v i with
  | zero => simp at h
  | succ n ih =>
    cases i with
    | zero => simp [fieldLE, Nat.testBit_zero, BEq.beq]
    | succ i =>
      simp only [fieldLE, List.getElem_cons_succ]
      rw [ih, Nat.testBit_succ]

theorem getElem_fieldBE (v n i : Nat) (h : i < (fieldBits .be v n).length) :
    (fieldBits .be v n)[i] = v.testBit (n - 1 - i) := by
  simp only [fieldBits, List.getElem_reverse, getElem_fieldLE, fieldLE_length]

theorem fieldBits_congr_wr (e : Endian) {x y n : Nat} (h : ∀ i, i < n → x.testBit i = y.testBit i) :
    fieldBits e x n = fieldBits e y n := by
  have hle : fieldLE x n = fieldLE y n :=
    List.ext_getElem (by simp) fun i h1 _ => by
      rw [getElem_fieldLE, getElem_fieldLE]
      exact h i (by simpa using h1)
  cases e <;> simp only [fieldBits, hle]

theorem fieldLE_cut (v : Nat) {n a : Nat} (h : a ≤ n) :
    fieldLE v n = fieldLE v a ++ fieldLE (v / 2 ^ a) (n - a) := by
  induction a generalizing v n with
  | zero => rw [Nat.pow_zero, Nat.div_one]; rfl
  | succ a ih =>
    obtain ⟨m, rfl⟩ := Nat.exists_eq_add_one_of_ne_zero (Nat.ne_of_gt (Nat.lt_of_lt_of_le a.succ_pos h))
    rw [fieldLE, fieldLE, ih (v / 2) (Nat.le_of_succ_le_succ h), Nat.div_div_eq_div_mul,
      ← Nat.pow_succ', Nat.add_sub_add_right, List.cons_append]

/-- gluing two LE fields: low part first -/
theorem fieldLE_split {x y z n a b : Nat} (hn : n = a + b)
    (h1 : ∀ i, i < a → x.testBit i = y.testBit i)
    (h2 : ∀ i, i < b → x.testBit (a + i) = z.testBit i) :
    fieldLE x n = fieldLE y a ++ fieldLE z b := by
  subst hn
  rw [fieldLE_cut x (Nat.le_add_right a b), Nat.add_sub_cancel_left,
    show fieldLE x a = fieldLE y a from fieldBits_congr_wr .le h1,
    show fieldLE (x / 2 ^ a) b = fieldLE z b from fieldBits_congr_wr .le fun i hi => by
      rw [Nat.testBit_div_two_pow, Nat.add_comm]; exact h2 i hi]

/-- gluing two BE fields: high part first -/
theorem fieldBE_split {x y z n a b : Nat} (hn : n = a + b)
    (h1 : ∀ i, i < b → x.testBit i = z.testBit i)
    (h2 : ∀ i, i < a → x.testBit (b + i) = y.testBit i) :
    fieldBits .be x n = fieldBits .be y a ++ fieldBits .be z b := by
  simp only [fieldBits]
  rw [← List.reverse_append]
  congr 1
  exact fieldLE_split (by omega) h1 h2

theorem fieldBE_cut (v : Nat) {n b : Nat} (h : b ≤ n) :
    fieldBits .be v n = fieldBits .be (v / 2 ^ b) (n - b) ++ fieldBits .be v b := by
  apply fieldBE_split (by omega) (fun _ _ => rfl)
  intro i _
  rw [Nat.testBit_div_two_pow, Nat.add_comm]

theorem fieldBits_mod (e : Endian) (v : Nat) {n k : Nat} (h : n ≤ k) :
    fieldBits e (v % 2 ^ k) n = fieldBits e v n :=
  fieldBits_congr e (Nat.mod_mod_of_dvd v (Nat.pow_dvd_pow 2 h))

theorem replicate_false_eq (e : Endian) (k : Nat) : List.replicate k false = fieldBits e 0 k := by
  apply List.ext_getElem (by simp)
  intro i h1 h2
  cases e
  · rw [getElem_fieldBE]; simp
  · simp only [fieldBits]; rw [getElem_fieldLE]; simp

theorem unaryBits_add (a b : Nat) : unaryBits (a + b) = List.replicate a false ++ unaryBits b := by
  simp [unaryBits, ← List.replicate_append_replicate]

theorem unaryBits_eq_be (x : Nat) : unaryBits x = fieldBits .be 1 (x + 1) := by
  rw [unaryBits, replicate_false_eq .be,
    fieldBE_split (x := 1) (y := 0) (z := 1) (a := x) (b := 1) rfl (fun _ _ => rfl)]
  · congr 1
  · intro i _
    rw [Nat.zero_testBit, Nat.add_comm, Nat.testBit_succ]; simp

theorem unaryBits_eq_le (x : Nat) : unaryBits x = fieldBits .le (2 ^ x) (x + 1) := by
  rw [unaryBits, replicate_false_eq .le]
  simp only [fieldBits]
  rw [fieldLE_split (x := 2 ^ x) (y := 0) (z := 1) (a := x) (b := 1) rfl]
  · congr 1
  · intro i hi
    rw [Nat.testBit_two_pow, Nat.zero_testBit]; simp; omega
  · intro i hi
    rw [Nat.testBit_two_pow]
    have : i = 0 := by omega
    subst this; simp

end Dsi
